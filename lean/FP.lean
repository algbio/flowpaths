import FP.Model.Antichain
import FP.Model.Basic
import FP.Model.Bottleneck
import FP.Model.C17Json
import FP.Model.Enc.ErrCheck
import FP.Model.Enc.Handlers
import FP.Model.Enc.IgnoreBlock
import FP.Model.Enc.KCover
import FP.Model.Enc.KCoverC
import FP.Model.Enc.KFD
import FP.Model.Enc.KFDC
import FP.Model.Enc.KFDCWitness
import FP.Model.Enc.KLAE
import FP.Model.Enc.KLAEC
import FP.Model.Enc.KMPE
import FP.Model.Enc.KMPEC
import FP.Model.Enc.MEF
import FP.Model.Enc.MGS
import FP.Model.Enc.MSC
import FP.Model.Enc.Parse
import FP.Model.Enc.PathSafety
import FP.Model.Enc.Vars
import FP.Model.Enc.WalkInput
import FP.Model.Enc.WalkSafety
import FP.Model.Euler
import FP.Model.Generated.Aliasing
import FP.Model.Generated.Guards
import FP.Model.Graph
import FP.Model.GreedyShortcut
import FP.Model.GuardEval
import FP.Model.Json
import FP.Model.Lexer
import FP.Model.Literals
import FP.Model.MFD
import FP.Model.NodeExpand
import FP.Model.NodeExpandJson
import FP.Model.NodeExpandModes
import FP.Model.NodeExpandModesCyc
import FP.Model.NodeExpandModesJson
import FP.Model.Parser
import FP.Model.ParserJson
import FP.Model.PathCore
import FP.Model.PathSafetyRows
import FP.Model.Reach
import FP.Model.Round
import FP.Model.SafetyAdj
import FP.Model.SafetyDag
import FP.Model.SafetyDom
import FP.Model.SafetyFix
import FP.Model.SafetyJson
import FP.Model.Search
import FP.Model.Store
import FP.Model.Tables
import FP.Model.TablesJson
import FP.Model.WalkCore
import FP.Model.WalkDecode
import FP.Model.WalkDecodeRound
import FP.Model.WalkSafetyRows
import FP.Model.Width
import FP.Model.Wrapper
import FP.Proofs.Antichain
import FP.Proofs.AntichainMax
import FP.Proofs.Augment
import FP.Proofs.Bottleneck
import FP.Proofs.Optimum
import FP.Proofs.C05Bounds
import FP.Proofs.C05DagFlowSafe
import FP.Proofs.C05DagLayers
import FP.Proofs.C05DagOpt
import FP.Proofs.C05Flow
import FP.Proofs.C05Frag
import FP.Proofs.C05KCoverC
import FP.Proofs.C05KFDC
import FP.Proofs.C05Opt
import FP.Proofs.C05Perm
import FP.Proofs.C05Slots
import FP.Proofs.C06Incompat
import FP.Proofs.C06IncompatCond
import FP.Proofs.C06IncompatExample
import FP.Proofs.C09WalkComplete
import FP.Proofs.C09WalkExample
import FP.Proofs.KCoverC
import FP.Proofs.C10Augment
import FP.Proofs.C10Constraints
import FP.Proofs.C10Example
import FP.Proofs.C10Ignore
import FP.Proofs.C10Subset
import FP.Proofs.C10Witness
import FP.Proofs.C17Example
import FP.Proofs.CondWalkCover
import FP.Proofs.CondWalkCoverGraph
import FP.Proofs.CondWalkCoverLift
import FP.Proofs.CondWalkCoverNames
import FP.Proofs.CondWalkCoverNeeds
import FP.Proofs.Cover
import FP.Proofs.Decomp
import FP.Proofs.DecompBounds
import FP.Proofs.DecompExample
import FP.Proofs.DecompManyPaths
import FP.Proofs.PathCoreComplete
import FP.Proofs.ErrAsg
import FP.Proofs.ErrExample
import FP.Proofs.Euler
import FP.Proofs.EulerClosed
import FP.Proofs.EulerExample
import FP.Proofs.EulerLemmas
import FP.Proofs.FlowCap
import FP.Proofs.FlowCover
import FP.Proofs.FlowDecompExists
import FP.Proofs.FlowLemmas
import FP.Proofs.FlowPeel
import FP.Proofs.GenSetSpec
import FP.Proofs.Greedy
import FP.Proofs.GreedyShortcut
import FP.Proofs.KFD
import FP.Proofs.KFDC
import FP.Proofs.KFDCComplete
import FP.Proofs.KFDCRangeCara
import FP.Proofs.KFDCRangeCons
import FP.Proofs.KFDCRangeInt
import FP.Proofs.KFDCRangeRat
import FP.Proofs.KFDCRangeWalks
import FP.Proofs.KFDCRangeWitness
import FP.Proofs.KFDCScaleWitness
import FP.Proofs.KFDCSearch
import FP.Proofs.KFDCWalks
import FP.Proofs.KLAE
import FP.Proofs.KLAEC
import FP.Proofs.KLAECAsg
import FP.Proofs.KLAECComplete
import FP.Proofs.KLAECExample
import FP.Proofs.KLAEGiven
import FP.Proofs.KLAEGivenExample
import FP.Proofs.KMPE
import FP.Proofs.KMPEC
import FP.Proofs.KMPECComplete
import FP.Proofs.KMPEGiven
import FP.Proofs.KMPEGivenExample
import FP.Proofs.LP
import FP.Proofs.WalkChan
import FP.Proofs.Lexer
import FP.Proofs.Lib
import FP.Proofs.Literals
import FP.Proofs.MEF
import FP.Proofs.MEFBound
import FP.Proofs.MGS
import FP.Proofs.MGSPartitionRangeCut
import FP.Proofs.MGSRange
import FP.Proofs.MSC
import FP.Proofs.MpeFactorsWitness
import FP.Proofs.NodeExpandGraph
import FP.Proofs.NodeExpandKFD
import FP.Proofs.NodeExpandModes
import FP.Proofs.NodeExpandModesCyc
import FP.Proofs.NodeExpandModesCycWitness
import FP.Proofs.NodeExpandStr
import FP.Proofs.Parser
import FP.Proofs.ParserGraph
import FP.Proofs.ParserHeader
import FP.Proofs.PathCore
import FP.Proofs.PathCoreEnc
import FP.Proofs.PathCoreExample
import FP.Proofs.Reach
import FP.Proofs.ReachLemmas
import FP.Proofs.ReachTables
import FP.Proofs.Round
import FP.Proofs.SafetyAdj
import FP.Proofs.SafetyBridges
import FP.Proofs.SafetyDom
import FP.Proofs.SafetyExcess
import FP.Proofs.SafetyFix
import FP.Proofs.SafetyFlow
import FP.Proofs.SafetyGraph
import FP.Proofs.SafetyIdom
import FP.Proofs.SafetyIncompat
import FP.Proofs.SafetyMaxSeq
import FP.Proofs.SafetyPaths
import FP.Proofs.SafetyRestore
import FP.Proofs.WalkEdges
import FP.Proofs.SatCheck
import FP.Proofs.Search
import FP.Proofs.Sweep
import FP.Proofs.STWF
import FP.Proofs.Tables
import FP.Proofs.WalkCore
import FP.Proofs.WalkCoreComplete
import FP.Proofs.WalkCoreEnc
import FP.Proofs.WalkCoreExample
import FP.Proofs.WalkDecodeMult
import FP.Proofs.WalkLemmas
import FP.Proofs.WalkResidual
import FP.Proofs.WalkWitness
import FP.Proofs.Wrapper
import FP.Proofs.WrapperIntProd
import FP.Proofs.WrapperObj
import FP.Proofs.WrapperObjRead
import FP.Proofs.WrapperPiecewise
import FP.Proofs.WrapperState
import FP.Props.C01
import FP.Props.C02
import FP.Props.C03
import FP.Props.C04
import FP.Props.C05
import FP.Props.C06
import FP.Props.C07
import FP.Props.C08
import FP.Props.C09
import FP.Props.C10
import FP.Props.C11
import FP.Props.C12
import FP.Props.C13
import FP.Props.C14
import FP.Props.C15
import FP.Props.C16
import FP.Props.C17
import FP.Props.C18
import FP.Props.C19
import FP.Props.C20
import FP.Spec.Box
import FP.Spec.Cover
import FP.Spec.Decomp
import FP.Spec.ErrGiven
import FP.Spec.ErrModels
import FP.Spec.ErrWalks
import FP.Spec.ErrorFlow
import FP.Spec.GenSet
import FP.Spec.GraphFile
import FP.Spec.Optimum
import FP.Spec.Rejections
import FP.Spec.Routes
import FP.Spec.Safety
import FP.Spec.Substrate
import FP.Spec.Walk
import FP.Spec.WalkDecomp
