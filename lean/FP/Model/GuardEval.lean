import FP.Model.Tables
/-!
# FP.Model.GuardEval — evaluating a class's validation guards on an input descriptor (C19)

An input is abstracted to the finite descriptor `D`: which of the documented violations it contains
(one Boolean per violation flag) and whether it has at least one non-ignored weighted element. The
constructor (and, for the `Min*` wrappers, `solve()`) runs through the guards of the generated table in
source order; the first guard whose flag is set in the descriptor fires and raises `ValueError`.
-/
namespace FP.GuardEval
open FP.Tables

structure D where
  nonStringNode : Bool := false
  cyclicForDag : Bool := false
  noSourceOrSink : Bool := false
  missingWeight : Bool := false
  negativeWeight : Bool := false
  nonConservingFlow : Bool := false
  constraintNotListOfLists : Bool := false
  constraintEmpty : Bool := false
  constraintEdgeAbsent : Bool := false
  constraintNotTuples : Bool := false
  coverageOutOfRange : Bool := false
  coverageLengthOutOfRange : Bool := false
  coverageLengthWithoutLengthAttr : Bool := false
  coverageLengthWithCoverage : Bool := false
  kNonPositive : Bool := false
  kNotInt : Bool := false
  badWeightType : Bool := false
  badOrigin : Bool := false
  unknownStart : Bool := false
  unknownEnd : Bool := false
  scalingOutOfRange : Bool := false
  ignoreWrongShape : Bool := false
  emptyGraph : Bool := false
  hasWeightedElement : Bool := true
deriving DecidableEq, Repr

/-- is the violation `f` present in the input? (`optionConflict`, `other`, `unmapped` guards concern inputs
outside the vocabulary of C19 and never fire on a descriptor) -/
def D.has (d : D) : Flag → Bool
  | .nonStringNode => d.nonStringNode
  | .cyclicForDag => d.cyclicForDag
  | .noSourceOrSink => d.noSourceOrSink
  | .missingWeight => d.missingWeight
  | .negativeWeight => d.negativeWeight
  | .nonConservingFlow => d.nonConservingFlow
  | .constraintNotListOfLists => d.constraintNotListOfLists
  | .constraintEmpty => d.constraintEmpty
  | .constraintEdgeAbsent => d.constraintEdgeAbsent
  | .constraintNotTuples => d.constraintNotTuples
  | .coverageOutOfRange => d.coverageOutOfRange
  | .coverageLengthOutOfRange => d.coverageLengthOutOfRange
  | .coverageLengthWithoutLengthAttr => d.coverageLengthWithoutLengthAttr
  | .coverageLengthWithCoverage => d.coverageLengthWithCoverage
  | .kNonPositive => d.kNonPositive
  | .kNotInt => d.kNotInt
  | .badWeightType => d.badWeightType
  | .badOrigin => d.badOrigin
  | .unknownStart => d.unknownStart
  | .unknownEnd => d.unknownEnd
  | .scalingOutOfRange => d.scalingOutOfRange
  | .ignoreWrongShape => d.ignoreWrongShape
  | .emptyGraph => d.emptyGraph
  | .optionConflict _ => false
  | .other _ => false
  | .unmapped _ => false

def D.anyViolation (d : D) : Bool :=
  d.nonStringNode || d.cyclicForDag || d.noSourceOrSink || d.missingWeight || d.negativeWeight ||
  d.nonConservingFlow || d.constraintNotListOfLists || d.constraintEmpty || d.constraintEdgeAbsent ||
  d.constraintNotTuples || d.coverageOutOfRange || d.coverageLengthOutOfRange ||
  d.coverageLengthWithoutLengthAttr || d.coverageLengthWithCoverage || d.kNonPositive ||
  d.kNotInt || d.badWeightType || d.badOrigin || d.unknownStart || d.unknownEnd || d.scalingOutOfRange ||
  d.ignoreWrongShape || d.emptyGraph

/-- set one violation by its name (driver / tests) -/
def D.set (d : D) : String → D
  | "nonStringNode" => { d with nonStringNode := true }
  | "cyclicForDag" => { d with cyclicForDag := true }
  | "noSourceOrSink" => { d with noSourceOrSink := true }
  | "missingWeight" => { d with missingWeight := true }
  | "negativeWeight" => { d with negativeWeight := true }
  | "nonConservingFlow" => { d with nonConservingFlow := true }
  | "constraintNotListOfLists" => { d with constraintNotListOfLists := true }
  | "constraintEmpty" => { d with constraintEmpty := true }
  | "constraintEdgeAbsent" => { d with constraintEdgeAbsent := true }
  | "constraintNotTuples" => { d with constraintNotTuples := true }
  | "coverageOutOfRange" => { d with coverageOutOfRange := true }
  | "coverageLengthOutOfRange" => { d with coverageLengthOutOfRange := true }
  | "coverageLengthWithoutLengthAttr" => { d with coverageLengthWithoutLengthAttr := true }
  | "coverageLengthWithCoverage" => { d with coverageLengthWithCoverage := true }
  | "kNonPositive" => { d with kNonPositive := true }
  | "kNotInt" => { d with kNotInt := true }
  | "badWeightType" => { d with badWeightType := true }
  | "badOrigin" => { d with badOrigin := true }
  | "unknownStart" => { d with unknownStart := true }
  | "unknownEnd" => { d with unknownEnd := true }
  | "scalingOutOfRange" => { d with scalingOutOfRange := true }
  | "ignoreWrongShape" => { d with ignoreWrongShape := true }
  | "emptyGraph" => { d with emptyGraph := true }
  | "allIgnored" => { d with hasWeightedElement := false }
  | _ => d

def D.ofNames (l : List String) : D := l.foldl D.set {}

inductive Outcome where
  | ok          -- accepted without error
  | valueError  -- rejected as documented
  | other       -- neither: an undocumented exception, or silently accepted / silently unsolved
deriving DecidableEq, Repr

def fires (d : D) (g : Guard) : Bool := d.has g.flag

/-- the guards are evaluated in source order; the first one whose flag is set in `d` raises -/
def outcome (cg : ClassGuards) (d : D) : Outcome :=
  match cg.guards.find? (fires d) with
  | some _ => .valueError
  | none => if d.anyViolation || !d.hasWeightedElement then .other else .ok

def simpleFlags : List Flag :=
  [.nonStringNode, .cyclicForDag, .noSourceOrSink, .missingWeight, .negativeWeight, .nonConservingFlow,
   .constraintNotListOfLists, .constraintEmpty, .constraintEdgeAbsent, .constraintNotTuples, .coverageOutOfRange,
   .coverageLengthOutOfRange, .coverageLengthWithoutLengthAttr, .coverageLengthWithCoverage, .kNonPositive, .kNotInt, .badWeightType, .badOrigin, .unknownStart, .unknownEnd,
   .scalingOutOfRange, .ignoreWrongShape, .emptyGraph]

/-- the violations present in `d` -/
def D.flags (d : D) : List Flag := simpleFlags.filter d.has

def guarded (cg : ClassGuards) (f : Flag) : Bool := cg.guards.any (fun g => g.flag = f)

/-- the descriptors on which the guard table alone decides the outcome: either every violation present
is guarded and reached (then one of the guards raises), or none is guarded (then nothing rejects the
input). With a mix, whether a guard is reached before the unguarded violation makes some other statement
fail depends on statement order and data, which the table does not record; `preempted` lists the
violations whose guard is known to be reached too late on some inputs. -/
def determined (cg : ClassGuards) (preempted : List Flag) (d : D) : Bool :=
  d.hasWeightedElement &&
  (d.flags.all (fun f => guarded cg f && !preempted.contains f) || d.flags.all (fun f => !guarded cg f))

/-- the guard that fires (for reports) -/
def firing (cg : ClassGuards) (d : D) : Option Guard := cg.guards.find? (fires d)

end FP.GuardEval
