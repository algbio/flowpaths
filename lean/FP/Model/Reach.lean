import FP.Model.Graph
/-!
# FP.Model.Reach — reachability queries of `stDiGraph` and the closure tables of `stDAG`, as implemented

* `pullSweep` / `pushSweep` — the two loop shapes the code uses to fill a dictionary along a
  (reverse) topological order:
  `for c in order: for s in nbrs(c): t[c] = comb(t[c], t[s])` (pull) and
  `for c in order: for s in nbrs(c): t[s] = comb(t[c], t[s])` (push).
* `CondOracle` — what `stDiGraph` obtains from networkx: `nx.condensation` (node labelling, component
  ids, condensation edges), `nx.descendants` / `nx.ancestors` on the condensation and
  `nx.topological_sort` of it. These are **oracle parameters**; their contract is
  `FP.CondContract` (Proofs/ReachTables.lean), validated against direct search by the harness on every case.
* `nodesReachableFn`, `nodesReachingFn`, `isSccEdgeFn`, `edgeMaxFn` — the answers as the code computes
  them from the oracle values; `QState` / `qstep` / `qrun` — the same with the two memo dictionaries
  `_nodes_reachable_from_node_cache`, `_nodes_reaching_node_cache` as explicit state.
* `dagReachNodes`, `dagReachEdges`, `dagNodesReaching`, `dagReachEdgesRev` — the four lazily built
  tables of `stDAG`, the topological order being an oracle parameter (`FP.IsTopo`).
Python sets are lists here; answers are compared as sets.
-/
namespace FP

section Tables
variable {κ : Type} {α : Type} [DecidableEq κ]

/-- `t[k] = a` on a plain function (used where the table is a field of a state record) -/
def upd (t : κ → α) (k : κ) (a : α) : κ → α := fun x => if x = k then a else t x

/-- a python dictionary with a total read function. (A record and not a bare function: a
function-valued fold accumulator is compiled lazily — eta-expanded — and re-evaluated on every
read.) -/
structure Tbl (κ α : Type) where
  get : κ → α

/-- `t[k] = a` -/
@[noinline] def Tbl.set (t : Tbl κ α) (k : κ) (a : α) : Tbl κ α := ⟨fun x => if x = k then a else t.get x⟩

/-- out-neighbours of `c` in an edge list (adjacency order) -/
def succOf (es : List (κ × κ)) (c : κ) : List κ := (es.filter (fun e => e.1 = c)).map (·.2)

/-- `for c in order: for s in succ(c): t[c] = comb c s t[c] t[s]` -/
def pullSweep (es : List (κ × κ)) (comb : κ → κ → α → α → α) (order : List κ) (t0 : κ → α) : Tbl κ α :=
  order.foldl (fun t c => (succOf es c).foldl (fun t s => t.set c (comb c s (t.get c) (t.get s))) t) ⟨t0⟩

/-- `for c in order: for s in succ(c): t[s] = comb c s t[c] t[s]` -/
def pushSweep (es : List (κ × κ)) (comb : κ → κ → α → α → α) (order : List κ) (t0 : κ → α) : Tbl κ α :=
  order.foldl (fun t c => (succOf es c).foldl (fun t s => t.set s (comb c s (t.get c) (t.get s))) t) ⟨t0⟩

end Tables

/-- set union on lists (`a |= b`) -/
def lunion {α} [DecidableEq α] (a b : List α) : List α := a ++ b.filter (fun x => !a.contains x)

def swapEdges {κ} (es : List (κ × κ)) : List (κ × κ) := es.map fun e => (e.2, e.1)

/-! ## stDiGraph -/

/-- values obtained from networkx by `stDiGraph._post_build` and the query methods -/
structure CondOracle where
  /-- `C.graph["mapping"]` -/
  lab : Node → Nat
  /-- `C.nodes()` -/
  cnodes : List Nat
  /-- `C.edges()` -/
  cedges : List (Nat × Nat)
  /-- `nx.descendants(C, c)` -/
  desc : Nat → List Nat
  /-- `nx.ancestors(C, c)` -/
  anc : Nat → List Nat
  /-- `list(nx.topological_sort(C))` -/
  topo : List Nat

/-- `_nodes_by_scc[c]` -/
def nodesByScc (g : Graph) (o : CondOracle) (c : Nat) : List Node := g.nodes.filter (fun n => o.lab n = c)

/-- body of `nodes_reachable` after the membership and cache tests -/
def nodesReachableFn (g : Graph) (o : CondOracle) (v : Node) : List Node :=
  (lunion (o.desc (o.lab v)) [o.lab v]).flatMap (nodesByScc g o)

/-- body of `nodes_reaching` after the membership and cache tests -/
def nodesReachingFn (g : Graph) (o : CondOracle) (v : Node) : List Node :=
  (lunion (o.anc (o.lab v)) [o.lab v]).flatMap (nodesByScc g o)

/-- `is_scc_edge` on an edge of the graph -/
def isSccEdgeFn (o : CondOracle) (u v : Node) : Bool := o.lab u = o.lab v

/-- `local_out` / `local_in`: per-component maximum (floor 0) of the weights of the edges whose
tail / head lies in the component -/
def localMax (g : Graph) (o : CondOracle) (wt : Edge → Rat) (tail : Bool) : Tbl Nat Rat :=
  g.edges.foldl (fun t e =>
    let c := o.lab (if tail then e.1 else e.2)
    if wt e > t.get c then t.set c (wt e) else t) ⟨fun _ => 0⟩

def maxDesc (g : Graph) (o : CondOracle) (wt : Edge → Rat) : Tbl Nat Rat :=
  pullSweep o.cedges (fun _ _ a b => if b > a then b else a) o.topo.reverse (localMax g o wt true).get

def maxAnc (g : Graph) (o : CondOracle) (wt : Edge → Rat) : Tbl Nat Rat :=
  pushSweep o.cedges (fun _ _ a b => if a > b then a else b) o.topo (localMax g o wt false).get

/-- python `max(a, b, c)` -/
def max3 (a b c : Rat) : Rat := max (max a b) c

/-- `compute_edge_max_reachable_value`: value of one edge -/
def edgeMaxFn (g : Graph) (o : CondOracle) (wt : Edge → Rat) (e : Edge) : Rat :=
  max3 (wt e) ((maxDesc g o wt).get (o.lab e.2)) ((maxAnc g o wt).get (o.lab e.1))

/-- the whole result dictionary (in `edges()` order); the two tables are built once -/
def edgeMaxAll (g : Graph) (o : CondOracle) (wt : Edge → Rat) : List (Edge × Rat) :=
  let md := maxDesc g o wt
  let ma := maxAnc g o wt
  g.edges.map fun e => (e, max3 (wt e) (md.get (o.lab e.2)) (ma.get (o.lab e.1)))

/-! ### the memoised machine -/

inductive Query where
  | reachable (v : Node)
  | reaching (v : Node)
  | sccEdge (u v : Node)
  /-- `compute_edge_max_reachable_value(attr)`; the attribute values travel with the query
  (missing attribute = 0, as `data.get(flow_attr, 0.0)`) -/
  | edgeMax (w : List (Edge × Rat))
  deriving Repr

inductive Answer where
  | nodes (l : List Node)
  | bool (b : Bool)
  | vals (l : List (Edge × Rat))
  /-- `ValueError` (node / edge not in the graph) -/
  | valueError
  deriving Repr, DecidableEq

structure QState where
  /-- `_nodes_reachable_from_node_cache` -/
  fwd : List (Node × List Node) := []
  /-- `_nodes_reaching_node_cache` -/
  bwd : List (Node × List Node) := []
  deriving Repr

def wtOf (w : List (Edge × Rat)) : Edge → Rat := fun e => lookupD w e 0

/-- the answer of a query computed from scratch (no cache) -/
def pureAnswer (g : Graph) (o : CondOracle) : Query → Answer
  | .reachable v => if g.nodes.contains v then .nodes (nodesReachableFn g o v) else .valueError
  | .reaching v => if g.nodes.contains v then .nodes (nodesReachingFn g o v) else .valueError
  | .sccEdge u v => if g.edges.contains (u, v) then .bool (isSccEdgeFn o u v) else .valueError
  | .edgeMax w => .vals (edgeMaxAll g o (wtOf w))

/-- one call on the object: consult / fill the memo dictionaries exactly as the methods do -/
def qstep (g : Graph) (o : CondOracle) (s : QState) : Query → QState × Answer
  | .reachable v =>
    if g.nodes.contains v then
      match s.fwd.lookup v with
      | some r => (s, .nodes r)
      | none => let r := nodesReachableFn g o v; ({ s with fwd := (v, r) :: s.fwd }, .nodes r)
    else (s, .valueError)
  | .reaching v =>
    if g.nodes.contains v then
      match s.bwd.lookup v with
      | some r => (s, .nodes r)
      | none => let r := nodesReachingFn g o v; ({ s with bwd := (v, r) :: s.bwd }, .nodes r)
    else (s, .valueError)
  | q => (s, pureAnswer g o q)

/-- a whole query sequence; returns the final state and the answers in order -/
def qrun (g : Graph) (o : CondOracle) : QState → List Query → QState × List Answer
  | s, [] => (s, [])
  | s, q :: qs =>
    let (s1, a) := qstep g o s q
    let (s2, as) := qrun g o s1 qs
    (s2, a :: as)

/-! ## stDAG closure tables -/

/-- `reachable_nodes_from` -/
def dagReachNodes (g : Graph) (topo : List Node) : Tbl Node (List Node) :=
  pullSweep g.edges (fun _ _ a b => lunion a b) topo.reverse (fun v => [v])

/-- `reachable_edges_from` -/
def dagReachEdges (g : Graph) (topo : List Node) : Tbl Node (List Edge) :=
  pullSweep g.edges (fun c s a b => lunion (lunion a b) [(c, s)]) topo.reverse (fun _ => [])

/-- `nodes_reaching` -/
def dagNodesReaching (g : Graph) (topo : List Node) : Tbl Node (List Node) :=
  pullSweep (swapEdges g.edges) (fun _ _ a b => lunion a b) topo (fun v => [v])

/-- `reachable_edges_rev_from` -/
def dagReachEdgesRev (g : Graph) (topo : List Node) : Tbl Node (List Edge) :=
  pullSweep (swapEdges g.edges) (fun c s a b => lunion (lunion a b) [(s, c)]) topo (fun _ => [])

/-! ## executable contract checks (used by the driver before it evaluates a model function, so
that a dictionary lookup the python code would fail on is reported, never defaulted) -/

/-- `order` lists exactly the nodes, once each, no edge points backwards or is a loop -/
def checkTopo {κ} [DecidableEq κ] (nodes : List κ) (es : List (κ × κ)) (order : List κ) : Bool :=
  decide order.Nodup && nodes.all (order.contains ·) && order.all (nodes.contains ·)
  && es.all (fun e => e.1 ≠ e.2 && order.contains e.1 && order.contains e.2)
  && decide (order.Pairwise (fun a b => ¬ es.contains (b, a)))

end FP
