import FP.Model.Tables
/-!
# FP.Model.Store — object-store semantics of "construct / solve a model with caller objects" (C18)

The caller owns a heap of mutable objects (`Ref ↦ value`: graphs, option dictionaries, constraint and
ignore lists, the default objects of `= {}` / `= []` parameters). A *construction* hands some of them to
a class as arguments. What the class may do to them is determined by its row of the generated table:
a reference can only change if it is bound to a parameter for which the table lists a write through
the caller's object. *What* is written is left arbitrary (`eff`), so every statement below holds for
any behaviour of the code that stays within the may-write set read off the source.
-/
namespace FP.Store
open FP.Tables

abbrev Ref := Nat

/-- the caller-visible heap -/
abbrev Store (V : Type) := Ref → V

/-- one use of a model class: construction, `solve()`, getters — with the caller's objects as arguments -/
structure Construction where
  cls : String
  args : List (String × Ref)
deriving Repr

def lookup (tbl : List ClassAlias) (cls : String) : Option ClassAlias :=
  tbl.find? (fun ca => ca.cls = cls)

/-- the parameters through which the class writes into the caller's object -/
def writtenParams (ca : ClassAlias) : List String :=
  (ca.writes.filter (·.viaCaller)).map (·.param)

/-- a class whose row lists no write through a caller's object -/
def cleanRow (ca : ClassAlias) : Bool := ca.writes.all (fun w => !w.viaCaller)

def isClean (tbl : List ClassAlias) (cls : String) : Bool :=
  match lookup tbl cls with
  | some ca => cleanRow ca
  | none => false

/-- may the construction change the object behind `r`? A class without a row may change whatever it
is handed. -/
def mayWrite (tbl : List ClassAlias) (c : Construction) (r : Ref) : Bool :=
  match lookup tbl c.cls with
  | none => c.args.any (fun a => a.2 = r)
  | some ca => c.args.any (fun a => a.2 = r && (writtenParams ca).contains a.1)

/-- effect of one construction on the heap -/
def step {V} (tbl : List ClassAlias) (eff : Construction → Ref → V → V) (s : Store V) (c : Construction) :
    Store V :=
  fun r => if mayWrite tbl c r then eff c r (s r) else s r

/-- effect of a history of constructions -/
def run {V} (tbl : List ClassAlias) (eff : Construction → Ref → V → V) (s : Store V) :
    List Construction → Store V
  | [] => s
  | c :: h => run tbl eff (step tbl eff s c) h

/-- a model's result as a pure function of the class and the *values* of its arguments -/
def resultOf {V R} (f : String → List (String × V) → R) (s : Store V) (c : Construction) : R :=
  f c.cls (c.args.map (fun a => (a.1, s a.2)))

/-! ## getters -/

/-- `self._solution` -/
structure GetterState (α : Type) where
  cache : Option α

/-- `get_solution()` as the table describes it: return the cached value if there is one; otherwise
compute, store it if the class caches, and return it — unless the computing path falls off the end of
the function, which returns `None`. -/
def getSolution {α} (fact : GetterFact) (compute : α) (st : GetterState α) : Option α × GetterState α :=
  match st.cache with
  | some x => (some x, st)
  | none =>
    (if fact.fallsOff then none else some compute,
     if fact.caches then ⟨some compute⟩ else st)

end FP.Store
