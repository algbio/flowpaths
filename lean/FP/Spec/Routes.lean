import FP.Model.Graph
import FP.Spec.Walk
/-!
# FP.Spec.Routes — what a source-to-sink route of the caller's graph is
-/
namespace FP.Spec
open FP

/-- every consecutive pair of `l` is an edge of `g` -/
def IsWalkIn (g : Graph) (l : List Node) : Prop := ∀ e ∈ walkEdges l, e ∈ g.edges

/-- number of traversals of `e` by the vertex sequence `l` -/
def traversals (l : List Node) (e : Edge) : Nat := (walkEdges l).count e

/-- `p` is an admissible route of the *user's* graph `base` with declared additional starts/ends:
non-empty, all nodes are nodes of `base`, consecutive nodes are adjacent in `base`, it starts at a
node without incoming edges or a declared start and ends at a node without outgoing edges or a
declared end. -/
structure ValidRoute (base : Graph) (starts ends : List Node) (p : List Node) : Prop where
  nonempty : p ≠ []
  nodes : ∀ v ∈ p, v ∈ base.nodes
  adjacent : IsWalkIn base p
  first : ∀ v, p.head? = some v → (base.pred v = [] ∨ v ∈ starts)
  last : ∀ v, p.getLast? = some v → (base.succ v = [] ∨ v ∈ ends)

/-- acyclicity witnessed by a rank function -/
def Acyclic (g : Graph) : Prop := ∃ rank : Node → Nat, ∀ e ∈ g.edges, rank e.1 < rank e.2

/-- the path of a layer with its synthetic endpoints -/
def full (s : STGraph) (p : List Node) : List Node := s.source :: p ++ [s.sink]

/-- a layer is either unused (only if empty paths are allowed) or a simple source-to-sink path of
the augmented graph -/
def Route (s : STGraph) (allowEmpty : Bool) (p : List Node) : Prop :=
  (p = [] ∧ allowEmpty = true) ∨ (p ≠ [] ∧ IsWalkIn s.g (full s p) ∧ (full s p).Nodup)

/-- `[e ∈ p]` as a rational (number of traversals; 0 or 1 for a route) -/
def trav (s : STGraph) (p : List Node) (e : Edge) : Rat := (traversals (full s p) e : Nat)

end FP.Spec
