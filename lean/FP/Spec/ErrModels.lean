import FP.Model.Enc.KMPE
import FP.Spec.Routes
/-!
# FP.Spec.ErrModels — vocabulary of the two error models (k-Least-Absolute-Errors, k-Min-Path-Error)

A *k-route solution* on the augmented graph `s` is a family `P : Nat → List Node` of inner paths
(`P i` is what `get_solution()` returns for layer `i`, i.e. without the synthetic endpoints; the
empty list stands for an unused layer), weights `w : Nat → Rat` and — for k-Min-Path-Error —
slacks `sl : Nat → Rat`. Only the indices `i < k` matter.

Everything here is stated on rationals and is independent of the LP generators: these are the
quantities of the property texts C07 / C08.
-/
namespace FP.Spec
open FP

/-- `Σ_i w_i · [e ∈ p_i]` -/
def explained (s : STGraph) (k : Nat) (P : Nat → List Node) (w : Nat → Rat) (e : Edge) : Rat :=
  ((List.range k).map fun i => w i * trav s (P i) e).sum

/-- being (the cast of) an integer -/
def IsInt (q : Rat) : Prop := ∃ z : Int, q = z

namespace LAE

/-- `|f(e) − Σ_i w_i · [e ∈ p_i]|` -/
def absErr (inp : ErrInput) (P : Nat → List Node) (w : Nat → Rat) (e : Edge) : Rat :=
  (inp.fi.f e - explained inp.st inp.k P w e).abs

/-- the quantity k-Least-Absolute-Errors minimises: `Σ_{e not ignored} scale(e) · |f(e) − Σ_i w_i[e ∈ p_i]|` -/
def totalErr (inp : ErrInput) (P : Nat → List Node) (w : Nat → Rat) : Rat :=
  (inp.basicEdges.map fun e => inp.scale e * absErr inp P w e).sum

/-- a k-route solution of the requested weight type (weights non-negative, integral if
`weight_type = int`) -/
structure Solution (inp : ErrInput) (P : Nat → List Node) (w : Nat → Rat) : Prop where
  routes : ∀ i, i < inp.k → Route inp.st inp.fi.cfg.allowEmpty (P i)
  nonneg : ∀ i, i < inp.k → 0 ≤ w i
  integral : inp.fi.weightInt = true → ∀ i, i < inp.k → IsInt (w i)

/-- the solutions the LP can represent: weights and per-edge errors within the column bound `w_max` -/
structure Bounded (inp : ErrInput) (P : Nat → List Node) (w : Nat → Rat) : Prop extends Solution inp P w where
  wle : ∀ i, i < inp.k → w i ≤ inp.wmax none
  errle : ∀ e ∈ inp.basicEdges, absErr inp P w e ≤ inp.wmax none

end LAE

namespace MPE

/-- `|f(e) − Σ_i w_i[e ∈ p_i]| · scale(e) ≤ Σ_i slack_i · [e ∈ p_i]` -/
def SlackOK (inp : ErrInput) (P : Nat → List Node) (w sl : Nat → Rat) (e : Edge) : Prop :=
  (inp.fi.f e - explained inp.st inp.k P w e).abs * inp.scale e ≤ explained inp.st inp.k P sl e

/-- the quantity k-Min-Path-Error minimises -/
def totalSlack (k : Nat) (sl : Nat → Rat) : Rat := ((List.range k).map sl).sum

/-- a k-route solution with slacks (no path-length factors): weights and slacks non-negative, of the
requested type, and the slack inequality on every non-ignored edge -/
structure Solution (inp : ErrInput) (P : Nat → List Node) (w sl : Nat → Rat) : Prop where
  routes : ∀ i, i < inp.k → Route inp.st inp.fi.cfg.allowEmpty (P i)
  nonneg : ∀ i, i < inp.k → 0 ≤ w i ∧ 0 ≤ sl i
  integral : inp.fi.weightInt = true → ∀ i, i < inp.k → IsInt (w i) ∧ IsInt (sl i)
  slackOK : ∀ e ∈ inp.basicEdges, SlackOK inp P w sl e

/-- … with weights and slacks within the column bound `w_max` -/
structure Bounded (inp : ErrInput) (P : Nat → List Node) (w sl : Nat → Rat) : Prop
    extends Solution inp P w sl where
  wle : ∀ i, i < inp.k → w i ≤ inp.wmax none ∧ sl i ≤ inp.wmax none

/-- every non-ignored edge lies on some route -/
def Covers (inp : ErrInput) (P : Nat → List Node) : Prop :=
  ∀ e ∈ inp.basicEdges, ∃ i, i < inp.k ∧ trav inp.st (P i) e = 1

end MPE

end FP.Spec

namespace FP

/-- model of `kLeastAbsErrors.get_objective_value` (since fix 1c464ac):
`sum(err * self.edge_error_scaling.get(e, 1) for e, err in edge_errors.items())` — the error columns
read back from the solver (`edge_errors` has exactly the non-ignored edges as keys), each multiplied
by its scale factor -/
def reportedObjective (inp : ErrInput) (a : Asg) : Rat :=
  (inp.basicEdges.map fun e => a (eeVar e) * inp.scale e).sum

/-- history: before fix 1c464ac `get_objective_value` returned this *unscaled* sum of the error columns -/
def unscaledErrorSum (inp : ErrInput) (a : Asg) : Rat := (inp.basicEdges.map fun e => a (eeVar e)).sum

end FP
