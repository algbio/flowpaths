import FP.Proofs.MEFBound
/-!
# C16 — `MinErrorFlow` returns a closest non-negative flow on the same graph

The property theorems; the longer proofs are in `FP/Proofs/MEF.lean`, `FP/Proofs/MEFBound.lean` and
`FP/Proofs/FlowCap.lean`, the vocabulary (`IsFlow`, `absErr`,
`MEFInput.cost`, `MEFInput.Candidate`, `MEFInput.DataOK`) in `FP/Spec/ErrorFlow.lean`.

The LPs are those of `FP/Model/Enc/MEF.lean` (tied to `flowpaths/minerrorflow.py` by LP-dump equality):
`mefStage1` is solved first; with `few_flow_values_epsilon` a fresh `mefStage2` is solved afterwards.
The model graph `inp.graph` is the s-t augmentation of the input when it is acyclic and the input itself
otherwise (`additional_starts/ends` are then dropped — see the finding recorded for C16).
-/
namespace FP.Props.C16
open FP FP.Spec

/-- Every satisfying assignment of the first-stage LP is a candidate flow on the
model graph — non-negative, conserved at every node having both an in-edge and an out-edge, every value
at most `ub`, integral when `weight_type = int` —; the error variable of an ignored edge is `0` (there is
no coupling to its value), that of any other edge is at least `|f − x|`; and the objective is
`Σ_{non-ignored} scale · err  +  λ · (flow leaving the synthetic source)` (the last term only for `λ > 0`). -/
theorem mef_sound (inp : MEFInput) (a : Asg) (hsat : Sat a (mefStage1 inp)) :
    inp.Candidate (fun e => a (evVar e)) ∧
    (∀ e ∈ inp.graph.edges, inp.ignored e = true → a (mefErrVar e) = 0) ∧
    (∀ e ∈ inp.graph.edges, inp.ignored e = false →
        qabs (inp.f e - a (evVar e)) ≤ a (mefErrVar e)) ∧
    evalTerms a (mefStage1 inp).obj =
      (inp.active.map fun e => inp.scale e * a (mefErrVar e)).sum
        + inp.sparsity (fun e => a (evVar e)) :=
  FP.mef_sound inp a hsat

/-- The user-level reading for acyclic input: a flow on the s-t augmentation of a well-formed input graph is,
on the user's own edges: non-negative; balanced at every node once the (free, non-negative) values of
its synthetic edges are counted — the synthetic in-edge exists exactly at nodes without in-edges and at
declared additional starts, the synthetic out-edge exactly at nodes without out-edges and at declared
additional ends —; hence conserved at every node that has in- and out-edges and is neither an additional
start nor an additional end; `in ≤ out` at every node with out-edges that is not an additional end (an
additional start may only *emit* flow); `out ≤ in` at every node with in-edges that is not an
additional start (an additional end may only *absorb* flow). -/
theorem mef_user_acyclic (inp : MEFInput) (x : Edge → Rat) (hwf : BaseWF inp.base)
    (hac : inp.acyclic = true) (hx : IsFlow inp.graph x) :
    (∀ e ∈ inp.base.edges, 0 ≤ x e) ∧
    (∀ v ∈ inp.base.nodes,
      inSum inp.base x v + (if isStart inp.base inp.starts v then x (srcName, v) else 0)
        = outSum inp.base x v + (if isEnd inp.base inp.ends v then x (v, snkName) else 0)) ∧
    (∀ v ∈ inp.base.nodes, inp.base.inEdges v ≠ [] → inp.base.outEdges v ≠ [] →
      v ∉ inp.starts → v ∉ inp.ends → inSum inp.base x v = outSum inp.base x v) ∧
    (∀ v ∈ inp.base.nodes, inp.base.outEdges v ≠ [] → v ∉ inp.ends →
      inSum inp.base x v ≤ outSum inp.base x v) ∧
    (∀ v ∈ inp.base.nodes, inp.base.inEdges v ≠ [] → v ∉ inp.starts →
      outSum inp.base x v ≤ inSum inp.base x v) :=
  FP.mef_user_acyclic inp x hwf hac hx

/-- The user-level reading for input with cycles: the model graph is the input graph: the result is conserved
at *every* node with in- and out-edges — declared additional starts/ends included, they are not exempt. -/
theorem mef_user_cyclic (inp : MEFInput) (x : Edge → Rat) (hac : inp.acyclic = false)
    (hx : IsFlow inp.graph x) : IsFlow inp.base x :=
  FP.mef_user_cyclic inp x hac hx

/-- For well-formed observations every candidate flow `x` (values `≤ ub`,
integral if asked) extends, with `err := |f − x|` (and `0` on ignored edges), to a satisfying assignment
whose objective is the total scaled absolute change plus the sparsity term. -/
theorem mef_complete (inp : MEFInput) (x : Edge → Rat) (hd : inp.DataOK) (hx : inp.Candidate x) :
    ∃ a : Asg, Sat a (mefStage1 inp) ∧ (∀ e, a (evVar e) = x e) ∧
      (∀ e, a (mefErrVar e) = if inp.ignored e then 0 else qabs (inp.f e - x e)) ∧
      evalTerms a (mefStage1 inp).obj = inp.cost x :=
  FP.mef_complete inp x hd hx

/-- An optimal assignment of the first-stage LP yields a candidate flow
whose cost (total scaled absolute change + sparsity term) is minimal among all candidate flows; the
optimal objective *is* that cost, and `err = |f − x|` on every non-ignored edge with a positive scale
factor — so the reported `error` is the recomputed one. -/
theorem mef_opt_transfer (inp : MEFInput) (a : Asg) (hd : inp.DataOK) (hsat : Sat a (mefStage1 inp))
    (hopt : ∀ a', Sat a' (mefStage1 inp) →
      evalTerms a (mefStage1 inp).obj ≤ evalTerms a' (mefStage1 inp).obj) :
    inp.Candidate (fun e => a (evVar e)) ∧
    (∀ x', inp.Candidate x' → inp.cost (fun e => a (evVar e)) ≤ inp.cost x') ∧
    evalTerms a (mefStage1 inp).obj = inp.cost (fun e => a (evVar e)) ∧
    (∀ e ∈ inp.active, 0 < inp.scale e →
      a (mefErrVar e) = qabs (inp.f e - a (evVar e))) :=
  FP.mef_opt_transfer inp a hd hsat hopt

/-- Restricting the search to values
`≤ ub = w_max · |E(model graph)|` loses no optimum: on a model graph without parallel edges, for
non-negative observations (integral ones when `weight_type = int`), every flow (integral, if asked) is
matched by a candidate flow of at most the same cost. -/
def ub_adequate_Statement : Prop :=
  ∀ inp : MEFInput, inp.DataOK → inp.graph.edges.Nodup →
    (inp.weightInt = true → ∀ e ∈ inp.graph.edges, ∃ z : Int, inp.f e = z) →
    ∀ x : Edge → Rat, IsFlow inp.graph x →
      (inp.weightInt = true → ∀ e ∈ inp.graph.edges, ∃ z : Int, x e = z) →
      ∃ x', inp.Candidate x' ∧ inp.cost x' ≤ inp.cost x

/-- Proof (`FP.cap_flow`, `FP.mef_ub_adequate`): induction on the number of edges with `x e > w_max`;
an edge above `w_max · |E|` lies on a closed walk of such edges or on a simple path of such edges
between two nodes where conservation is not demanded — otherwise the nodes reachable from its head (or
reaching its tail) along such edges form a cut that bounds it by `w_max · |E|` —, and lowering the
flow along that walk by the least excess keeps it a flow, does not raise any `|f e − x e|` (as
`f e ≤ w_max`) nor the source outflow, and makes one more edge `≤ w_max`. It needs `f ≥ 0`: with
all-negative observations `ub < 0` and the LP is infeasible. -/
theorem ub_adequate : ub_adequate_Statement :=
  fun inp hd hnd hfi x hx hxi => FP.mef_ub_adequate inp hd hnd hfi x hx hxi

/-- **the closest flow.** On a well-formed input graph with non-negative (integral, if
asked) observations, an optimal assignment of the first-stage LP yields a flow whose cost — total
scaled absolute change plus sparsity term — is minimal among **all** (integral, if asked) flows on
the model graph, bounded or not. -/
theorem mef_opt_all_flows (inp : MEFInput) (a : Asg) (hwf : BaseWF inp.base) (hd : inp.DataOK)
    (hfi : inp.weightInt = true → ∀ e ∈ inp.graph.edges, ∃ z : Int, inp.f e = z)
    (hsat : Sat a (mefStage1 inp))
    (hopt : ∀ a', Sat a' (mefStage1 inp) →
      evalTerms a (mefStage1 inp).obj ≤ evalTerms a' (mefStage1 inp).obj) :
    IsFlow inp.graph (fun e => a (evVar e)) ∧
    ∀ x : Edge → Rat, IsFlow inp.graph x →
      (inp.weightInt = true → ∀ e ∈ inp.graph.edges, ∃ z : Int, x e = z) →
      inp.cost (fun e => a (evVar e)) ≤ inp.cost x :=
  ⟨(FP.mef_opt_transfer inp a hd hsat hopt).1.flow,
    FP.mef_opt_all inp a (inp.graph_edges_nodup hwf) hd hfi hsat hopt⟩

/-- **C16 on the user's graph, acyclic input, `sparsity_lambda = 0`.** The corrected values on the
user's non-ignored edges are at least as close (total scaled absolute change) to the observation as
**any** non-negative (integral, if asked) edge function `y` of the input graph that is conserved at every
node with in- and out-edges that is no additional start/end, has `in ≤ out` at every node with out-edges
that is no additional end and `out ≤ in` at every node with in-edges that is no additional start. -/
theorem mef_closest_user_acyclic (inp : MEFInput) (a : Asg) (hwf : BaseWF inp.base)
    (hac : inp.acyclic = true) (hlam : ¬ inp.lambda > 0) (hd : inp.DataOK)
    (hfi : inp.weightInt = true → ∀ e ∈ inp.graph.edges, ∃ z : Int, inp.f e = z)
    (hsat : Sat a (mefStage1 inp))
    (hopt : ∀ a', Sat a' (mefStage1 inp) →
      evalTerms a (mefStage1 inp).obj ≤ evalTerms a' (mefStage1 inp).obj)
    (y : Edge → Rat) (hnn : ∀ e ∈ inp.base.edges, 0 ≤ y e)
    (h1 : ∀ v ∈ inp.base.nodes, inp.base.outEdges v ≠ [] → v ∉ inp.ends →
      inSum inp.base y v ≤ outSum inp.base y v)
    (h2 : ∀ v ∈ inp.base.nodes, inp.base.inEdges v ≠ [] → v ∉ inp.starts →
      outSum inp.base y v ≤ inSum inp.base y v)
    (hyi : inp.weightInt = true → ∀ e ∈ inp.base.edges, ∃ z : Int, y e = z) :
    absErr inp.active inp.scale inp.f (fun e => a (evVar e))
      ≤ absErr inp.active inp.scale inp.f y :=
  FP.mef_closest_user_acyclic inp a hwf hac hlam hd hfi hsat hopt y hnn h1 h2 hyi

/-- **C16 on the user's graph, input with cycles.** The corrected values are at least as close to the
observation as any (integral, if asked) flow of the input graph that is conserved at **every** node with
in- and out-edges — flows that use a declared additional start/end are *not* among the competitors
(finding C16-cyclic-additional-starts-ends-dropped). -/
theorem mef_closest_user_cyclic (inp : MEFInput) (a : Asg) (hnd : inp.base.edges.Nodup)
    (hac : inp.acyclic = false) (hlam : ¬ inp.lambda > 0) (hd : inp.DataOK)
    (hfi : inp.weightInt = true → ∀ e ∈ inp.graph.edges, ∃ z : Int, inp.f e = z)
    (hsat : Sat a (mefStage1 inp))
    (hopt : ∀ a', Sat a' (mefStage1 inp) →
      evalTerms a (mefStage1 inp).obj ≤ evalTerms a' (mefStage1 inp).obj)
    (y : Edge → Rat) (hy : IsFlow inp.base y)
    (hyi : inp.weightInt = true → ∀ e ∈ inp.base.edges, ∃ z : Int, y e = z) :
    absErr inp.active inp.scale inp.f (fun e => a (evVar e))
      ≤ absErr inp.active inp.scale inp.f y :=
  FP.mef_closest_user_cyclic inp a hnd hac hlam hd hfi hsat hopt y hy hyi

/-- The second stage: every satisfying assignment of the second-stage LP built with the
right-hand side `(1+ε)·opt` is still a candidate flow, satisfies `first-stage objective ≤ (1+ε)·opt`
(literally one of its rows), and therefore has cost `≤ (1+ε)·opt`. -/
theorem mef_eps (inp : MEFInput) (eps opt : Rat) (nvals : Nat) (a : Asg)
    (hsc : ∀ p ∈ inp.scaling, 0 ≤ p.2) (hsat : Sat a (mefStage2 inp ((1 + eps) * opt) nvals)) :
    inp.Candidate (fun e => a (evVar e)) ∧
    evalTerms a (mefStage1 inp).obj ≤ (1 + eps) * opt ∧
    inp.cost (fun e => a (evVar e)) ≤ (1 + eps) * opt :=
  FP.mef_eps inp _ nvals a hsc hsat

/-- a second-stage solution takes, on the edges of the input graph, only the `nvals` values
held by `all_flow_values_vars` -/
theorem mef_eps_values (inp : MEFInput) (bound : Rat) (nvals : Nat) (a : Asg)
    (hsat : Sat a (mefStage2 inp bound nvals)) :
    ∀ e ∈ inp.base.edges, ∃ i, i < nvals ∧ a (evVar e) = a (afvVar i) := by
  intro e he
  obtain ⟨_, _, _, h01, hrows, _⟩ := (sat_mefStage2_iff inp bound nvals a).1 hsat
  obtain ⟨hs1, hslot⟩ := hrows e he
  -- the map variables of `e` are 0 or 1 and sum to 1: one of them is 1
  obtain ⟨i, hi, hone⟩ := exists_one_of_sum_ge_one
    (fun i hi => h01 e he i (List.mem_range.1 hi)) (hs1 ▸ Rat.le_refl)
  have hi' := List.mem_range.1 hi
  obtain ⟨h1, h2, _⟩ := hslot i hi'
  -- with `m = 1` the two rows read `x ≤ val` and `val ≤ x`
  simp only [hone, Rat.sub_self, Rat.mul_zero, Rat.add_zero, Rat.sub_eq_add_neg, Rat.neg_zero] at h1 h2
  exact ⟨i, hi', Rat.le_antisymm h1 h2⟩

/-- the second stage is satisfiable as soon as there is one slot per distinct value
that some candidate flow within the budget takes **on all edges of the input graph** — the count the
code should use. (The code counts `corrected_graph[u][v].get(flow_attr, 0)`, i.e. takes `0` for an
ignored edge without the attribute, and can so undercount: finding C16-eps-infeasible-ignored-edge-without-attribute.) -/
theorem mef_stage2_complete (inp : MEFInput) (bound : Rat) (nvals : Nat) (x : Edge → Rat)
    (vals : Nat → Rat) (hd : inp.DataOK) (hx : inp.Candidate x) (hcost : inp.cost x ≤ bound)
    (hcl : ∀ e ∈ inp.base.edges, e.1 ∈ inp.base.nodes ∧ e.2 ∈ inp.base.nodes)
    (hvals : ∀ i, i < nvals → 0 ≤ vals i ∧ vals i ≤ inp.ub ∧
      (inp.weightInt = true → ∃ z : Int, vals i = z))
    (hcover : ∀ e ∈ inp.base.edges, ∃ i, i < nvals ∧ x e = vals i) :
    ∃ a : Asg, Sat a (mefStage2 inp bound nvals) ∧ ∀ e, a (evVar e) = x e :=
  FP.mef_stage2_complete inp bound nvals x vals hd hx hcost hcl hvals hcover

/-! Two examples: `a → b → c` observed as `2, 5` (acyclic) and the 2-cycle `a ⇄ b` observed as `1, 3`. -/

def exInp : MEFInput :=
  { base := { nodes := ["a", "b", "c"], edges := [("a", "b"), ("b", "c")] },
    flow := [(("a", "b"), 2), (("b", "c"), 5)], weightInt := true }

theorem exInp_acyclic : exInp.acyclic = true := by decide +kernel
theorem exInp_graph : exInp.graph =
    { nodes := ["a", "b", "c", "source", "sink"],
      edges := [("a", "b"), ("b", "c"), ("c", "sink"), ("source", "a")] } := by decide +kernel
theorem exInp_ub : exInp.ub = 20 := by decide +kernel

/-- the correction `5, 5` (flow 5 from the synthetic source to the synthetic sink) -/
def exFlow : Edge → Rat := fun _ => 5

theorem exInp_cost (x : Edge → Rat) :
    exInp.cost x = qabs (2 - x ("a", "b")) + qabs (5 - x ("b", "c")) := by
  -- the edges that count and what is observed on them
  obtain ⟨h3, h4, h5, h6, h7, h8⟩ :
      exInp.active = [("a", "b"), ("b", "c")] ∧ exInp.f ("a", "b") = 2 ∧ exInp.f ("b", "c") = 5 ∧
        exInp.scale ("a", "b") = 1 ∧ exInp.scale ("b", "c") = 1 ∧ ¬ exInp.lambda > 0 := by
    decide +kernel
  simp only [MEFInput.cost, MEFInput.sparsity, absErr, h3, h4, h5, h6, h7, if_neg h8, List.map_cons,
    List.map_nil, List.sum_cons, List.sum_nil, Rat.one_mul, Rat.add_zero]

theorem exInp_fInt : ∀ e ∈ exInp.graph.edges, ∃ z : Int, exInp.f e = z := fun e he =>
  isInt_of_den_one _
    ((by rw [exInp_graph]; decide +kernel : ∀ e ∈ exInp.graph.edges, (exInp.f e).den = 1) e he)

theorem exInp_dataOK : exInp.DataOK where
  fNonneg := by rw [exInp_graph]; decide +kernel
  scaleNonneg := by decide +kernel
  fInt := fun _ e he => exInp_fInt e (List.mem_filter.1 he).1

/-- in- and out-degree agree at `a`, `b`, `c`: every non-negative constant is a flow -/
theorem exInp_const (c : Rat) (hc : 0 ≤ c) : IsFlow exInp.graph (fun _ => c) :=
  isFlow_const _ c hc (by rw [exInp_graph]; decide +kernel)

theorem exFlow_candidate : exInp.Candidate exFlow where
  flow := exInp_const 5 (by decide)
  bounded := by rw [exInp_ub, exInp_graph]; decide +kernel
  integral := fun _ e _ => ⟨5, rfl⟩

/-- the hypotheses of `mef_sound` / `mef_opt_transfer` are satisfiable: the first-stage LP of the
example has a satisfying assignment, with objective `3 = |2 − 5| + |5 − 5|` -/
example : ∃ a : Asg, Sat a (mefStage1 exInp) ∧ evalTerms a (mefStage1 exInp).obj = 3 := by
  obtain ⟨a, hsat, _, _, hobj⟩ := mef_complete exInp exFlow exInp_dataOK exFlow_candidate
  exact ⟨a, hsat, by rw [hobj, exInp_cost]; decide +kernel⟩

/-- `3` is the optimum of the example: every candidate flow changes the observation by at least `3`
(conservation at `b` forces one common value `t`, and `|2 − t| + |5 − t| ≥ 3`) -/
theorem exInp_optimum (x : Edge → Rat) (hx : exInp.Candidate x) : 3 ≤ exInp.cost x := by
  obtain ⟨hb, h1, h2⟩ : "b" ∈ exInp.graph.nodes ∧ exInp.graph.inEdges "b" = [("a", "b")] ∧
      exInp.graph.outEdges "b" = [("b", "c")] := by rw [exInp_graph]; decide +kernel
  rw [exInp_cost, hx.flow.through hb h1 h2]
  have h2 := (qabs_le_iff (2 - x ("b", "c")) _).1 Rat.le_refl
  have h5 := (qabs_le_iff (5 - x ("b", "c")) _).1 Rat.le_refl
  grind

/-- and it is attained: the closest-flow problem of the example has optimum exactly `3` -/
example : exInp.cost exFlow = 3 := by rw [exInp_cost]; decide +kernel

/-- `ub_adequate` applies to the example: the flow `100, 100` (far above `ub = 20`) is matched by a candidate -/
example : ∃ x', exInp.Candidate x' ∧ exInp.cost x' ≤ exInp.cost (fun _ => 100) :=
  ub_adequate exInp exInp_dataOK (by rw [exInp_graph]; decide +kernel) (fun _ => exInp_fInt)
    (fun _ => 100) (exInp_const 100 (by decide))
    (fun _ e _ => ⟨100, rfl⟩)

/-- a digraph with a cycle: the model graph is the input itself; `2, 2` is a flow at distance `2` -/
def exCyc : MEFInput :=
  { base := { nodes := ["a", "b"], edges := [("a", "b"), ("b", "a")] },
    flow := [(("a", "b"), 1), (("b", "a"), 3)], starts := ["a"] }

theorem exCyc_cyclic : exCyc.acyclic = false := by decide +kernel

example : ∃ a : Asg, Sat a (mefStage1 exCyc) ∧ evalTerms a (mefStage1 exCyc).obj = 2 := by
  have hg : exCyc.graph = exCyc.base := exCyc.graph_cyclic exCyc_cyclic
  have hd : exCyc.DataOK :=
    { fNonneg := by rw [hg]; decide +kernel, scaleNonneg := by decide +kernel,
      fInt := fun h => nomatch h }
  have hub : exCyc.ub = 6 := by decide +kernel
  have hx : exCyc.Candidate (fun _ => 2) :=
    { flow := isFlow_const _ 2 (by decide) (by rw [hg]; decide +kernel),
      bounded := by rw [hub, hg]; decide +kernel, integral := fun h => nomatch h }
  obtain ⟨a, hsat, _, _, hobj⟩ := mef_complete exCyc (fun _ => 2) hd hx
  exact ⟨a, hsat, by rw [hobj]; decide +kernel⟩

/-- the declared additional start `a` of the cyclic example is **not** exempt: every model flow is
conserved at `a` (`mef_user_cyclic`), although `1, 3` itself would be a flow if `a` could emit 2 units -/
example (x : Edge → Rat) (hx : IsFlow exCyc.graph x) : x ("b", "a") = x ("a", "b") := by
  have h := mef_user_cyclic exCyc x exCyc_cyclic hx
  obtain ⟨ha, h1, h2⟩ : "a" ∈ exCyc.base.nodes ∧ exCyc.base.inEdges "a" = [("b", "a")] ∧
      exCyc.base.outEdges "a" = [("a", "b")] := by decide +kernel
  exact h.through ha h1 h2

end FP.Props.C16
