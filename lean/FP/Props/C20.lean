import FP.Proofs.Parser
import FP.Proofs.Literals
/-!
# C20 — graph files are parsed faithfully and malformed files are rejected

Model: `FP/Model/Parser.lean` (`readGraph`, `readGraphs` on classified lines; `int()`, `float()`, `get_width()`
are oracle parameters).  Vocabulary: `FP/Spec/GraphFile.lean`.

Three levels, in this order: classified lines (rendered files are read back exactly, malformed blocks are
rejected, the stored counts match the graph); the characters behind the classified lines; the tokens
`int()` / `float()` accept.
-/
namespace FP.Props.C20
open FP.Parser FP.Spec.GraphFile
variable {S W Wd : Type} [DecidableEq S]

/-- For every file description `d` (any number of blocks, any number of blank lines at the top)
whose blocks are well-formed — `WFBlock`: at least one `#` line; the vertex-count line converts with `int()`; the
weight token of every edge line converts with `float()`; every edge of every described constraint is listed;
a zero-vertex block has no constraint and only blank lines in its body, a non-zero block describes a graph with
a source and a sink —
`read_graphs` returns, block by block, exactly the described graphs: `graphOf` = the listed edges inserted in
order (`built_graph_exact`), the first header text as id, the distinct `#S` lines as constraints, `n`/`m` the node
and edge counts, `w` the width oracle applied to the graph (the literal 0 for a zero-vertex block). -/
theorem parse_render (o : Oracles S W Wd) (d : FileDesc S) (h : ∀ b ∈ d.blocks, WFBlock o b) :
    readGraphs o (render d) = .ok (d.blocks.map (graphOf o)) := by
  unfold readGraphs render
  rw [splitBlocks_render d.blocks _ d.lead ?_ (fun b hb => (h b hb).1)]
  · exact readBlocks_render o d.blocks h
  · have := length_flatMap_render d.blocks
    simp only [List.length_append, List.length_replicate]; omega

/-- the graph built from a list of edge lines has exactly the listed edges, each with the weight of its *last*
listing; no edge key and no node occurs twice; the nodes are exactly the endpoints -/
theorem built_graph_exact (es : List (S × S × W)) :
    (∀ x y z, (x, y, z) ∈ (buildGraph es).edges ↔ lastWeight es (x, y) = some z) ∧
    (buildGraph es).nodes.Nodup ∧ ((buildGraph es).edges.map key).Nodup ∧
    (∀ x, x ∈ (buildGraph es).nodes ↔ ∃ e ∈ es, x = e.1 ∨ x = e.2.1) :=
  ⟨mem_buildGraph_edges es, (buildGraph_WF es).nodesNodup, (buildGraph_WF es).keysNodup, mem_buildGraph_nodes es⟩

/-- when no edge is listed twice the edge list of the graph is the listed list, in order -/
theorem built_graph_distinct (es : List (S × S × W)) (h : (es.map key).Nodup) :
    (buildGraph es).edges = es := by
  simpa [buildGraph_eq] using addEdges_of_distinct ({} : Gr S W) es (by simpa using h)

/-- the header loop on arbitrary `#` lines: header texts in order (the id is the first), and the constraints
are those of the distinct `#S` sequences in order of first appearance with at least two nodes -/
theorem constraints_spec (hs : List (Line S)) :
    (scanHeader hs).headers = lineHeaders hs ∧
    (scanHeader hs).cons = consOfSeqs (lineSeqs hs).eraseDups :=
  FP.Parser.scanHeader_spec hs

omit [DecidableEq S] in
/-- block splitting loses no line except those before the first `#` line (no fuel exhaustion) -/
theorem split_lossless (ls : List (Line S)) :
    (splitBlocks (ls.length + 1) ls).flatten = ls.dropWhile (fun l => !l.isHash) :=
  FP.Parser.splitBlocks_flatten _ ls (Nat.lt_succ_self _)

/-- A malformed block (`Malformed`: no / non-numeric vertex-count line, an edge
line with ≠ 3 tokens, a non-numeric weight, a `#S` line naming an edge that no edge line lists) makes `read_graph`
raise `ValueError` — whatever the vertex count, `0` included. -/
theorem malformed_rejected (o : Oracles S W Wd) (ls : List (Line S)) (hm : Malformed o ls) :
    ∃ e, readGraph o ls = .error e := by
  cases h : readGraph o ls with
  | error e => exact ⟨e, rfl⟩
  | ok g =>
    -- had `read_graph` returned, `readGraph_ok_iff` would contradict each clause of `Malformed`
    exfalso
    obtain ⟨cl, body, n, hcp, hcv⟩ := readGraph_ok_count o ls g h
    obtain ⟨hgood, hcons, -⟩ := (readGraph_ok_iff o g hcp hcv).1 h
    cases hm with
    | missingCount h' => rw [hcp] at h'; cases h'
    | badCount cl' body' h' hc => rw [hcp] at h'; cases h'; rw [hc] at hcv; cases hcv
    | badEdgeLine t toks hmem hl =>
      rw [hcp] at hmem
      exact Bool.noConfusion ((lineBad_of_length o t toks hl).symm.trans (hgood _ hmem))
    | badWeight t u v ws hmem hw =>
      rw [hcp] at hmem
      exact Bool.noConfusion ((lineBad_of_weight o t u v ws hw).symm.trans (hgood _ hmem))
    | absentEdge toks a b hs he hab =>
      rw [hcp] at hab
      obtain ⟨c, hc, hce⟩ := mem_cons_of_subpath (hashPart ls) toks a b hs he
      obtain ⟨t, ws, hmem⟩ := mem_lineEdges_key o body a b (hcons c hc _ hce)
      exact hab t ws hmem

/-- python's `int()` / `float()` on the strings of the two files below -/
def witnessOracles : Oracles String Int Nat :=
  { parseInt := fun s => if s = "0" then some 0 else none
    parseFloat := fun _ => none
    width := fun _ _ => 1
    zeroWidth := 0 }

/-- the file `"# g\n#S a b\n0\n"`: vertex count `0` and a constraint -/
def wConstraint : List (Line String) := [.header "g", .subpath ["a", "b"], .data "0" ["0"]]
/-- the file `"# g\n0\na b\n"`: vertex count `0` and a line below it -/
def wEdge : List (Line String) := [.header "g", .data "0" ["0"], .data "a b" ["a", "b"]]

theorem wConstraint_rejected : readGraph witnessOracles wConstraint = .error .zeroWithConstraints := by decide +kernel

theorem wEdge_rejected : readGraph witnessOracles wEdge = .error .zeroWithData := by decide +kernel

/-- both files satisfy the hypothesis of `malformed_rejected` (non-vacuity in the zero-vertex case) -/
example : Malformed witnessOracles wConstraint :=
  .absentEdge ["a", "b"] "a" "b" (by decide) (by decide) (by
    intro t ws
    have : (countPart wConstraint).tail = [] := by decide +kernel
    rw [this]; exact List.not_mem_nil)

example : Malformed witnessOracles wEdge :=
  .badEdgeLine "a b" ["a", "b"] (by decide) (by decide)

/-- Whenever `read_graph` returns: the graph has no node and no edge key twice and its nodes are
exactly the endpoints of its edges, so `nodes.length` / `edges.length` are the node / edge counts; `n` and `m`
are stored and equal those counts; the edges are exactly the edge lines listed below the vertex-count line (last
weight wins); if the vertex-count line was `0` the graph is empty, has no constraint and `w` is the literal 0,
otherwise `w` is the width oracle on this graph. -/
theorem counts_match (o : Oracles S W Wd) (ls : List (Line S)) (g : PGraph S W Wd)
    (h : readGraph o ls = .ok g) :
    (g.nodes.Nodup ∧ (g.edges.map key).Nodup ∧ ∀ x, x ∈ g.nodes ↔ ∃ e ∈ g.edges, x = e.1 ∨ x = e.2.1) ∧
    g.n = some g.nodes.length ∧ g.m = some g.edges.length ∧
    (∀ x y z, (x, y, z) ∈ g.edges ↔ lastWeight (lineEdges o (countPart ls).tail) (x, y) = some z) ∧
    (ZeroCount o ls → g.nodes = [] ∧ g.edges = [] ∧ g.constraints = [] ∧ g.w = some o.zeroWidth) ∧
    (¬ ZeroCount o ls → g.w = some (o.width g.nodes g.edges)) := by
  obtain ⟨cl, body, n, hcp, hcv⟩ := readGraph_ok_count o ls g h
  obtain ⟨-, -, hz, rfl⟩ := (readGraph_ok_iff o g hcp hcv).1 h
  have hwf := buildGraph_WF (lineEdges o body)
  rw [zeroCount_iff o hcp hcv, hcp, List.tail_cons]
  refine ⟨⟨hwf.nodesNodup, hwf.keysNodup, hwf.nodesEq⟩, rfl, rfl, mem_buildGraph_edges _, ?_, ?_⟩
  · rintro rfl
    rw [if_pos rfl] at hz
    simp [blockGraph, hz.1, hz.2, buildGraph]
  · intro hn
    simp [blockGraph, hn]

/-- lines before the first `#` line — whatever they contain — are skipped silently -/
theorem leading_lines_ignored (o : Oracles S W Wd) (junk ls : List (Line S))
    (hj : ∀ l ∈ junk, l.isHash = false) : readGraphs o (junk ++ ls) = readGraphs o ls := by
  unfold readGraphs
  rw [splitBlocks_leading _ junk ls hj, splitBlocks_fuel ((junk ++ ls).length + 1) (ls.length + 1) ls]
  · simp only [List.length_append]; omega
  · omega

/-- a file without any `#` line yields no graph at all (and no error) -/
theorem no_header_no_graphs (o : Oracles S W Wd) (ls : List (Line S)) (h : ∀ l ∈ ls, l.isHash = false) :
    readGraphs o ls = .ok [] := by
  have := leading_lines_ignored o ls [] h
  rw [List.append_nil] at this
  rw [this]; rfl

/-! A concrete three-block file:

```
                                   (blank)
# graph 1
#S a b c
#S  a b c                          (duplicate)
#S c                               (single node: ignored)
# second header line
                                   (blank)
3
a b 1
b c 2
                                   (blank)
a b 5                              (listed again: weight 5 wins)
#cyclic
4
s x 1
x y 2
y x 3
y t 4
# empty
0
                                   (blank)
```
-/

def exO : Oracles String Int Nat :=
  { parseInt := fun s => [("3", (3 : Int)), ("4", 4), ("0", 0)].lookup s
    parseFloat := fun s => [("1", (1 : Int)), ("2", 2), ("3", 3), ("4", 4), ("5", 5)].lookup s
    width := fun _ es => es.length
    zeroWidth := 0 }

def exFile : FileDesc String :=
  { lead := 1
    blocks := [
      { hashes := [.header "graph 1", .subpath ["a", "b", "c"], .subpath ["a", "b", "c"], .subpath ["c"],
                   .header "second header line"]
        blanks := 1, countText := "3", countTokens := ["3"]
        body := [.edge "a b 1" "a" "b" "1", .edge "b c 2" "b" "c" "2", .blank, .edge "a b 5" "a" "b" "5"] },
      { hashes := [.header "cyclic"], blanks := 0, countText := "4", countTokens := ["4"]
        body := [.edge "s x 1" "s" "x" "1", .edge "x y 2" "x" "y" "2", .edge "y x 3" "y" "x" "3",
                 .edge "y t 4" "y" "t" "4"] },
      { hashes := [.header "empty"], blanks := 0, countText := "0", countTokens := ["0"], body := [.blank] } ] }

/-- the hypotheses of `parse_render` hold for the example file -/
theorem exFile_wf : ∀ b ∈ exFile.blocks, WFBlock exO b := by decide +kernel

/-- what `parse_render` then says, evaluated -/
example : readGraphs exO (render exFile) = .ok [
    { nodes := ["a", "b", "c"], edges := [("a", "b", 5), ("b", "c", 2)], id := some "graph 1",
      constraints := [[("a", "b"), ("b", "c")]], n := some 3, m := some 2, w := some 2 },
    { nodes := ["s", "x", "y", "t"], edges := [("s", "x", 1), ("x", "y", 2), ("y", "x", 3), ("y", "t", 4)],
      id := some "cyclic", constraints := [], n := some 4, m := some 4, w := some 4 },
    { nodes := [], edges := [], id := some "empty", constraints := [], n := some 0, m := some 0, w := some 0 } ] := by
  rw [parse_render exO exFile exFile_wf]; decide +kernel

/-- the malformed hypotheses are satisfiable in the non-zero case too: the same first block with the edge
line `b c 2` cut to `b c` -/
example : ∃ e, readGraph exO [.header "graph 1", .subpath ["a", "b", "c"], .data "3" ["3"],
    .data "a b 1" ["a", "b", "1"], .data "b c" ["b", "c"]] = .error e :=
  malformed_rejected exO _ (.badEdgeLine "b c" ["b", "c"] (by decide) (by decide))

end FP.Props.C20

/-!
## Character level: the `str` primitives behind the classified lines (`FP/Model/Lexer.lean`)

`Clean t`: `t` is non-empty and contains no character for which python's `str.isspace()` holds.
`joinSp ts` = `" ".join(ts)`.  `classify : String → Line String` is the line classifier (mirror of
`harness/props/c20.py: classify`, tied by suite `K1.lexer`).
-/
namespace FP.Props.C20
open FP.Parser FP.Lexer

/-- every token of `line.split()` is non-empty and contains no whitespace character -/
theorem splitWs_tokens_clean (cs : List Char) :
    ∀ t ∈ splitWs cs, t ≠ [] ∧ ∀ c ∈ t, isPySpace c = false := by
  show ∀ t ∈ splitWs cs, Clean t
  fun_induction splitWs cs with
  | case1 => simp
  | case2 c cs hc ih => exact ih
  | case3 c hc => simpa using Clean.cons hc (by simp)
  | case4 c hc d cs hd ih => simpa using ⟨Clean.cons hc (by simp), ih⟩
  | case5 c hc d cs hd he ih => simpa [he] using Clean.cons hc (by simp)
  | case6 c hc d cs hd t ts he ih =>
    rw [he] at ih ⊢
    simpa using ⟨Clean.cons hc (ih t (by simp)).2, fun x hx => ih x (by simp [hx])⟩

example : splitWs "\u00a0a\x1fb\u3000 \tc#\u2028".toList = ["a".toList, "b".toList, "c#".toList] := by decide +kernel

/-- `split` inverts `" ".join` on clean tokens, whatever whitespace runs surround the joined text -/
theorem splitWs_join (ts : List (List Char)) (pre post : List Char) (h : ∀ t ∈ ts, Clean t)
    (hpre : ∀ c ∈ pre, isPySpace c = true) (hpost : ∀ c ∈ post, isPySpace c = true) :
    splitWs (pre ++ joinSp ts ++ post) = ts := by
  rw [List.append_assoc, splitWs_ws_append _ _ hpre, splitWs_joinSp_ws _ h post hpost]

example : splitWs ("\u3000\x1f".toList ++ joinSp ["0".toList, "1".toList, "2.5".toList] ++ "\u0085\n".toList)
    = ["0".toList, "1".toList, "2.5".toList] := by decide +kernel

theorem classify_ofList (l : List Char) : classify (String.ofList l) = mapLine String.ofList (classifyL l) := by
  simp [classify]

/-- a rendered data line (clean tokens joined by single spaces, the first token not starting with `#`, any
whitespace before and after) lexes to exactly its tokens and its stripped text -/
theorem classify_data_line (t : List Char) (ts : List (List Char)) (pre post : List Char)
    (ht : Clean t) (hh : startsWith t ['#'] = false) (h : ∀ x ∈ ts, Clean x)
    (hpre : ∀ x ∈ pre, isPySpace x = true) (hpost : ∀ x ∈ post, isPySpace x = true) :
    classify (String.ofList (pre ++ joinSp (t :: ts) ++ post))
      = .data (String.ofList (joinSp (t :: ts))) ((t :: ts).map String.ofList) := by
  cases t with
  | nil => exact absurd rfl ht.1
  | cons c t0 =>
    have hc : c ≠ '#' := by
      intro e; subst e; simp [startsWith] at hh
    rw [classify_ofList, classifyL_data c t0 ts pre post hc ht h hpre hpost]
    rfl

/-- edge lines: `u v w` rendered with single spaces lexes to exactly the three tokens `[u, v, w]` -/
theorem classify_edge_line (u v w : List Char) (hu : Clean u) (hv : Clean v) (hw : Clean w)
    (hh : startsWith u ['#'] = false) :
    classify (String.ofList (u ++ ' ' :: (v ++ ' ' :: w)))
      = .data (String.ofList (u ++ ' ' :: (v ++ ' ' :: w))) [String.ofList u, String.ofList v, String.ofList w] := by
  have := classify_data_line u [v, w] [] [] hu hh
    (by intro x hx; simp at hx; rcases hx with rfl | rfl <;> assumption) (by simp) (by simp)
  simpa [joinSp] using this

example : classify "\u2003a\x00b 𝔘1\u00a0\t\x1c2.5e3\u3000\n"
    = .data "a\x00b 𝔘1\u00a0\t\x1c2.5e3" ["a\x00b", "𝔘1", "2.5e3"] := by decide +kernel

/-- `#S` lines: `"#S" ++ whitespace ++ " ".join(nodes)` (any whitespace before `#` and at the end) lexes to the
subpath line with exactly the tokens `nodes` -/
theorem classify_subpath_line (ns : List (List Char)) (pre sp post : List Char) (h : ∀ t ∈ ns, Clean t)
    (hpre : ∀ x ∈ pre, isPySpace x = true) (hsp : ∀ x ∈ sp, isPySpace x = true)
    (hpost : ∀ x ∈ post, isPySpace x = true) :
    classify (String.ofList (pre ++ '#' :: 'S' :: (sp ++ joinSp ns ++ post)))
      = .subpath (ns.map String.ofList) := by
  rw [classify_ofList, classifyL_subpath ns pre sp post h hpre hsp hpost]
  rfl

example : classify "\u205f#S\x1f s a\u2029t \n" = .subpath ["s", "a", "t"] := by decide +kernel
example : classify "#Sx y" = .subpath ["x", "y"] := by decide +kernel
example : classify "##S x" = .header "S x" := by decide +kernel
example : classify "\t# S#\u00a0" = .header "S#" := by decide +kernel

/-- a line is blank iff all its characters are python whitespace -/
theorem classify_blank_iff (s : String) : classify s = .blank ↔ ∀ c ∈ s.toList, isPySpace c = true := by
  rw [← classifyL_blank_iff]
  unfold classify
  cases classifyL s.toList <;> simp [mapLine]

example : classify "\u1680\x1d\u2028\u3000\x0b" = .blank := by decide +kernel
example : classify "\u200b" = .data "\u200b" ["\u200b"] := by decide +kernel

end FP.Props.C20

/-! ## Literal level: which tokens `int()` / `float()` accept (`FP/Model/Literals.lean`), tie: suite `K1.literals`

"A non-numeric weight or vertex count raises ValueError": `pyIntLit` / `pyFloatAccepts` mirror CPython's
recognition of `int(str)` (base 10, with the value) and `float(str)` (acceptance only; the binary64 value of an
accepted literal stays an oracle parameter of `FP/Model/Parser.lean`). -/
namespace FP.Props.C20
open FP.Literals

/-- the vertex-count line a writer prints is read back exactly: for every `n` with at most 4300 decimal digits
(CPython refuses longer int strings: `sys.get_int_max_str_digits()`), `int(str(n)) = n` -/
theorem pyIntLit_render_nat (n : Nat) (h : n < 10 ^ 4300) : pyIntLit (Nat.repr n).toList = some (n : Int) :=
  FP.Literals.pyIntLit_render_nat n h

/-- any non-empty string of at most 4300 ASCII digits (leading zeros allowed) is read as its decimal value -/
theorem pyIntLit_ascii_digits (l : List Char) (hne : l ≠ []) (h : ∀ c ∈ l, c.isDigit = true)
    (hlen : l.length ≤ 4300) : pyIntLit l = some (Nat.ofDigitChars 10 l 0 : Int) :=
  FP.Literals.pyIntLit_ascii_digits l hne h hlen

/-- non-numeric vertex count: a stripped token containing a character that is neither a decimal digit, an
underscore nor a sign is rejected (ValueError) — in particular alphabetic garbage -/
theorem pyIntLit_rejects_nondigit (cs : List Char) (c : Char) (hc : c ∈ stripL cs) (hd : pyDigitVal c = none)
    (hu : c ≠ '_') (hp : c ≠ '+') (hm : c ≠ '-') : pyIntLit cs = none :=
  FP.Literals.pyIntLit_rejects_nondigit cs c hc hd hu hp hm

/-- a sign is tolerated in first position only: a non-digit, non-underscore character after the first
character of the stripped token is rejected -/
theorem pyIntLit_rejects_nondigit_tail (cs : List Char) (a c : Char) (r : List Char) (hs : stripL cs = a :: r)
    (hc : c ∈ r) (hd : pyDigitVal c = none) (hu : c ≠ '_') : pyIntLit cs = none :=
  FP.Literals.pyIntLit_rejects_nondigit_tail cs a c r hs hc hd hu

/-- every token `int()` accepts is a valid weight for `float()` (non-ASCII digits, underscores, sign, padding
included; `float()` has no length limit) -/
theorem pyFloatAccepts_int (cs : List Char) (v : Int) (h : pyIntLit cs = some v) : pyFloatAccepts cs = true := by
  obtain ⟨hus, ds, hds, hne⟩ := pyIntLit_some_inv h
  rw [pyFloatAccepts, hus, floatBody_of_allDigits _ ds hds hne]; rfl

/-- empty and whitespace-only tokens are neither weights nor vertex counts -/
theorem pyFloatAccepts_rejects_empty (cs : List Char) (h : ∀ c ∈ cs, isLitSpace c = true) :
    pyFloatAccepts cs = false ∧ pyIntLit cs = none := by
  have hs := stripL_eq_nil cs h
  constructor
  · simp [pyFloatAccepts, hs, dropUs, splitSign, floatBody, spanDigits, isInfNan]
  · simp [pyIntLit, hs, dropUs, splitSign, allDigits, usOK]

example : pyIntLit "xyz".toList = none :=
  pyIntLit_rejects_nondigit _ 'y' (by decide) (by decide) (by decide) (by decide) (by decide)
example : pyIntLit " +1_000\n".toList = some 1000 := by decide +kernel
example : pyIntLit "-0_7".toList = some (-7) := by decide +kernel
example : pyIntLit "١٢".toList = some 12 ∧ pyFloatAccepts "١٢".toList = true := by decide +kernel
example : pyIntLit "１２".toList = some 12 ∧ pyIntLit "²".toList = none ∧ pyFloatAccepts "²".toList = false := by decide +kernel
example : pyIntLit "1__0".toList = none ∧ pyIntLit "_1".toList = none ∧ pyIntLit "1_".toList = none
    ∧ pyIntLit "+_1".toList = none ∧ pyIntLit "1 2".toList = none ∧ pyIntLit "0x10".toList = none
    ∧ pyIntLit "1-".toList = none ∧ pyIntLit "+".toList = none ∧ pyIntLit "".toList = none
    ∧ pyIntLit "1.0".toList = none := by decide +kernel
/-- U+001C..U+001F: `str.isspace()` holds (the lexer splits there) but `int()` / `float()` do not strip them -/
example : pyIntLit "\x1c1".toList = none ∧ pyFloatAccepts "1\x1f".toList = false
    ∧ pyIntLit "\u00a01\u3000".toList = some 1 := by decide +kernel
example : pyFloatAccepts "1_000.5".toList = true ∧ pyFloatAccepts "1._5".toList = false
    ∧ pyFloatAccepts "1e".toList = false ∧ pyFloatAccepts ".".toList = false ∧ pyFloatAccepts "+.5".toList = true
    ∧ pyFloatAccepts "1.e3".toList = true ∧ pyFloatAccepts "1 2".toList = false
    ∧ pyFloatAccepts "0x10".toList = false ∧ pyFloatAccepts "1e+_5".toList = false := by decide +kernel
example : pyFloatAccepts "nan".toList = true ∧ pyFloatAccepts "-Infinity".toList = true
    ∧ pyFloatAccepts "infinit".toList = false ∧ pyFloatAccepts "iNf".toList = true
    ∧ pyFloatAccepts "in_f".toList = false ∧ pyFloatAccepts "nan1".toList = false := by decide +kernel
example : pyFloatAccepts "1\x002".toList = false ∧ pyFloatAccepts "1\x00".toList = false
    ∧ pyIntLit "1\x00".toList = none := by decide +kernel
example : pyFloatAccepts "１.５e１".toList = true ∧ pyFloatAccepts "1_e5".toList = false
    ∧ pyFloatAccepts "1e5_".toList = false ∧ pyFloatAccepts "1_.5".toList = false
    ∧ pyFloatAccepts "._5".toList = false ∧ pyFloatAccepts "-.5e-3".toList = true
    ∧ pyFloatAccepts "e5".toList = false ∧ pyFloatAccepts ".e5".toList = false
    ∧ pyFloatAccepts "1.0.0".toList = false ∧ pyFloatAccepts "+ 5".toList = false := by decide +kernel
example : pyFloatAccepts " \t".toList = false ∧ pyIntLit " \t".toList = none :=
  pyFloatAccepts_rejects_empty _ (by decide)

end FP.Props.C20
