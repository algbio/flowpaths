import FP.Proofs.ReachTables
import FP.Proofs.Greedy
import FP.Proofs.AntichainMax
import FP.Proofs.C17Example
/-!
# C17 — substrate queries (reachability, antichain, bottleneck peeling) match the graph

Models: `FP/Model/Reach.lean` (stDiGraph queries with their memo dictionaries, stDAG closure tables),
`FP/Model/Bottleneck.lean` (`max_bottleneck_path`, `decompose_using_max_bottleneck`),
`FP/Model/Antichain.lean` (the extraction phases of `compute_max_edge_antichain`).
Values produced by networkx (`condensation`, `descendants`, `ancestors`, `topological_sort`) and
by `graphutils.min_cost_flow` are oracle parameters; the contracts are `CondContract`, `IsTopo` and
`FeasibleFlow`.
-/
namespace FP.Props.C17
open FP FP.Spec

/-- `nodes_reachable(v)` holds exactly the nodes reachable from `v`, for every labelling /
condensation / descendants table satisfying the networkx contract. -/
theorem reach_via_condensation (g : Graph) (o : CondOracle) (h : CondContract g o) (v : Node) (hv : v ∈ g.nodes)
    (w : Node) : w ∈ nodesReachableFn g o v ↔ Reach g.edges v w := by
  -- `nx.descendants` leaves the component itself out; the query puts it back
  rw [nodesReachableFn, mem_sccUnion, h.desc, ne_and_or_eq_iff fun e => e ▸ Reach.refl _]
  exact ⟨fun ⟨hw, hr⟩ => (h.reach_iff hv hw).1 hr, fun hr => ⟨h.reach_nodes hv hr, h.reach_proj hr⟩⟩

/-- `nodes_reaching(v)` holds exactly the nodes of the graph from which `v` is reachable. -/
theorem reaching_via_condensation (g : Graph) (o : CondOracle) (h : CondContract g o) (v : Node) (hv : v ∈ g.nodes)
    (w : Node) : w ∈ nodesReachingFn g o v ↔ (w ∈ g.nodes ∧ Reach g.edges w v) := by
  rw [nodesReachingFn, mem_sccUnion, h.anc, ne_and_or_eq_iff fun e => e ▸ Reach.refl _]
  exact and_congr_right fun hw => h.reach_iff hw hv

/-- `is_scc_edge(u, v)` on an edge of the graph: true iff the edge closes a cycle, i.e. `u` is
reachable back from `v`. Convention of the code: a self-loop `(u, u)` is an SCC edge (its
component is "non-trivial" although it has one node); an edge between different components is not. -/
theorem scc_edge_iff (g : Graph) (o : CondOracle) (h : CondContract g o) (u v : Node) (he : (u, v) ∈ g.edges) :
    isSccEdgeFn o u v = true ↔ Reach g.edges v u := by
  have hwf := h.wf (u, v) he
  unfold isSccEdgeFn
  simp only [decide_eq_true_eq]
  rw [h.scc u hwf.1 v hwf.2]
  exact ⟨fun hh => hh.2, fun hh => ⟨Reach.single he, hh⟩⟩

/-- `compute_edge_max_reachable_value`: `x` lies below the value of `e` iff `x ≤ 0` (the floor the
code starts from) or `x` lies below the weight of an edge in the scope of `e` — `e` itself, an edge
whose tail is reachable from the head of `e`, an edge whose head reaches the tail of `e`. For
non-negative weights the value therefore is the maximum weight over that scope (upper bound and
attained). -/
theorem edge_max_reachable_correct (g : Graph) (o : CondOracle) (h : CondContract g o) (wt : Edge → Rat)
    (e : Edge) (he : e ∈ g.edges) :
    (∀ x, x ≤ edgeMaxFn g o wt e ↔ x ≤ 0 ∨ ∃ e' ∈ g.edges, InScope g e e' ∧ x ≤ wt e') ∧
    ((∀ e ∈ g.edges, 0 ≤ wt e) →
      (∀ e' ∈ g.edges, InScope g e e' → wt e' ≤ edgeMaxFn g o wt e) ∧
      (∃ e' ∈ g.edges, InScope g e e' ∧ wt e' = edgeMaxFn g o wt e)) :=
  ⟨edgeMax_char g o h wt e he, fun hnn => edgeMax_is_max g o h wt hnn e he⟩

/-- The memo dictionaries are transparent: for every query sequence, in whatever order and
however often repeated, the object (starting with empty caches) answers each query exactly as the
cache-free computation does. (Invariant: every cached entry is the value of the pure function.) -/
theorem cache_transparent (g : Graph) (o : CondOracle) (qs : List Query) :
    (qrun g o {} qs).2 = qs.map (pureAnswer g o) :=
  (qrun_ok g o qs {} (cacheOK_empty g o)).2

example : (qrun C17Example.g C17Example.o {} C17Example.queries).2 =
    [.nodes ["c", "a", "b"], .nodes ["a", "b", "c"], .nodes ["c", "a", "b"], .bool true, .bool false, .valueError,
     .vals [(("a", "b"), 5), (("b", "a"), 5), (("b", "c"), 5)]] := C17Example.answers

example : Reach C17Example.g.edges "a" "c" :=
  (reach_via_condensation _ _ C17Example.contract "a" (by decide) "c").1 (by decide)

/-- `stDAG`: for every order satisfying the topological-order contract, the four tables built by
sweeping the order hold at every listed node exactly the reachability sets. -/
theorem dag_tables_correct (g : Graph) (topo : List Node) (h : IsTopo g.edges topo) (v : Node) (hv : v ∈ topo) :
    (∀ x, x ∈ (dagReachNodes g topo).get v ↔ Reach g.edges v x) ∧
    (∀ x, x ∈ (dagNodesReaching g topo).get v ↔ Reach g.edges x v) ∧
    (∀ e, e ∈ (dagReachEdges g topo).get v ↔ (e ∈ g.edges ∧ Reach g.edges v e.1)) ∧
    (∀ e, e ∈ (dagReachEdgesRev g topo).get v ↔ (e ∈ g.edges ∧ Reach g.edges e.2 v)) :=
  ⟨dagReachNodes_correct g topo h v hv, dagNodesReaching_correct g topo h v hv,
   dagReachEdges_correct g topo h v hv, dagReachEdgesRev_correct g topo h v hv⟩

example : IsTopo C17Example.d.edges C17Example.dtopo := C17Example.d_topo
example : (dagReachNodes C17Example.d C17Example.dtopo).get "s" = ["s", "a", "t", "b"] := C17Example.d_tables.1

/-- `max_bottleneck_path` on any DAG (topological order satisfying the contract) and any edge
values — the complete case analysis (`BottleneckSpec`):
* `(None, None)`: either there is no source-to-sink path with at least one edge at all (no node has
  an in-edge and no out-edge, e.g. a graph without edges), or every source-to-sink path has an edge of
  value `≤ 0` and some path has only values `≥ 0` and the value `0` on one edge (best bottleneck
  exactly `0`);
* `(q, p)`: `q ≠ 0`, `p` is a source-to-sink path whose smallest edge value is `q`, and every
  source-to-sink path has an edge of value `≤ q` (so `q` is the best bottleneck);
* the model-internal fuel never runs out.

Conversely `(None, None)` is returned **iff** no source-to-sink path has a positive bottleneck and,
unless no source-to-sink path exists, some path has a non-negative one (a negative best bottleneck
is returned as a path); for non-negative edge values: iff no source-to-sink path has a positive
bottleneck — the case that no path exists at all included. -/
theorem bottleneck_path_correct (g : Graph) (f : Edge → Rat) (topo : List Node) (h : IsTopo g.edges topo) :
    BottleneckSpec g f (maxBottleneckPath g f topo) ∧
    (maxBottleneckPath g f topo = .none ↔
      (∀ p, IsSTPath g p → ∃ e ∈ walkEdges p, f e ≤ 0) ∧
      ((∃ p, IsSTPath g p) → ∃ p, IsSTPath g p ∧ ∀ e ∈ walkEdges p, 0 ≤ f e)) ∧
    ((∀ e ∈ g.edges, 0 ≤ f e) →
      (maxBottleneckPath g f topo = .none ↔ ∀ p, IsSTPath g p → ∃ e ∈ walkEdges p, f e ≤ 0)) :=
  ⟨maxBottleneckPath_spec f h, maxBottleneckPath_none_iff f h,
   maxBottleneckPath_none_iff_nonneg f h⟩

example : maxBottleneckPath C17Example.d C17Example.dflow C17Example.dtopo = .path 3 ["s", "a", "t"] :=
  C17Example.d_bottleneck

/-- Loop invariant of `decompose_using_max_bottleneck`, for any input: whenever the peeling stops, the input equals the residual plus
the peeled paths counted with their weights on every edge; every peeled path is a source-to-sink
path with non-zero weight; on the residual every source-to-sink path has an edge of value `≤ 0`. -/
theorem greedy_invariant (g : Graph) (f : Edge → Rat) (topo : List Node) (htopo : IsTopo g.edges topo)
    (r : Peeled) (h : decompose g f topo = .done r) :
    (∀ e, f e = r.residual e + peeledSum r.paths e) ∧
    (∀ pw ∈ r.paths, IsSTPath g pw.1 ∧ pw.2 ≠ 0) ∧
    (∀ p, IsSTPath g p → ∃ e ∈ walkEdges p, r.residual e ≤ 0) :=
  decompose_invariant g f topo htopo r h

example : ∃ r, decompose C17Example.d C17Example.dflow C17Example.dtopo = .done r ∧
    r.paths = [(["s", "a", "t"], 3), (["s", "b", "t"], 2)] ∧ ∀ e ∈ C17Example.d.edges, r.residual e = 0 :=
  C17Example.d_decompose

/-- Greedy peeling is exact. On every DAG with distinct edges (a graph without
edges included, see `greedy_edgeless_empty`), `topo` any order satisfying the topological-order
contract, and a non-negative flow conserved at every node that has both in- and out-edges: the
`while True` loop stops within the fuel `|E| + 1` (each round zeroes another edge), the residual
vanishes, every returned path is a source-to-sink path of the graph with positive weight, and
`Σ_i w_i · [e ∈ p_i] = f(e)` on every edge. -/
theorem greedy_exact (g : Graph) (hnd : g.edges.Nodup) (topo : List Node)
    (htopo : IsTopo g.edges topo) (f : Edge → Rat) (hnn : ∀ e ∈ g.edges, 0 ≤ f e) (hc : Conserving g f) :
    ∃ r, decompose g f topo = .done r ∧ (∀ e ∈ g.edges, r.residual e = 0) ∧
      (∀ e ∈ g.edges, peeledSum r.paths e = f e) ∧ (∀ pw ∈ r.paths, IsSTPath g pw.1 ∧ 0 < pw.2) :=
  decompose_exact g hnd topo htopo f hnn hc

example : ∃ r, decompose C17Example.d C17Example.dflow C17Example.dtopo = .done r ∧
    (∀ e ∈ C17Example.d.edges, r.residual e = 0) ∧
    (∀ e ∈ C17Example.d.edges, peeledSum r.paths e = C17Example.dflow e) ∧
    (∀ pw ∈ r.paths, IsSTPath C17Example.d pw.1 ∧ 0 < pw.2) :=
  greedy_exact C17Example.d (by decide) C17Example.dtopo C17Example.d_topo' C17Example.dflow
    C17Example.d_nonneg C17Example.d_conserving

/-- on a graph without edges (any nodes, any order, any `f`) `max_bottleneck_path` answers
`(None, None)` and `decompose_using_max_bottleneck` returns `([], [])` leaving `f` untouched. -/
theorem greedy_edgeless_empty (g : Graph) (he : g.edges = []) (topo : List Node) (f : Edge → Rat) :
    maxBottleneckPath g f topo = .none ∧ decompose g f topo = .done { paths := [], residual := f } := by
  have hp : ∀ v, g.pred v = [] := by intro v; simp [Graph.pred, he]
  have hb : (bTable g f topo).best = none := bTable_best_none g f hp topo bInit rfl
  have hm := mbp_noSink g f topo hb
  refine ⟨hm, ?_⟩
  unfold decompose
  rw [he]
  simp only [List.length_nil, Nat.zero_add]
  unfold peelLoop
  rw [hm]

example : decompose { nodes := ["a", "b"], edges := [] } C17Example.dflow ["a", "b"] =
    .done { paths := [], residual := C17Example.dflow } :=
  (greedy_edgeless_empty _ rfl _ _).2

/-- Soundness of `compute_max_edge_antichain`: whatever `(minFlowCost, minFlow)` the solver returned, if the two DFS phases run
to completion the returned edges are edges of the graph carrying exactly their demand (`≥ 1`), they
leave a set that contains the source, not the sink, and is closed under predecessors, and they
are pairwise incomparable: the head of none reaches the tail of another. -/
theorem antichain_sound (a : ACInput) (A : List Edge) (h : acExtract a = .ok (some A)) :
    ∃ vis1 : Node → Nat, acVisited a = .ok (some vis1) ∧
      (∀ u, vis1 u ≠ 0 → ∀ v, (v, u) ∈ a.g.edges → vis1 v ≠ 0) ∧ vis1 a.source ≠ 0 ∧ vis1 a.sink = 0 ∧
      (∀ e ∈ A, ACGood a vis1 e) ∧ IsEdgeAntichain a.g A :=
  acExtract_sound a A h

example : IsEdgeAntichain C17Example.ac.g [("a", "b"), ("a", "c")] :=
  (antichain_sound C17Example.ac _ C17Example.ac_extract_eq).choose_spec.2.2.2.2.2

/-- the fuel `2·|E| + 2` handed to each DFS phase always suffices: the extraction either trips the
`assert u != self.sink` or returns a list -/
theorem antichain_fuel (a : ACInput) : acExtract a ≠ .ok none := by
  unfold acExtract
  cases hv : acVisited a with
  | error e => simp
  | ok o =>
    cases o with
    | none =>
      exfalso
      unfold acVisited at hv
      exact acPhase1_fuel a _ _ _ (acPhi_init a 0 _) hv
    | some vis =>
      simp only
      intro h
      have : acPhase2 a (acFuel a) [a.source] vis [] = none := by simpa using h
      exact acPhase2_fuel a _ _ _ _ (acPhi_init a 1 _) this

/-- Maximality, by weak duality. In the augmented DAG (distinct nodes, closed edge set, source
without in-edges, sink without out-edges) with non-negative demands: if `minFlow` is feasible
(at least the demand everywhere, conserved at inner nodes), `minFlowCost` is its value, and the
final `assert` of the code held, then the returned list is an antichain whose total demand equals
`minFlowCost` and no duplicate-free edge antichain has larger total demand — so the reported
optimum, the weight of the returned antichain and the true maximum coincide. (`useLen` is the
`assert minFlowCost == len(antichain)` branch of the default 0/1 demands.) -/
theorem antichain_max (a : ACInput) (hN : a.g.nodes.Nodup)
    (hwf : ∀ e ∈ a.g.edges, e.1 ∈ a.g.nodes ∧ e.2 ∈ a.g.nodes) (topo : List Node) (htopo : IsTopo a.g.edges topo)
    (hsrc : a.source ∈ a.g.nodes) (hps : a.g.pred a.source = []) (hss : a.g.succ a.sink = [])
    (hne : a.source ≠ a.sink) (hd : ∀ e ∈ a.g.edges, 0 ≤ a.demand e)
    (hx : FeasibleFlow a.g a.source a.sink a.demand a.flow) (cost : Rat) (hcost : cost = flowValue a.g a.source a.flow)
    (useLen : Bool) (hlen : useLen = true → ∀ e ∈ a.g.edges, a.demand e ≤ 1)
    (A : List Edge) (h : acResult a cost useLen = .ok (some A)) :
    IsEdgeAntichain a.g A ∧ (A.map a.demand).sum = cost ∧
      ∀ A', IsEdgeAntichain a.g A' → A'.Nodup → (A'.map a.demand).sum ≤ (A.map a.demand).sum :=
  acResult_max a hN hwf topo htopo hsrc hps hss hne hd hx cost hcost useLen hlen A h

example : ∀ A', IsEdgeAntichain C17Example.ac.g A' → A'.Nodup →
    (A'.map C17Example.ac.demand).sum ≤ ([("a", "b"), ("a", "c")].map C17Example.ac.demand).sum :=
  (antichain_max C17Example.ac (by decide) (by decide) C17Example.actopo C17Example.ac_topo (by decide) (by decide)
    (by decide) (by decide) (by decide +kernel) C17Example.ac_feasible 5 C17Example.ac_cost false (by simp) _
    C17Example.ac_result_eq).2.2

/-- the executable order check run by the driver before every table / DP evaluation implies the
contract `IsTopo` used by the theorems above -/
theorem topo_check_sound (nodes : List Node) (es : List Edge) (order : List Node)
    (h : checkTopo nodes es order = true) : IsTopo es order := checkTopo_sound nodes es order h

end FP.Props.C17
