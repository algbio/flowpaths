import FP.Proofs.Search
import FP.Proofs.DecompExample
import FP.Proofs.FlowDecompExists
import FP.Proofs.DecompManyPaths
import FP.Proofs.GreedyShortcut
import FP.Proofs.C17Example
import FP.Proofs.PathCoreComplete
/-!
# C03 — MinFlowDecomp (DAG) finds a decomposition with the fewest paths

`inp : FlowInput` is the user's DAG with its flow values, ignore list, weight type and subpath
constraints; `inp.withK k` is the `kFlowDecomp` model `MinFlowDecomp.solve` builds in iteration `k`.
`HasDecomp inp k` is the specification-level statement "the flow on the non-ignored edges is a sum of `k`
weighted source-to-sink paths with non-negative weights of the requested type, each subpath constraint
contained in one of them" (`FP/Spec/Decomp.lean`). `PlainCfg inp` = the configurations `MinFlowDecomp`
uses by default (no empty paths, coverage 1 in edges, no position variables, constraints over graph edges).
-/
namespace FP.Props.C03
open FP FP.Spec FP.Search FP.MFD

/-- **completeness of the k-model.** Every decomposition into `k` weighted paths with weights in the
box `[0, w_max]` — edge variables = indicator of the path, `w` = weights, `pi` = products, `r` = constraint
containment — is a feasible assignment of the `kFlowDecomp` MILP. -/
theorem kfd_complete (inp : FlowInput) (k : Nat) (h : BaseWF inp.base) (hac : Acyclic inp.base)
    (hcfg : PlainCfg inp) (P : Nat → List Node) (w : Nat → Rat)
    (hd : IsDecomp inp k P w) (hb : ∀ i, i < k → w i ≤ inp.wmax) :
    Sat (decompAsg inp.st inp.cfg.constraints P w) (kfdLP (inp.withK k)) := by
  apply sat_kfdLP (inp.withK k)
  · exact sat_encodePaths_of_stwalks inp.st (inp.withK k).cfg _ (h.stwf hac) hcfg.noPos hcfg.noCovLen
      hcfg.coverage (fun i => inp.st.source :: P i ++ [inp.st.sink])
      (fun i hi => isSTWalk_of_isWalkIn (hd.walk i hi))
      (fun i _ e => (decompAsg_edge inp.st inp.cfg.constraints P w e i).trans (traversals_eq_cntR _ e))
      (fun i _ j hj => decompAsg_r_ind inp.st inp.cfg.constraints P w i j hj) hd.constraints
  · intro i hi
    rw [decompAsg_w]; exact ⟨hd.wnonneg i hi, hb i hi⟩
  · intro hint i hi
    rw [decompAsg_w]; exact hd.wint hint i hi
  · intro e _ i _
    rw [decompAsg_pi, decompAsg_w, decompAsg_edge]; exact Rat.mul_comm _ _
  · intro e he
    simp only [decompAsg_pi]
    exact hd.explains e he

/-- soundness of the k-model including weight type and subpath constraints (extends `C02.kfd_exact`) -/
theorem kfd_sound (inp : FlowInput) (k : Nat) (h : BaseWF inp.base) (hac : Acyclic inp.base)
    (hcfg : PlainCfg inp) (a : Asg) (hsat : Sat a (kfdLP (inp.withK k))) : HasDecomp inp k := by
  have henc : Sat a (encodePaths inp.st (inp.withK k).cfg) := sat_append_left hsat
  obtain ⟨ps, hps, _, hw, hex⟩ := kfd_exact (inp.withK k) a h hac hsat
  have hr := (routes_of_decode inp.st (inp.withK k).cfg a (h.stwf hac) henc hps).2
  refine ⟨fun i => ps.getD i [], fun i => a (wVar i),
    ⟨fun i hi => Route.walk (hcfg.noEmpty ▸ (hr i hi).1), fun i hi => (hw i hi).1,
      fun hint i hi => (kfd_weight_cols a hsat hi).2.2 hint, hex,
      route_contains inp.st (inp.withK k).cfg a henc _ (fun i hi => (hr i hi).2) hcfg.noCovLen hcfg.coverage
        hcfg.consEdges⟩,
    fun i hi => (hw i hi).2⟩

/-- The `kFlowDecomp` model for `k` is feasible exactly when a decomposition into `k` paths exists. -/
theorem kfd_feasible_iff (inp : FlowInput) (k : Nat) (h : BaseWF inp.base) (hac : Acyclic inp.base)
    (hcfg : PlainCfg inp) : (∃ a, Sat a (kfdLP (inp.withK k))) ↔ HasDecomp inp k :=
  ⟨fun ⟨a, ha⟩ => kfd_sound inp k h hac hcfg a ha,
    fun ⟨P, w, hd, hb⟩ => ⟨_, kfd_complete inp k h hac hcfg P w hd hb⟩⟩

/-- **adequacy of the box, paths through an active edge.** In any decomposition the weight of a path through at least one
active edge is at most the largest flow value. -/
theorem decomp_weights_le_wmax (inp : FlowInput) (k : Nat) (P : Nat → List Node) (w : Nat → Rat)
    (hd : IsDecomp inp k P w) (i : Nat) (hi : i < k) (e : Edge) (he : e ∈ inp.activeEdges)
    (hon : e ∈ walkEdges (inp.st.source :: P i ++ [inp.st.sink])) : w i ≤ inp.wmax :=
  FP.decomp_weights_le_wmax inp k P w hd i hi e he hon

/-- **adequacy of the box, all paths.** Paths through no active edge (the route through an isolated
node, paths of ignored edges only) can be given weight 0: a decomposition with unbounded weights exists
iff one within the box exists. -/
theorem decomp_bound_wlog (inp : FlowInput) (k : Nat) : HasDecompFree inp k ↔ HasDecomp inp k :=
  ⟨FP.decomp_bound_wlog inp k, fun ⟨P, w, hd, _⟩ => ⟨P, w, hd⟩⟩

/-- From `k ≥ 1` paths to `k + 1`: repeat a path with weight 0. -/
theorem decomp_monotone (inp : FlowInput) (k : Nat) (hk : 1 ≤ k) (h : HasDecomp inp k) :
    HasDecomp inp (k + 1) :=
  FP.decomp_monotone_le inp k (k + 1) hk (Nat.le_succ k) h

/-- **soundness of the search.** If every `optimal`/`infeasible` the solver reports is true and no
decomposition with fewer than `lo` paths exists, an answer `k` of the search `range(lo, hi)` is the
minimum number of paths. (Inconclusive statuses may occur anywhere: then there is no answer, C13.) -/
theorem mfd_search_minimal (inp : FlowInput) (h : BaseWF inp.base) (hac : Acyclic inp.base)
    (hcfg : PlainCfg inp) (σ : Nat → Status) (hf : Faithful inp σ) (lo hi k : Nat)
    (hlo : ∀ j, j < lo → ¬ HasDecomp inp j)
    (hs : (stopSearch σ lo hi).solved = some k) :
    IsMinDecomp inp k ∧ lo ≤ k ∧ k < hi := by
  have hiff := fun j => kfd_feasible_iff inp j h hac hcfg
  obtain ⟨h1, h2, h3, h4⟩ := stopSearch_minimal (HasDecomp inp) σ lo hi k
    (fun j hj => (hiff j).1 ((hf j).1 hj)) (fun j hj hd => (hf j).2 hj ((hiff j).2 hd)) hlo hs
  exact ⟨⟨h1, h2⟩, h3, h4⟩

/-- **completeness of the search.** With a solver that always finishes, the search returns the
minimum `k*` whenever `lo ≤ k* < hi`. -/
theorem mfd_search_finds (inp : FlowInput) (h : BaseWF inp.base) (hac : Acyclic inp.base)
    (hcfg : PlainCfg inp) (σ : Nat → Status) (hd : Decisive inp σ) (lo hi k : Nat)
    (hmin : IsMinDecomp inp k) (h1 : lo ≤ k) (h2 : k < hi) :
    (stopSearch σ lo hi).solved = some k := by
  have hiff := fun j => kfd_feasible_iff inp j h hac hcfg
  exact stopSearch_finds_minimum (HasDecomp inp) σ lo hi k (fun j hj => (hd j).1 ((hiff j).2 hj))
    (fun j hj => (hd j).2 (fun hfe => hj ((hiff j).1 hfe))) h1 h2 hmin.1 hmin.2

/-- `k` weighted paths produce at most `2^k` distinct values on the active edges, however the
values are read (`g` = identity or python's `int`): so `ceil(log2 #distinct) ≤ k`. -/
theorem lb_log_valid {α : Type} (g : Rat → α) (inp : FlowInput) (k : Nat)
    (h : BaseWF inp.base) (hac : Acyclic inp.base) (P : Nat → List Node) (w : Nat → Rat)
    (hd : IsDecomp inp k P w) (vals : List α) (hnd : vals.Nodup)
    (hv : ∀ v ∈ vals, ∃ e ∈ inp.activeEdges, g (inp.f e) = v) :
    vals.length ≤ 2 ^ k ∧ (1 ≤ vals.length → clog2 vals.length ≤ k) := by
  have hsub : vals ⊆ (subsetSums w k).map g := by
    intro v hvm
    obtain ⟨e, he, rfl⟩ := hv v hvm
    exact List.mem_map.2 ⟨inp.f e, flow_values_subset_sums inp k h hac P w hd e he, rfl⟩
  have := hnd.length_le_of_subset hsub
  rw [List.length_map, length_subsetSums] at this
  exact ⟨this, fun h1 => clog2_le _ _ h1 this⟩

/-- the multiset formulation: every active edge's value is one of the `2^k` subset sums of the weights -/
theorem lb_log_subset_sums (inp : FlowInput) (k : Nat) (h : BaseWF inp.base) (hac : Acyclic inp.base)
    (P : Nat → List Node) (w : Nat → Rat) (hd : IsDecomp inp k P w) :
    (∀ e ∈ inp.activeEdges, inp.f e ∈ subsetSums w k) ∧ (subsetSums w k).length = 2 ^ k :=
  ⟨FP.flow_values_subset_sums inp k h hac P w hd, FP.length_subsetSums w k⟩

/-- An antichain of active edges with positive flow forces one path per edge. -/
theorem lb_antichain_valid (inp : FlowInput) (k : Nat) (P : Nat → List Node) (w : Nat → Rat)
    (hd : IsDecomp inp k P w) (A : List Edge) (hA : IsAntichain inp.st A)
    (hact : ∀ e ∈ A, e ∈ inp.activeEdges) (hpos : ∀ e ∈ A, 0 < inp.f e) : A.length ≤ k :=
  FP.lb_antichain_valid inp k P w hd A hA hact hpos

/-- the model of `get_lowerbound_k` returns a value below every `m` that bounds all its ingredients
(the generating-set ingredient only counts when the ignore list is empty, as in the code) -/
theorem lowerboundK_valid (x : LBIn) (m lb : Nat) (hopt : x.optLb.getD 1 ≤ m)
    (hlog : distinctInt x.flows ≤ 2 ^ m) (hwidth : x.width ≤ m)
    (hmgs : x.ignoreEmpty = true → x.useMgs = true → ∀ s, x.mgs = some s → s ≤ m)
    (hscan : x.useScan = true → ∀ s, x.scan = some s → s ≤ m)
    (h : lowerboundK x = .value lb) : lb ≤ m :=
  LBOut.value.inj h ▸ FP.lowerboundN_valid x m hopt hlog hwidth hmgs hscan

/-- **C03 over the model of `solve`.** True minimum `m ≤ |E| + #constraints`, valid lower-bound
ingredients, a solver that always finishes: the modelled `MinFlowDecomp.solve` returns `m`. -/
theorem mfd_solve_returns_min (inp : FlowInput) (h : BaseWF inp.base) (hac : Acyclic inp.base)
    (hcfg : PlainCfg inp) (σ : Nat → Status) (hd : Decisive inp σ) (x : LBIn) (numEdges numCons m : Nat)
    (hmin : IsMinDecomp inp m) (hm : m ≤ numEdges + numCons)
    (hopt : x.optLb.getD 1 ≤ m) (hlog : distinctInt x.flows ≤ 2 ^ m) (hwidth : x.width ≤ m)
    (hmgs : x.ignoreEmpty = true → x.useMgs = true → ∀ s, x.mgs = some s → s ≤ m)
    (hscan : x.useScan = true → ∀ s, x.scan = some s → s ≤ m) :
    (MFD.solve x numEdges numCons σ).solved = some m := by
  unfold MFD.solve
  exact mfd_search_finds inp h hac hcfg σ hd _ _ m hmin
    (FP.lowerboundN_valid x m hopt hlog hwidth hmgs hscan) (by unfold searchHi; omega)

/-- **flow decomposition theorem on s-t DAGs.** A non-negative flow `φ` on a well-formed s-t DAG of the
shape `augment` produces (`Thin`), conserved at every inner node, is the sum of at most
`#(inner edges with positive flow)` weighted source-to-sink paths with positive weights — integers when
`φ` is integral. -/
theorem flow_decomposition_exists (s : STGraph) (hwf : STWF s) (hth : Thin s) (isInt : Bool)
    (φ : Edge → Rat) (hf : FlowOn s φ) (hint : isInt = true → ∀ e ∈ s.g.edges, ∃ z : Int, φ e = z) :
    ∃ D : List (List Node × Rat), D.length ≤ posInner s φ ∧
      (∀ d ∈ D, IsWalkIn s.g (s.source :: d.1 ++ [s.sink]) ∧ 0 < d.2 ∧ (isInt = true → ∃ z : Int, d.2 = z)) ∧
      ExplainsL s D φ :=
  FP.flow_decomp_general s hwf hth isInt φ hf hint

/-- **a decomposition always exists and the minimum is at most `|E|`.** For a non-negative flow on a
well-formed user DAG that is conserved at every node having both in- and out-edges (no additional
starts/ends, no subpath constraints; integer flow values when integer weights are requested; any ignore
list): the minimum number of paths `m` exists and `m ≤ |E|`, i.e. it lies inside `range(lb, |E| + 1)`
for every valid lower bound. -/
theorem mfd_total (inp : FlowInput) (h : BaseWF inp.base) (hac : Acyclic inp.base)
    (hci : ConservingInput inp) (hnocons : inp.cfg.constraints = [])
    (hint : inp.weightInt = true → ∀ e ∈ inp.base.edges, ∃ z : Int, inp.f e = z) :
    ∃ m, m ≤ inp.base.edges.length ∧ IsMinDecomp inp m := by
  have hagree : ∀ e ∈ inp.activeEdges, extendUser inp.base inp.f e = inp.f e := fun e he =>
    let ⟨hm, h1, h2, _⟩ := active_mem he
    extendUser_base h _ e ((aug_inner_edge_iff h).1 ⟨hm, h1, h2⟩)
  obtain ⟨k, hk, hd⟩ := hasDecomp_of_flow inp h hac (thin_st h hci.noStarts hci.noEnds) hnocons
    _ (flowOn_extendUser h hci) hagree fun hI => isInt_extendUser h _ (hint hI)
  obtain ⟨m, hm, hqm, hmin⟩ := exists_least (HasDecomp inp) k hd
  exact ⟨m, by omega, hqm, hmin⟩

/-- **existence with subpath constraints.** If moreover every subpath constraint lies on some
source-to-sink path (`Coverable` — necessary for any decomposition to exist), the minimum exists and is at
most `|E| + #constraints`: a constraint-free decomposition plus one weight-0 path per constraint. -/
theorem mfd_total_constraints (inp : FlowInput) (h : BaseWF inp.base) (hac : Acyclic inp.base)
    (hci : ConservingInput inp) (hcov : Coverable inp)
    (hint : inp.weightInt = true → ∀ e ∈ inp.base.edges, ∃ z : Int, inp.f e = z) :
    ∃ m, m ≤ inp.base.edges.length + inp.cfg.constraints.length ∧ IsMinDecomp inp m := by
  obtain ⟨m0, hm0, hmin0⟩ := mfd_total inp.noCons h hac
    ⟨hci.noStarts, hci.noEnds, hci.nonneg, hci.cons⟩ rfl hint
  obtain ⟨m, hm, hqm, hmin⟩ := exists_least (HasDecomp inp) _ (add_constraint_paths inp m0 hmin0.1 hcov)
  have hE : inp.noCons.base.edges.length = inp.base.edges.length := rfl
  exact ⟨m, by omega, hqm, hmin⟩

theorem coverable_necessary (inp : FlowInput) (k : Nat) (h : HasDecomp inp k) : Coverable inp := by
  obtain ⟨P, w, hd, _⟩ := h
  intro con hcon
  obtain ⟨i, hi, hc⟩ := hd.constraints con hcon
  exact ⟨P i, hd.walk i hi, hc⟩

/-- **C03 end to end over the model, subpath constraints included.** Conserving non-negative flow, subpath
constraints (coverage 1) each on some source-to-sink path, lower-bound ingredients that are valid for the
minimum, a solver that always finishes: the modelled `MinFlowDecomp.solve` — search over
`range(lb, |E| + #constraints + 1)` — succeeds and returns the minimum number of paths. -/
theorem mfd_solve_succeeds (inp : FlowInput) (h : BaseWF inp.base) (hac : Acyclic inp.base)
    (hcfg : PlainCfg inp) (hci : ConservingInput inp) (hcov : Coverable inp)
    (hint : inp.weightInt = true → ∀ e ∈ inp.base.edges, ∃ z : Int, inp.f e = z)
    (σ : Nat → Status) (hd : Decisive inp σ) (x : LBIn)
    (hvalid : ∀ m, IsMinDecomp inp m → x.optLb.getD 1 ≤ m ∧ distinctInt x.flows ≤ 2 ^ m ∧ x.width ≤ m ∧
      (x.ignoreEmpty = true → x.useMgs = true → ∀ s, x.mgs = some s → s ≤ m) ∧
      (x.useScan = true → ∀ s, x.scan = some s → s ≤ m)) :
    ∃ m, (MFD.solve x inp.base.edges.length inp.cfg.constraints.length σ).solved = some m ∧
      IsMinDecomp inp m := by
  obtain ⟨m, hm, hmin⟩ := mfd_total_constraints inp h hac hci hcov hint
  obtain ⟨h1, h2, h3, h4, h5⟩ := hvalid m hmin
  exact ⟨m, mfd_solve_returns_min inp h hac hcfg σ hd x _ _ m hmin hm h1 h2 h3 h4 h5, hmin⟩

/-- a further valid lower bound (not used by the code): subpath constraints that pairwise leave a common
node by different edges need one path each -/
theorem lb_constraints_valid (inp : FlowInput) (h : BaseWF inp.base) (hac : Acyclic inp.base) (k : Nat)
    (P : Nat → List Node) (w : Nat → Rat) (hd : IsDecomp inp k P w) (C : List (List Edge))
    (hC : ∀ c ∈ C, c ∈ inp.cfg.constraints) (hnd : C.Nodup)
    (hinc : ∀ c1 ∈ C, ∀ c2 ∈ C, c1 ≠ c2 → DecompManyPaths.Incompat c1 c2 = true) : C.length ≤ k :=
  FP.lb_constraints inp h hac k P w hd C hC hnd hinc

/-- **the range `range(lo, |E| + 1)` is too small with subpath constraints** (the defect repaired by fix
e0ac661). Concrete input
(complete DAG on 6 nodes without three edges: 12 edges, 13 source-to-sink paths, each a subpath constraint,
one unit of flow per path): a decomposition exists, the minimum is 13 paths, and a search over
`range(lo, |E| + 1)` ends without an answer for every lower bound and every truthful solver. -/
theorem search_range_too_small_witness (σ : Nat → Status) (hf : Faithful DecompManyPaths.inp σ) (lo : Nat) :
    DecompManyPaths.base.edges.length = 12 ∧ IsMinDecomp DecompManyPaths.inp 13 ∧
      (stopSearch σ lo (searchHiPre DecompManyPaths.base.edges.length)).solved = none := by
  refine ⟨by decide, DecompManyPaths.min_is_13, ?_⟩
  cases hs : (stopSearch σ lo (searchHiPre DecompManyPaths.base.edges.length)).solved with
  | none => rfl
  | some k =>
    exfalso
    obtain ⟨_, h3, h1, _⟩ := (stopLoop_solved_iff σ _ _ _ _).1 hs
    have hE : searchHiPre DecompManyPaths.base.edges.length = 13 := by decide
    rw [hE] at h3
    exact DecompManyPaths.no_decomp_below_13 k (by omega) ((kfd_feasible_iff _ k DecompManyPaths.base_wf
      DecompManyPaths.base_acyclic DecompManyPaths.plain).1 ((hf k).1 h1))

/-- The same input is inside the range `MinFlowDecomp.solve` searches,
`range(lo, |E| + #constraints + 1) = range(lo, 26)`: every finishing solver makes the search return 13.
Replayed on the real code by `harness/props/c03.py: many_paths_instance`. -/
theorem search_range_regression (σ : Nat → Status) (hd : Decisive DecompManyPaths.inp σ) (lo : Nat)
    (hlo : lo ≤ 13) :
    searchHi DecompManyPaths.base.edges.length DecompManyPaths.inp.cfg.constraints.length = 26 ∧
      (stopSearch σ lo (searchHi DecompManyPaths.base.edges.length
        DecompManyPaths.inp.cfg.constraints.length)).solved = some 13 := by
  have hE : searchHi DecompManyPaths.base.edges.length DecompManyPaths.inp.cfg.constraints.length = 26 := by
    decide +kernel
  rw [hE]
  exact ⟨rfl, mfd_search_finds _ DecompManyPaths.base_wf DecompManyPaths.base_acyclic DecompManyPaths.plain
    σ hd lo 26 13 DecompManyPaths.min_is_13 hlo (by omega)⟩

/-! Non-vacuity on `DecompExample.inp`: the diamond with flows 3/2, integer weights, one subpath constraint. -/

open FP.DecompExample in
example : IsDecomp DecompExample.inp 2 DecompExample.P DecompExample.w := isDecomp

open FP.DecompExample in
example : ∃ a, Sat a (kfdLP (DecompExample.inp.withK 2)) :=
  (kfd_feasible_iff _ 2 base_wf base_acyclic plain).2 hasDecomp2

open FP.DecompExample in
example : IsMinDecomp DecompExample.inp 2 := min_is_2

open FP.DecompExample in
example : ¬ ∃ a, Sat a (kfdLP (DecompExample.inp.withK 1)) :=
  fun hf => no_decomp_below_2 1 (by omega) ((kfd_feasible_iff _ 1 base_wf base_acyclic plain).1 hf)

/-- the same diamond without the subpath constraint, for the hypotheses of `mfd_total` -/
def diamond0 : FlowInput := { DecompExample.inp with cfg := { k := 1 } }

theorem diamond_conserving : ConservingInput DecompExample.inp where
  noStarts := rfl
  noEnds := rfl
  nonneg := by decide +kernel
  cons := by decide +kernel

theorem diamond0_conserving : ConservingInput diamond0 :=
  ⟨rfl, rfl, diamond_conserving.nonneg, diamond_conserving.cons⟩

example : ∃ m, m ≤ 4 ∧ IsMinDecomp diamond0 m :=
  mfd_total diamond0 DecompExample.base_wf DecompExample.base_acyclic diamond0_conserving rfl
    (fun _ => DecompExample.flow_int)

theorem diamond_coverable : Coverable DecompExample.inp :=
  coverable_necessary _ 2 DecompExample.hasDecomp2

example : ∃ m, m ≤ 4 + 1 ∧ IsMinDecomp DecompExample.inp m :=
  mfd_total_constraints DecompExample.inp DecompExample.base_wf DecompExample.base_acyclic
    diamond_conserving diamond_coverable
    (fun _ => DecompExample.flow_int)

/-- the model's lower bound on the diamond: two distinct values (log term 1), width 2 -/
example : lowerboundK { flows := [3, 2, 3, 2], width := 2 } = .value 2 := by decide +kernel
/-- no value at all (everything ignored / no attribute): the log term is skipped (fix 01f9777) -/
example : lowerboundK { flows := [], width := 0, ignoreEmpty := false } = .value 1 := by decide +kernel
/-- without the guard `math.log2(0)` raises -/
example : lowerboundKPre { flows := [], width := 0 } = .valueError := by decide +kernel
/-- an unsolved `MinGenSet` leaves the bound as it is (fix 50cb8a9) -/
example : lowerboundK { flows := [1, 2, 4], width := 2, useMgs := true, mgs := none } = .value 2 := by
  decide +kernel
/-- the unrepaired code terminates the interpreter here: no answer at all although the minimum exists -/
theorem mingenset_exit_witness :
    lowerboundKPre { flows := [3, 1, 2, 2], width := 2, useMgs := true, mgs := none } = .exit := by
  decide +kernel
/-- s→a→t with flow 5 and ignored edges carrying 9, 2, 3 (finding C03-lowerbound-counts-ignored-values):
counting all five values gives the bound 2 > minimum 1; only the non-ignored ones are counted (fix 01f9777) -/
theorem ignored_values_witness :
    lowerboundKPre { flows := [5, 5, 9, 2, 3], width := 1 } = .value 2 ∧
    lowerboundK { flows := [5, 5], width := 1, ignoreEmpty := false } = .value 1 := by decide +kernel
/-- the generating-set ingredient is not used when something is ignored -/
example : lowerboundK { flows := [5, 5], width := 1, ignoreEmpty := false, useMgs := true, mgs := some 4 }
    = .value 1 := by decide +kernel
example : (MFD.solve { flows := [3, 2, 3, 2], width := 2 } 4 1
    (fun k => if k < 2 then .infeasible else .optimal)).solved = some 2 := by decide +kernel

/-! The greedy shortcut of `kFlowDecomp` (`optimize_with_greedy`, used by every k-model `MinFlowDecomp` builds).

`x : GSIn` = the internal DAG in `edges()` order with its flow, the topological order
`max_bottleneck_path` iterates in (oracle, contract `IsTopo`), `k`, the three guards of the constructor
(`optimize_with_greedy`, no ignored edges, `satisfies_flow_conservation`), the subpath constraints with the
length each edge counts and the coverage fraction. `greedyShortcut x = some (paths, weights)` iff the
constructor stores that solution and marks the model solved without calling the solver. -/

/-- **the shortcut returns a decomposition into exactly `k` paths.** Distinct edges, non-negative flow
conserved at every inner node: when the shortcut fires, `k ≥ 1`, it returns `k` paths and `k` weights that
form a decomposition of the flow into source-to-sink paths; they are the `n ≤ k` paths peeled by
`decompose_using_max_bottleneck` (C17 `greedy_exact`) with their positive weights followed by `k - n`
copies of the first path with weight 0 — all weights positive when `n = k`. -/
theorem greedy_shortcut_sound (x : GSIn) (hnd : x.g.edges.Nodup) (htopo : IsTopo x.g.edges x.topo)
    (hnn : ∀ e ∈ x.g.edges, 0 ≤ x.f e) (hc : Conserving x.g x.f)
    (ps : List (List Node)) (ws : List Rat) (h : greedyShortcut x = some (ps, ws)) :
    ps.length = x.k ∧ ws.length = x.k ∧ 1 ≤ x.k ∧ IsPathDecomp x.g x.f (ps.zip ws) ∧
    ∃ r, decompose x.g x.f x.topo = .done r ∧ 1 ≤ r.paths.length ∧ r.paths.length ≤ x.k ∧
      IsPathDecomp x.g x.f r.paths ∧ (∀ pw ∈ r.paths, 0 < pw.2) ∧
      ps.take r.paths.length = r.paths.map (·.1) ∧ ws.take r.paths.length = r.paths.map (·.2) ∧
      (∀ w ∈ ws.drop r.paths.length, w = 0) ∧ (r.paths.length = x.k → ∀ w ∈ ws, 0 < w) := by
  obtain ⟨_, r, pw0, rest, hd, hp, _, hk, hps, hws⟩ := greedyShortcut_some x ps ws h
  obtain ⟨r', hd', _, hsum, hpos⟩ := decompose_exact x.g hnd x.topo htopo x.f hnn hc
  rw [hd] at hd'
  cases hd'
  have hlen1 : 1 ≤ r.paths.length := by rw [hp]; exact Nat.succ_le_succ (Nat.zero_le _)
  have hrd : IsPathDecomp x.g x.f r.paths :=
    ⟨fun pw hpw => ⟨(hpos pw hpw).1, Rat.le_of_lt (hpos pw hpw).2⟩, hsum⟩
  have hpw0 : pw0 ∈ r.paths := by rw [hp]; exact List.mem_cons_self
  refine ⟨hps ▸ pad_length _ _ _ _ (List.length_map _) hk, hws ▸ pad_length _ _ _ _ (List.length_map _) hk,
    Nat.le_trans hlen1 hk, ?_, r, hd, hlen1, hk, hrd, fun pw hpw => (hpos pw hpw).2,
    by rw [hps]; exact List.take_left' (List.length_map _), by rw [hws]; exact List.take_left' (List.length_map _), ?_, ?_⟩
  · rw [hps, hws, zip_pad]
    constructor
    · intro pw hpw
      rcases List.mem_append.1 hpw with hm | hm
      · exact hrd.paths pw hm
      · rw [(List.mem_replicate.1 hm).2]
        exact ⟨(hpos pw0 hpw0).1, Rat.le_refl⟩
    · intro e he
      rw [peeledSum_append, peeledSum_replicate_zero, hsum e he, Rat.add_zero]
  · intro w hw
    rw [hws, List.drop_left' (List.length_map _)] at hw
    exact (List.mem_replicate.1 hw).2
  · intro heq w hw
    rw [hws, heq, Nat.sub_self, List.replicate_zero, List.append_nil] at hw
    obtain ⟨pw, hpw, rfl⟩ := List.mem_map.1 hw
    exact (hpos pw hpw).2

/-- **the shortcut's answer is minimum.** `lb` = the lower bound `MinFlowDecomp` starts its search at
(width, enters by its contract `hlb`: no decomposition has fewer than `lb` paths), `k ≤ lb`
(the first k-model is built with `k = lb`): when the shortcut fires, its `k` paths with `k` positive weights
decompose the flow and no decomposition with fewer than `k` paths exists. -/
theorem greedy_shortcut_minimal (x : GSIn) (hnd : x.g.edges.Nodup) (htopo : IsTopo x.g.edges x.topo)
    (hnn : ∀ e ∈ x.g.edges, 0 ≤ x.f e) (hc : Conserving x.g x.f) (lb : Nat)
    (hlb : ∀ D, IsPathDecomp x.g x.f D → lb ≤ D.length) (hk : x.k ≤ lb)
    (ps : List (List Node)) (ws : List Rat) (h : greedyShortcut x = some (ps, ws)) :
    IsPathDecomp x.g x.f (ps.zip ws) ∧ (ps.zip ws).length = x.k ∧ (∀ w ∈ ws, 0 < w) ∧
    (∀ D, IsPathDecomp x.g x.f D → x.k ≤ D.length) := by
  obtain ⟨h1, h2, _, h4, r, _, _, hrk, hrd, _, _, _, _, hall⟩ :=
    greedy_shortcut_sound x hnd htopo hnn hc ps ws h
  have := hlb r.paths hrd
  refine ⟨h4, by simp [h1, h2], hall (by omega), fun D hD => ?_⟩
  have := hlb D hD
  omega

/-- **skipping the solver changes nothing.** Every solver script that answers `optimal` whenever a
decomposition into `j` paths exists makes the search `range(k, hi)` return `k`, the number of paths the
shortcut returns. -/
theorem shortcut_agrees_with_search (x : GSIn) (hnd : x.g.edges.Nodup) (htopo : IsTopo x.g.edges x.topo)
    (hnn : ∀ e ∈ x.g.edges, 0 ≤ x.f e) (hc : Conserving x.g x.f)
    (σ : Nat → Status) (hσ : ∀ j, (∃ D, IsPathDecomp x.g x.f D ∧ D.length = j) → σ j = .optimal)
    (hi : Nat) (hhi : x.k < hi)
    (ps : List (List Node)) (ws : List Rat) (h : greedyShortcut x = some (ps, ws)) :
    (stopSearch σ x.k hi).solved = some (ps.zip ws).length := by
  obtain ⟨h1, h2, _, h4, _⟩ := greedy_shortcut_sound x hnd htopo hnn hc ps ws h
  have hlen : (ps.zip ws).length = x.k := by simp [h1, h2]
  have hopt := hσ x.k ⟨_, h4, hlen⟩
  unfold stopSearch
  obtain ⟨n, hn⟩ : ∃ n, hi - x.k = n + 1 := ⟨hi - x.k - 1, by omega⟩
  rw [hn, hlen]
  simp [stopLoop, hopt]

/-- **the shortcut respects the subpath constraints.** Coverage fraction 1 (edges count 1, or any positive
lengths): when the shortcut fires every subpath constraint is contained in one of the returned paths - the
`constraints` clause of `IsDecomp`. -/
theorem greedy_shortcut_constraints (x : GSIn) (hcov : x.coverage = 1)
    (hlen : ∀ con ∈ x.constraints, ∀ el ∈ con, 0 < el.2)
    (ps : List (List Node)) (ws : List Rat) (h : greedyShortcut x = some (ps, ws)) :
    ∀ con ∈ x.constraints, ∃ p ∈ ps, ∀ el ∈ con, el.1 ∈ walkEdges p := by
  obtain ⟨_, r, pw0, rest, _, hp, hcf, _, hps, _⟩ := greedyShortcut_some x ps ws h
  intro con hcon
  have hpos := hlen con hcon
  apply Classical.byContradiction
  intro hno
  -- otherwise every greedy path misses an edge of `con`, so the maximum stays below its length
  have hall : ∀ p ∈ r.paths.map (·.1), occurrence con p < conLength con := by
    intro p hpm
    by_cases hp : ∀ el ∈ con, el.1 ∈ walkEdges p
    · exact absurd ⟨p, hps ▸ List.mem_append_left _ hpm, hp⟩ hno
    · obtain ⟨el, hel⟩ := Classical.not_forall.1 hp
      obtain ⟨hel, hne⟩ := Classical.not_imp.1 hel
      exact occurrence_lt p con hpos el hel hne
  have hp0 : pw0.1 ∈ r.paths.map (·.1) := by rw [hp]; exact List.mem_cons_self
  have hL : (0 : Rat) < conLength con := Std.lt_of_le_of_lt (occurrence_nonneg pw0.1 con hpos) (hall _ hp0)
  have hlt : maxOccurrence con (r.paths.map (·.1)) < conLength con := fold_lt _ _ _ 0 hL hall
  have : gsConstraintFails x (r.paths.map (·.1)) = true := by
    unfold gsConstraintFails
    rw [List.any_eq_true]
    exact ⟨con, hcon, by rw [hcov, Rat.mul_one]; exact decide_eq_true hlt⟩
  rw [hcf] at this
  cases this

/-- the diamond with flows 3/2 -/
def gsDiamond (k : Nat) : GSIn := { g := C17Example.d, f := C17Example.dflow, topo := C17Example.dtopo, k := k }

theorem gsDiamond_two :
    greedyShortcut (gsDiamond 2) = some ([["s", "a", "t"], ["s", "b", "t"]], [3, 2]) := by decide +kernel

example : greedyShortcut (gsDiamond 2) = some ([["s", "a", "t"], ["s", "b", "t"]], [3, 2]) := gsDiamond_two
/-- the shortcut pads for `k = 3` -/
example : greedyShortcut (gsDiamond 3) =
    some ([["s", "a", "t"], ["s", "b", "t"], ["s", "a", "t"]], [3, 2, 0]) := by decide +kernel
/-- it does not fire for `k = 1`, nor with `optimize_with_greedy = False`, nor when a subpath constraint
(here the pair of edges `s→a`, `b→t`, on no common path) is not covered by a greedy path, -/
example : greedyShortcut (gsDiamond 1) = none := by decide +kernel
example : greedyShortcut { gsDiamond 2 with optGreedy := false } = none := by decide +kernel
example : greedyShortcut { gsDiamond 2 with constraints := [[(("s", "a"), 1), (("b", "t"), 1)]] } = none := by
  decide +kernel
/-- nor on the all-zero flow (fix 7138f39) -/
example : greedyShortcut { gsDiamond 2 with f := fun _ => 0 } = none := by decide +kernel

/-- non-vacuity: the diamond with the constraint `s→a, a→t` fires -/
example : greedyShortcut { gsDiamond 2 with constraints := [[(("s", "a"), 1), (("a", "t"), 1)]] } =
    some ([["s", "a", "t"], ["s", "b", "t"]], [3, 2]) := by decide +kernel

/-- the hypotheses of `greedy_shortcut_sound` are satisfiable: the diamond -/
example : IsPathDecomp C17Example.d C17Example.dflow [(["s", "a", "t"], 3), (["s", "b", "t"], 2)] :=
  (greedy_shortcut_sound (gsDiamond 2) (by decide) C17Example.d_topo' C17Example.d_nonneg
    C17Example.d_conserving [["s", "a", "t"], ["s", "b", "t"]] [3, 2] gsDiamond_two).2.2.2.1

end FP.Props.C03
