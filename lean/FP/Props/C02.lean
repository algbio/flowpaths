import FP.Proofs.KFD
/-!
# C02 — flow decompositions explain every non-ignored edge's flow exactly  (DAG MILP routes)
-/
namespace FP.Props.C02
open FP FP.Spec

/-- **kFlowDecomp, MILP route.** For every satisfying assignment of the k-flow-decomposition LP on a
well-formed user DAG: with `p i` the decoded paths and `w i` the weight variables, every edge that
is neither explicitly ignored nor synthetic satisfies `Σ_i w_i · [e ∈ p_i] = f(e)` exactly, and all
weights lie in `[0, w_max]`. -/
theorem kfd_exact (inp : FlowInput) (a : Asg) (h : BaseWF inp.base) (hac : Acyclic inp.base)
    (hsat : Sat a (kfdLP inp)) :
    ∃ ps : List (List Node), decodePaths inp.st (fun e i => a (edgeVar e i)) inp.cfg.k = some ps ∧
      ps.length = inp.cfg.k ∧
      (∀ i, i < inp.cfg.k → 0 ≤ a (wVar i) ∧ a (wVar i) ≤ inp.wmax) ∧
      ∀ e ∈ inp.activeEdges,
        ((List.range inp.cfg.k).map fun i =>
            a (wVar i) * (traversals (inp.st.source :: (ps.getD i []) ++ [inp.st.sink]) e : Rat)).sum
          = inp.f e :=
  FP.kfd_exact inp a h hac hsat

/-- **given-weights route.** With the prescribed weights `ws` in place of the weight variables, every such edge
is explained exactly in the same way; nothing is claimed about the range of `ws`. -/
theorem kfd_given_exact (inp : FlowInput) (ws : List Rat) (ok : Nat) (a : Asg) (h : BaseWF inp.base)
    (hac : Acyclic inp.base) (hk : inp.cfg.k = ws.length) (hsat : Sat a (kfdGivenLP inp ws ok)) :
    ∃ ps : List (List Node), decodePaths inp.st (fun e i => a (edgeVar e i)) inp.cfg.k = some ps ∧
      ∀ e ∈ inp.activeEdges,
        ((List.range inp.cfg.k).map fun i =>
            ws.getD i 0 * (traversals (inp.st.source :: (ps.getD i []) ++ [inp.st.sink]) e : Rat)).sum
          = inp.f e :=
  FP.kfd_given_exact inp ws ok a h hac hk hsat

end FP.Props.C02
