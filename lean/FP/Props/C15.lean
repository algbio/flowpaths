import FP.Props.C13
import FP.Proofs.MGSRange
import FP.Proofs.MSC
/-!
# C15 — MinGenSet and MinSetCover return true optima whenever one exists

Vocabulary: `FP/Spec/GenSet.lean`; the longer proofs are in `FP/Proofs/{GenSetSpec,MGS,
MGSPartitionRangeCut,MGSRange,MSC}.lean`.

* the MILP of `_create_solver(k)` (`mgsLP`) has a satisfying assignment **iff** a generating multiset of
  size `k` exists for the multiplicity the encoding can express (`mgs_feasible_iff`; both product helpers,
  both weight types, partition constraints of equal lengths; `mgs_feasible_iff_partition`: of any lengths, as
  long as they are non-empty and sum to `total` — `mgs_partition_sound_full`);
* that multiplicity is `max_multiplicity` when `max_multiplicity ≤ total` (`mgs_effMult_eq`) and can be
  smaller otherwise — then solutions are lost (`mgs_cap_loses_solutions`);
* the constructor's preprocessing (complements only for multiplicity 1, fix 20bda28; `0`, `total` and
  duplicates always) keeps the generating multisets for every multiplicity (`preprocess_sound`); dropping
  complements for larger multiplicities would not (`complement_removal_unsound_mult`);
* a search over a range returns the true optimum of that range (`mgs_returns_optimum`); the optimum is at
  most `#distinct numbers + 1` (`genset_exists`); the range of the code (`range(lb, max(lb, upper) + 1)`,
  fix 6c30e65) **always contains the optimum** when there are no partition constraints
  (`mgs_range_contains_optimum`) and also with partition constraints that are number partitions of `total`
  (`mgs_range_contains_optimum_partition`: non-empty, non-negative parts, integral for `weight_type=int`; neither
  of the two extra hypotheses can be dropped: `mgs_range_empty_constraint`, `mgs_range_fractional_constraint`);
  `[1, 2, 4]`, total `7` is solved with size `3` (`mgs_range_regression_124`);
* `mscLP`: satisfying assignments are the covers, the objective is the weight, an optimum is a
  minimum-weight cover (`msc_sound`, `msc_complete`, `msc_objective`, `msc_opt_transfer`).
-/
namespace FP.Props.C15
open FP FP.Spec FP.Search FP.GS

/-- every satisfying assignment of `mgsLP inp k` yields `g_i := a(gen_set_i)` that sums to `total`, is
non-negative, and generates every number of `inp.numbers` (the list after the constructor's
preprocessing) with multiplicities `≤ max_multiplicity` (binary products for multiplicity 1, the
integer helper otherwise; with or without partition constraints); integral for `weight_type=int` -/
theorem mgs_sound (inp : MGSInput) (k : Nat) (a : Asg) (h : Sat a (mgsLP inp k)) :
    IsGenSet (mgsGen a k) inp.total inp.numbers inp.maxMult ∧
      (inp.weightInt = true → AllInt (mgsGen a k)) := by
  obtain ⟨⟨h1, h2, h3⟩, h4⟩ := mgs_sound_effMult inp k a h
  exact ⟨⟨h1, h2, fun x hx => generates_mono _ (mgsEffMult_le inp) (h3 x hx)⟩, h4⟩

/-- sharper: the multiplicities are bounded by what the bit columns of the integer helper can hold -/
theorem mgs_sound_eff (inp : MGSInput) (k : Nat) (a : Asg) (h : Sat a (mgsLP inp k)) :
    IsGenSet (mgsGen a k) inp.total inp.numbers (mgsEffMult inp) :=
  (mgs_sound_effMult inp k a h).1

/-- a satisfying assignment assigns every element of the multiset to exactly one of `t` parts
(`t` = the largest number of parts of a constraint) and the parts of every constraint get their sums -/
theorem mgs_partition_sound (inp : MGSInput) (k : Nat) (a : Asg) (h : Sat a (mgsLP inp k))
    (cons : List (List Rat)) (hp : inp.partition = some cons) (c : Nat) (hc : c < cons.length) :
    ∃ assign : List Nat, assign.length = k ∧ (∀ p ∈ assign, p < maxParts cons) ∧
      ∀ j, j < (cons[c]).length → partSum assign (mgsGen a k) j = (cons[c]).getD j 0 :=
  mgs_parts_of_sat a h hp (List.getElem_mem hc)

/-- constraints with fewer than `t` parts: the elements the LP sends to a part without a sum row carry the
value 0 (`Σ con = total = Σ g`, all `g_i ≥ 0`) and are re-assigned to part 0 — **every satisfying assignment
respects every non-empty partition constraint that sums to `total`**, whatever the lengths -/
theorem mgs_partition_sound_full (inp : MGSInput) (k : Nat) (a : Asg) (h : Sat a (mgsLP inp k))
    (cons : List (List Rat)) (hp : inp.partition = some cons)
    (hcons : ∀ con ∈ cons, con ≠ [] ∧ con.sum = inp.total) :
    ∀ con ∈ cons, RespectsPartition (mgsGen a k) con :=
  fun con hcon => mgs_respects a h hp hcon (hcons con hcon)

/-- side condition under which the product columns `pi ≤ total` do not cut anything off: multiplicity 1,
or no number exceeds `total` -/
def MgsSide (inp : MGSInput) : Prop := inp.maxMult = 1 ∨ ∀ x ∈ inp.numbers, x ≤ inp.total

/-- a solution whose first `k-1` elements are non-decreasing (the rows `g_i ≤ g_{i+1}`, `i < k-2`, of
`_encode_symmetry_breaking`) extends to a satisfying assignment with exactly these `gen_set` values -/
theorem mgs_complete (inp : MGSInput) (gs : List Rat) (hg : MgsSolution inp gs)
    (hsym : ∀ i, i + 2 < gs.length → gs.getD i 0 ≤ gs.getD (i+1) 0) (hside : MgsSide inp) :
    ∃ a : Asg, Sat a (mgsLP inp gs.length) ∧ mgsGen a gs.length = gs :=
  GS.mgs_complete inp gs hg hsym hside

/-- every solution, in whatever order, has a rearrangement (its sorted one) that extends to a
satisfying assignment: the symmetry-breaking rows lose no multiset -/
theorem mgs_complete_multiset (inp : MGSInput) (gs : List Rat) (hg : MgsSolution inp gs)
    (hside : MgsSide inp) :
    ∃ a : Asg, Sat a (mgsLP inp gs.length) ∧ (mgsGen a gs.length).Perm gs :=
  have ⟨a, h1, h2⟩ := mgs_complete_sorted inp gs hg hside
  ⟨a, h1, h2 ▸ sortRat_perm gs⟩

/-- `max_multiplicity ≤ total`: the LP expresses the requested multiplicity -/
theorem mgs_effMult_eq (inp : MGSInput) (h : (inp.maxMult : Rat) ≤ inp.total) :
    mgsEffMult inp = inp.maxMult := by
  unfold mgsEffMult
  split
  · rename_i h1; exact h1.symm
  · rw [qBits_eq]
    exact Nat.min_eq_left (Nat.le_sub_one_of_lt (lt_two_pow_klaecBitsOf inp.total inp.maxMult h))

/-- **the LP of size `k` is feasible iff a solution of size `k` exists** (partition constraints all with
the same number of parts, or none) -/
theorem mgs_feasible_iff (inp : MGSInput) (k : Nat) (hside : MgsSide inp)
    (huni : ∀ cons, inp.partition = some cons → ∀ con ∈ cons, con.length = maxParts cons) :
    (∃ a, Sat a (mgsLP inp k)) ↔ ∃ g : List Rat, g.length = k ∧ MgsSolution inp g := by
  refine mgs_feasible_iff_of inp k hside fun a h cons hp con hcon => ?_
  obtain ⟨asg, ha1, ha2, ha3⟩ := mgs_parts_of_sat a h hp hcon
  exact ⟨asg, by simp [mgsGen, ha1], fun p hp' => by rw [huni cons hp _ hcon]; exact ha2 p hp', ha3⟩

/-- **the same for partition constraints of any lengths** that are non-empty and sum to `total` (what the
constructor checks, plus `len(con) ≥ 1`): the LP pads every constraint to `t = max len` parts, only zero-valued
elements can land in a padded part -/
theorem mgs_feasible_iff_partition (inp : MGSInput) (k : Nat) (hside : MgsSide inp)
    (hcons : ∀ cons, inp.partition = some cons → ∀ con ∈ cons, con ≠ [] ∧ con.sum = inp.total) :
    (∃ a, Sat a (mgsLP inp k)) ↔ ∃ g : List Rat, g.length = k ∧ MgsSolution inp g :=
  mgs_feasible_iff_of inp k hside fun a h cons hp con hcon =>
    mgs_respects a h hp hcon (hcons cons hp con hcon)

/-- `total < max_multiplicity` loses solutions: numbers `3/8, 1/4, 1/8`, total `1`, multiplicity `3` are
generated by `{1/8, 7/8}`, but the helper gets one bit (`ub = total = 1`), the LP for `k = 2` is
infeasible -/
theorem mgs_cap_loses_solutions :
    let inp : MGSInput := { numbers := [3/8, 1/4, 1/8], total := 1, maxMult := 3 }
    IsGenSet [1/8, 7/8] inp.total inp.numbers inp.maxMult ∧ mgsEffMult inp = 1 ∧
      ¬ ∃ a, Sat a (mgsLP inp 2) := by
  intro inp
  have heff : mgsEffMult inp = 1 := by decide +kernel
  refine ⟨by decide +kernel, heff, ?_⟩
  rintro ⟨a, h⟩
  have h1 := mgs_sound_eff inp 2 a h
  rw [heff] at h1
  exact no_small_genset_of_three [3/8, 1/4, 1/8] (by decide +kernel) (by decide) (by decide +kernel)
    _ (Nat.le_of_eq (by simp [mgsGen])) h1

/-- a number larger than `total` (possible for multiplicity `> 1`) is cut off by the bound `pi ≤ total` of the
product columns: `6 = 2·3` with total `3`, multiplicity `2` is generated by `{3}`, the LP for `k = 1` is
infeasible -/
theorem mgs_pi_bound_loses_solutions :
    let inp : MGSInput := { numbers := [6], total := 3, maxMult := 2 }
    IsGenSet [3] inp.total inp.numbers inp.maxMult ∧ ¬ ∃ a, Sat a (mgsLP inp 1) := by
  refine ⟨by decide +kernel, ?_⟩
  rintro ⟨a, h⟩
  obtain ⟨⟨_, _, hpi, _⟩, hnum, _, _⟩ := (mgs_sat_iff _ 1 a).1 h
  have hub : a (mgsPiVar 0 0) ≤ 3 := (hpi 0 (by decide) 0 (by decide)).2.1
  have hrow : ((List.range 1).map fun i => a (mgsPiVar i 0)).sum = 6 := (hnum 0 (by decide)).2
  simp only [List.range_one, List.map_cons, List.map_nil, List.sum_cons, List.sum_nil, Rat.add_zero] at hrow
  rw [hrow] at hub
  exact absurd hub (by decide)

/-- if `g` generates `x` with every element used at most once and `Σ g = total`, then `g` generates
`total − x` -/
theorem complement_removal_sound (g : List Rat) (total x : Rat) (hs : g.sum = total)
    (h : Generates g 1 x) : Generates g 1 (total - x) := by
  rw [← hs]; exact generates_complement g x h

/-- **every multiplicity ≥ 1**: a multiset is a generating multiset of the preprocessed list (for
multiplicity 1 complements removed; `0`, `total` and duplicates dropped always) iff it is one of the
original list -/
theorem preprocess_sound (numbers : List Rat) (total : Rat) (rc : Bool) (mult : Nat) (hm : 1 ≤ mult)
    (g : List Rat) :
    IsGenSet g total (mgsPreprocess numbers total rc mult) mult ↔ IsGenSet g total numbers mult :=
  and_congr_right fun hs => and_congr_right fun _ => preprocess_generates_iff numbers total rc mult hm g hs

/-- why the constructor must not drop complements for multiplicity `> 1` (fix 20bda28):
`{2, 8}` (sum `10`) generates `4 = 2·2` with multiplicity 2 but not `10 − 4 = 6` — the complement would
need a negative coefficient. Pure arithmetic about multisets. -/
theorem complement_removal_unsound_mult :
    ([2, 8] : List Rat).sum = 10 ∧ Generates [2, 8] 2 4 ∧ ¬ Generates [2, 8] 2 (10 - 4) := by
  decide +kernel

/-- on the model of the constructor `[4, 6]`, total `10` loses `6` only for
multiplicity 1 -/
theorem preprocess_keeps_complements_mult :
    mgsPreprocess [4, 6] 10 true 1 = [4] ∧ mgsPreprocess [4, 6] 10 true 2 = [4, 6] := by
  decide +kernel

/-- numbers in `[0, total]` always have a generating multiset with one element more than there are
*distinct* numbers (`[total]` cut at every distinct number), for every multiplicity `≥ 1`, integral for
integral data: the optimum is at most `len(set(numbers)) + 1`. -/
theorem genset_exists (numbers : List Rat) (total : Rat) (mult : Nat) (hm : 1 ≤ mult) (h0 : 0 ≤ total)
    (hb : ∀ x ∈ numbers, 0 ≤ x ∧ x ≤ total) :
    ∃ g : List Rat, g.length = distinctCount numbers + 1 ∧ IsGenSet g total numbers mult ∧
      (AllInt numbers → (∃ z : Int, total = z) → AllInt g) := by
  obtain ⟨h1, h2, h3, h5, h6⟩ := gaps_total total h0 numbers.eraseDups
    (fun b hb' => hb b (List.mem_eraseDups.1 hb'))
  exact ⟨_, h1, ⟨h2, h3, fun a ha => generates_mono _ hm
    (generates_of_isPrefixSum _ a (h5 a (List.mem_eraseDups.2 ha)))⟩,
    fun hint hz => h6 hz fun b hb' => hint b (List.mem_eraseDups.1 hb')⟩

/-- the solver script is faithful: `kOptimal` iff the LP of that size is feasible, `kInfeasible` iff not
(what C13 leaves to the solver) -/
def Faithful (inp : MGSInput) (σ : Nat → Status) : Prop :=
  ∀ k, (σ k = .optimal ↔ ∃ a, Sat a (mgsLP inp k)) ∧ (σ k = .infeasible ↔ ¬ ∃ a, Sat a (mgsLP inp k))

/-- **what `solve()` returns is a true optimum of the searched range**: a returned size is a solution
size, and no size of the range below it is -/
theorem mgs_returns_optimum (inp : MGSInput) (σ : Nat → Status) (hσ : Faithful inp σ)
    (hside : MgsSide inp)
    (huni : ∀ cons, inp.partition = some cons → ∀ con ∈ cons, con.length = maxParts cons)
    (lo hi k : Nat) (h : (stopSearch σ lo hi).solved = some k) :
    SolvableAt inp k ∧ lo ≤ k ∧ k < hi ∧ ∀ j, lo ≤ j → j < k → ¬ SolvableAt inp j := by
  obtain ⟨h1, h2, h3, h4⟩ := FP.Props.C13.search_sound σ lo hi k h
  refine ⟨(mgs_feasible_iff inp k hside huni).1 ((hσ k).1.1 h1), h2, h3, fun j hj1 hj2 hs => ?_⟩
  exact ((hσ j).2.1 (h4 j hj1 hj2)) ((mgs_feasible_iff inp j hside huni).2 hs)

/-- the least solution size `m ≥ lo` is returned iff it lies below the (exclusive) upper end -/
theorem mgs_search_finds_least (inp : MGSInput) (σ : Nat → Status) (hσ : Faithful inp σ)
    (hside : MgsSide inp)
    (huni : ∀ cons, inp.partition = some cons → ∀ con ∈ cons, con.length = maxParts cons)
    (lo hi m : Nat) (hlo : lo ≤ m) (hm : SolvableAt inp m) (hmin : ∀ j, lo ≤ j → j < m → ¬ SolvableAt inp j) :
    (stopSearch σ lo hi).solved = some m ↔ m < hi := by
  constructor
  · intro h
    exact (FP.Props.C13.search_sound σ _ _ m h).2.2.1
  · intro hlt
    apply FP.Props.C13.search_complete σ _ _ m hlo hlt
    · exact (hσ m).1.2 ((mgs_feasible_iff inp m hside huni).2 hm)
    · intro j hj1 hj2
      exact (hσ j).2.2 (fun hf => hmin j hj1 hj2 ((mgs_feasible_iff inp j hside huni).1 hf))

/-- when no size of the range is a solution size the search ends unsolved -/
theorem mgs_range_misses_optimum (inp : MGSInput) (σ : Nat → Status) (hσ : Faithful inp σ)
    (hside : MgsSide inp)
    (huni : ∀ cons, inp.partition = some cons → ∀ con ∈ cons, con.length = maxParts cons)
    (lo hi : Nat) (hmin : ∀ j, lo ≤ j → j < hi → ¬ SolvableAt inp j) :
    (stopSearch σ lo hi).solved = none := by
  cases hs : (stopSearch σ lo hi).solved with
  | none => rfl
  | some k =>
    obtain ⟨h1, h2, h3, _⟩ := mgs_returns_optimum inp σ hσ hside huni _ _ k hs
    exact absurd h1 (hmin k h2 h3)

/-- **the range of the code contains the optimum** (no partition constraints; data as the docstring asks:
numbers within `[0, total]`, integral for `weight_type=int`): with a faithful solver
`for k in range(lowerbound, max(lowerbound, len(set(numbers)) + 1) + 1)` returns the least solution size
`≥ lowerbound` — `solve()` succeeds and the answer is minimum -/
theorem mgs_range_contains_optimum (inp : MGSInput) (σ : Nat → Status) (hσ : Faithful inp σ)
    (hp : inp.partition = none) (hd : MgsData inp) (lb : Nat) :
    ∃ m, (stopSearch σ lb (mgsHi inp lb)).solved = some m ∧ SolvableAt inp m ∧ lb ≤ m ∧
      ∀ j, lb ≤ j → j < m → ¬ SolvableAt inp j :=
  mgsp_range_least inp σ (fun k => (hσ k).1.2) (fun k => (hσ k).2.2) hd
    (fun cons hc => by rw [hp] at hc; cases hc) lb

/-- **the range of the code contains the optimum, with partition constraints**
(`upper = len(set(numbers)) + 1 + Σ (len(con) − 1)`; data as the
docstring asks: numbers within `[0, total]`, every constraint a number partition of `total` — at least one part,
parts non-negative, `Σ con = total` —, everything integral for `weight_type=int`; constraints may have different
lengths, zero parts, repeated break points): with a faithful solver
`for k in range(lowerbound, max(lowerbound, upper) + 1)` returns the least solution size `≥ lowerbound`.
Lay every constraint out as consecutive intervals of `[0, total]` and the numbers as prefixes; cutting `[total]`
at every distinct number and every inner prefix sum gives exactly `upper` pieces (`mgsp_pieces`), every number
and every part is a run of consecutive pieces; larger sizes by padding with zeros. -/
theorem mgs_range_contains_optimum_partition (inp : MGSInput) (σ : Nat → Status) (hσ : Faithful inp σ)
    (hd : MgsData inp) (hm : inp.maxMult = 1)
    (hcons : ∀ cons, inp.partition = some cons → ∀ con ∈ cons,
      con ≠ [] ∧ con.sum = inp.total ∧ (∀ x ∈ con, 0 ≤ x) ∧ (inp.weightInt = true → AllInt con))
    (lb : Nat) :
    ∃ m, (stopSearch σ lb (mgsHi inp lb)).solved = some m ∧ SolvableAt inp m ∧ lb ≤ m ∧
      ∀ j, lb ≤ j → j < m → ¬ SolvableAt inp j :=
  mgsp_range_least inp σ (fun k => (hσ k).1.2) (fun k => (hσ k).2.2) hd hcons lb

/-- `mgs_range_contains_optimum_partition` without `con ≠ []` and without integrality of the constraints — false, see
the next two theorems -/
def mgs_range_contains_optimum_partition_FirstStatement : Prop :=
  ∀ (inp : MGSInput) (σ : Nat → Status), Faithful inp σ → MgsData inp → inp.maxMult = 1 →
    (∀ cons, inp.partition = some cons → ∀ con ∈ cons, con.sum = inp.total ∧ ∀ x ∈ con, 0 ≤ x) →
    ∀ lb, ∃ m, (stopSearch σ lb (mgsHi inp lb)).solved = some m ∧ SolvableAt inp m ∧ lb ≤ m ∧
      ∀ j, lb ≤ j → j < m → ¬ SolvableAt inp j

/-- **`con ≠ []` cannot be dropped.** An empty constraint passes the constructor exactly when `total = 0`; "every
element of the generating set is used in exactly one part" then only holds for the empty multiset, so under the
other hypotheses the search returns a least solution size **iff `lowerbound = 0`** (python's default is 1:
`MinGenSet([], 0, partition_constraints=[[]]).solve()` is `False`, rightly) -/
theorem mgs_range_empty_constraint (inp : MGSInput) (σ : Nat → Status) (hσ : Faithful inp σ)
    (hd : MgsData inp) (hm : inp.maxMult = 1)
    (hcons : ∀ cons, inp.partition = some cons → ∀ con ∈ cons, con.sum = inp.total ∧ ∀ x ∈ con, 0 ≤ x)
    (cons : List (List Rat)) (hp : inp.partition = some cons) (hempty : [] ∈ cons) (lb : Nat) :
    (∃ m, (stopSearch σ lb (mgsHi inp lb)).solved = some m ∧ SolvableAt inp m ∧ lb ≤ m ∧
      ∀ j, lb ≤ j → j < m → ¬ SolvableAt inp j) ↔ lb = 0 := by
  constructor
  · rintro ⟨m, _, hs, hle, _⟩
    rcases Nat.eq_zero_or_pos m with h0 | hpos
    · omega
    · exact absurd hs (mgsp_empty_constraint_unsolvable inp cons hp hempty m hpos)
  · rintro rfl
    have hz : inp.total = 0 := by
      have := (hcons cons hp [] hempty).1
      rw [← this]; rfl
    obtain ⟨h1, h2⟩ := mgsp_range_zero inp σ (hσ 0).1.2 hd.bounded hcons hz
    exact ⟨0, h1, h2, Nat.le_refl _, fun j _ hj => by omega⟩

/-- **integrality of the constraints cannot be dropped** for `weight_type=int`: total `1`, constraint
`[1/2, 1/2]` satisfies every other hypothesis and has no solution of any size (python:
`MinGenSet([], 1, weight_type=int, partition_constraints=[[0.5, 0.5]]).solve()` is `False`, rightly) -/
theorem mgs_range_fractional_constraint :
    let inp : MGSInput := { numbers := [], total := 1, weightInt := true, partition := some [[1/2, 1/2]] }
    MgsData inp ∧ inp.maxMult = 1 ∧
      (∀ cons, inp.partition = some cons → ∀ con ∈ cons, con ≠ [] ∧ con.sum = inp.total ∧ ∀ x ∈ con, 0 ≤ x) ∧
      ∀ m, ¬ SolvableAt inp m := by
  intro inp
  refine ⟨⟨by decide +kernel, fun x hx => by simp [inp] at hx, by decide, Or.inl rfl,
    fun _ => ⟨fun x hx => by simp [inp] at hx, 1, rfl⟩⟩, rfl, forall_partition rfl (by decide +kernel), ?_⟩
  -- part 0 of an integral multiset is an integer, not `1/2`
  rintro m ⟨g, _, _, hint, hpart⟩
  obtain ⟨asg, _, _, h3⟩ := hpart [[1/2, 1/2]] rfl [1/2, 1/2] (by simp)
  obtain ⟨z, hz⟩ := partSum_int asg g 0 (hint rfl)
  have h0 := h3 0 (by simp)
  rw [hz] at h0
  have hden := congrArg Rat.den h0
  simp at hden
  revert hden
  decide +kernel

/-- both witnesses refute the statement without the two hypotheses; here the fractional one -/
theorem mgs_range_first_statement_false : ¬ mgs_range_contains_optimum_partition_FirstStatement := by
  intro h
  obtain ⟨hd, hm, hc, hno⟩ := mgs_range_fractional_constraint
  -- classically, every input has a faithful status script
  classical
  let inp : MGSInput := { numbers := [], total := 1, weightInt := true, partition := some [[1/2, 1/2]] }
  have hσ : Faithful inp fun k => if ∃ a, Sat a (mgsLP inp k) then .optimal else .infeasible := fun k => by
    by_cases hk : ∃ a, Sat a (mgsLP inp k) <;> simp [hk]
  obtain ⟨m, _, hs, _⟩ := h inp _ hσ hd hm
    (fun cons hp con hcon => (hc cons hp con hcon).2) 1
  exact hno m hs

/-- numbers `[1, 2, 4]`, total `7`, defaults: `{1, 2, 4}` is a solution of size `3`, no smaller one exists, the loop
is `range(1, 5)` and every faithful solver makes `solve()` return size `3`; a loop `range(1, 3)` ends unsolved
(fix 6c30e65 is what makes `upper` reach the optimum). -/
theorem mgs_range_regression_124 :
    let inp : MGSInput := { numbers := [1, 2, 4], total := 7, weightInt := true }
    mgsHi inp 1 = 5 ∧ SolvableAt inp 3 ∧ (∀ j, j < 3 → ¬ SolvableAt inp j) ∧
      (∀ σ, Faithful inp σ → (stopSearch σ 1 (mgsHi inp 1)).solved = some 3) ∧
      (∀ σ, Faithful inp σ → (stopSearch σ 1 3).solved = none) := by
  intro inp
  obtain ⟨h3, hnot⟩ := solvable_124 inp rfl rfl rfl (fun cons hc => by cases hc)
  have huni : ∀ cons, inp.partition = some cons → ∀ con ∈ cons, con.length = maxParts cons :=
    fun cons hc => by cases hc
  refine ⟨by decide +kernel, h3, hnot, ?_, ?_⟩
  · intro σ hσ
    rw [mgs_search_finds_least inp σ hσ (Or.inl rfl) huni 1 _ 3 (by omega) h3 (fun j _ hj => hnot j hj)]
    decide +kernel
  · intro σ hσ
    exact mgs_range_misses_optimum inp σ hσ (Or.inl rfl) huni 1 3 (fun j _ hj => hnot j hj)

/-- a satisfying assignment of `mscLP` selects a cover (python reads `[i | sol[i] == 1]`) -/
theorem msc_sound (inp : MSCInput) (a : Asg) (h : Sat a (mscLP inp)) :
    IsCover inp.univ inp.subsets (mscChosen a) := by
  obtain ⟨h01, hrows⟩ := (msc_sat_iff inp a).1 h
  intro el hel
  -- a sum of 0/1 values that is `≥ 1` has a term `1`
  obtain ⟨⟨i, s⟩, hm, h1⟩ := exists_one_of_sum_ge_one
    (fun x hx => h01 x.1 ((mem_zip_range _ x.1 x.2).1 (List.mem_filter.1 hx).1).1) (hrows el hel)
  obtain ⟨hm1, hm2⟩ := List.mem_filter.1 hm
  obtain ⟨hi, rfl⟩ := (mem_zip_range _ i s).1 hm1
  exact ⟨i, hi, decide_eq_true h1, hm2⟩

/-- every cover is a satisfying assignment -/
theorem msc_complete (inp : MSCInput) (ch : Nat → Bool) (h : IsCover inp.univ inp.subsets ch) :
    Sat (mscAsg ch) (mscLP inp) ∧ ∀ i, mscChosen (mscAsg ch) i = ch i := by
  refine ⟨(msc_sat_iff inp _).2 ⟨fun i _ => ?_, fun el hel => ?_⟩, fun i => ?_⟩
  · rw [mscAsg_val]; cases ch i <;> simp
  · obtain ⟨i, hi, hch, hcont⟩ := h el hel
    -- the term of the chosen subset is `1`, the others are non-negative
    refine Rat.le_trans ?_ (le_sum_of_mem _ (fun x _ => ?_)
      (List.mem_filter.2 ⟨mem_zip_range_self _ i hi, hcont⟩))
    · rw [mscAsg_val, hch]; exact Rat.le_refl
    · rw [mscAsg_val]; cases ch x.1 <;> decide
  · simp only [mscChosen, mscAsg_val]
    cases ch i <;> simp

/-- the objective of a satisfying assignment is the total weight of the selected subsets -/
theorem msc_objective (inp : MSCInput) (a : Asg) (h : Sat a (mscLP inp)) :
    objVal a (mscLP inp) = coverWeight (mscW inp) inp.subsets.length (mscChosen a) := by
  refine msc_obj_eq inp a _ fun i hi => ?_
  rcases ((msc_sat_iff inp a).1 h).1 i hi with h0 | h1
  · simp [mscChosen, h0]
  · simp [mscChosen, h1]

/-- **an LP optimum is a minimum-weight cover** (all weights, also zero and negative ones) -/
theorem msc_opt_transfer (inp : MSCInput) (a : Asg) (h : Sat a (mscLP inp))
    (hopt : ∀ a', Sat a' (mscLP inp) → objVal a (mscLP inp) ≤ objVal a' (mscLP inp)) :
    IsCover inp.univ inp.subsets (mscChosen a) ∧
      ∀ ch, IsCover inp.univ inp.subsets ch →
        coverWeight (mscW inp) inp.subsets.length (mscChosen a) ≤ coverWeight (mscW inp) inp.subsets.length ch := by
  refine ⟨msc_sound inp a h, fun ch hch => ?_⟩
  have h1 := hopt _ (msc_complete inp ch hch).1
  rwa [msc_objective inp a h, msc_obj_eq inp (mscAsg ch) ch (fun i _ => mscAsg_val ch i)] at h1

/-- `subset_weights=None`: every subset weighs 1, so the objective counts the chosen
subsets -/
theorem msc_default_unit_weights (univ : List String) (subsets : List (List String)) (ch : Nat → Bool) :
    coverWeight (mscW (⟨univ, subsets, mscWeights none subsets.length⟩ : MSCInput)) subsets.length ch
      = (((List.range subsets.length).filter fun i => ch i).length : Nat) := by
  unfold coverWeight
  have hw : ∀ i ∈ List.range subsets.length,
      (if ch i = true then mscW (⟨univ, subsets, mscWeights none subsets.length⟩ : MSCInput) i else 0)
        = if ch i = true then (1 : Rat) else 0 := by
    intro i hi
    have hi' := List.mem_range.1 hi
    simp [mscW, mscWeights, List.getD_eq_getElem?_getD, hi']
  rw [congrArg List.sum (List.map_congr_left hw), sum_ind_eq_countP, List.countP_eq_length_filter]

/-- the hypotheses of `mgs_complete` are satisfiable with partition constraints of different shapes, and
the conclusion of `mgs_feasible_iff` is not trivially false: `{1, 2, 4}` for `[3, 5, 6]`, total `7`,
partition `[[3, 4], [1, 6]]` -/
example : ∃ a, Sat a (mgsLP ⟨[3, 5, 6], 7, true, 1, some [[3, 4], [1, 6]]⟩ 3) := by
  refine (mgs_feasible_iff _ 3 (Or.inl rfl) (forall_partition rfl (by decide))).2
    ⟨[1, 2, 4], rfl, by decide +kernel, fun _ => by decide, forall_partition rfl fun con hcon => ?_⟩
  simp only [List.mem_cons, List.not_mem_nil, or_false] at hcon
  rcases hcon with rfl | rfl
  · exact ⟨[0, 0, 1], rfl, by decide, by decide +kernel⟩
  · exact ⟨[0, 1, 1], rfl, by decide, by decide +kernel⟩

/-- the hypotheses of `mgs_range_contains_optimum_partition` are satisfiable and its conclusion is not trivial:
numbers `[1, 2, 4]`, total `7`, constraints `[[3, 4], [0, 1, 6]]` (different lengths, a zero part):
`upper = 3 + 1 + 1 + 2 = 7`, the loop is `range(1, 8)`, every faithful solver returns size `3` (`{1, 2, 4}`) -/
example : let inp : MGSInput := ⟨[1, 2, 4], 7, true, 1, some [[3, 4], [0, 1, 6]]⟩
    mgsHi inp 1 = 8 ∧ ∀ σ, Faithful inp σ → (stopSearch σ 1 (mgsHi inp 1)).solved = some 3 := by
  intro inp
  refine ⟨by decide +kernel, fun σ hσ => ?_⟩
  have hd : MgsData inp := ⟨by decide +kernel, by decide +kernel, by decide, Or.inl rfl, fun _ => ⟨?_, 7, rfl⟩⟩
  · obtain ⟨m, hm1, hm2, hm3, hm4⟩ :=
      mgs_range_contains_optimum_partition inp σ hσ hd rfl (forall_partition rfl (by decide +kernel)) 1
    obtain ⟨h3, hnot⟩ := solvable_124 inp rfl rfl rfl (forall_partition rfl fun con hcon => by
      simp only [List.mem_cons, List.not_mem_nil, or_false] at hcon
      rcases hcon with rfl | rfl
      · exact ⟨[0, 0, 1], rfl, by decide, by decide +kernel⟩
      · exact ⟨[1, 2, 2], rfl, by decide, by decide +kernel⟩)
    have hle : m ≤ 3 := Nat.le_of_not_lt (fun hlt => hm4 3 (by omega) hlt h3)
    have hge : 3 ≤ m := Nat.le_of_not_lt fun hlt => hnot m hlt hm2
    have : m = 3 := by omega
    rw [← this]; exact hm1
  · exact (by decide : AllInt [1, 2, 4])

/-- multiplicity 2 with the integer helper: `{1, 3}` (total 4) generates `2 = 2·1` and `4 = 1 + 3` -/
example : ∃ a, Sat a (mgsLP { numbers := [2, 4], total := 4, maxMult := 2 } 2) := by
  refine (mgs_feasible_iff _ 2 (Or.inr (by decide +kernel)) (fun cons hc => by cases hc)).2
    ⟨[1, 3], rfl, by decide +kernel, fun h => (by cases h), fun cons hc => (by cases hc)⟩

example : IsGenSet [1, 2, 4] 7 [1, 2, 4] 1 := isGenSet_124
-- the gaps of `[0, 8]` cut at `1, 2, 4`
example : diffs 0 [1, 2, 4] ++ [8 - lastD 0 [1, 2, 4]] = [1, 1, 2, 4] := by decide +kernel
example : mgsPreprocess [3, 4, 7, 0, 3] 7 true = [3] := by decide +kernel
example : mgsPreprocess [3, 4, 7, 0, 3] 7 true 2 = [3, 4] := by decide +kernel
example : IsCover ["a", "b", "c"] [["a"], ["b", "c"], ["a", "b", "c"]] (fun i => i == 0 || i == 1) := by
  intro el hel
  simp only [List.mem_cons, List.not_mem_nil, or_false] at hel
  rcases hel with rfl | rfl | rfl
  · exact ⟨0, by decide, rfl, by decide⟩
  · exact ⟨1, by decide, rfl, by decide⟩
  · exact ⟨1, by decide, rfl, by decide⟩
example : coverWeight (fun i => [1, 1, 3].getD i 0) 3 (fun i => i == 0 || i == 1) = 2 := by decide +kernel

end FP.Props.C15
