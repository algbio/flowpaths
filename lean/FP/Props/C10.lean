import FP.Proofs.C10Witness
import FP.Proofs.C10Example
import FP.Proofs.C10Augment
/-!
# C10 — constraints, ignored elements and extra start/end nodes behave as documented

Rows 7a/7b force every subpath constraint into one decoded path to the requested fraction; conversely,
routes containing the constraints extend, by a choice of the `r` variables and nothing else, to a satisfying
assignment. Together: the feasible set of the LP with constraints, projected to the non-`r` variables, is
exactly the feasible set of the LP without constraints intersected with "every constraint is contained in
some route"; the objectives never mention `r`. The walk models satisfy the same two statements over the
*set* of a constraint's edges. Ignoring an edge deletes exactly that edge's block of the LP. Additional
starts/ends enlarge the route set by exactly the routes starting/ending there.
-/
namespace FP.Props.C10
open FP FP.Spec

/-- **Subpath constraints are honoured (edge-count coverage).** In every satisfying assignment of
`_encode_paths` on a well-formed s-t DAG, for every constraint `j` (whose edges are edges of the
graph, as the constructor checks) there is a layer `i` with `r(i,j) = 1` whose decoded path
contains at least `len(constraint_j) · coverage` of the constraint's list entries. -/
theorem constraint_honoured (s : STGraph) (c : PathCfg) (a : Asg) (hwf : STWF s)
    (hsat : Sat a (encodePaths s c)) (hcl : c.coverageLength = none)
    (j : Nat) (hj : j < c.constraints.length) (hedges : ∀ e ∈ c.constraints[j], e ∈ s.g.edges) :
    ∃ i, i < c.k ∧ a (rVar i j) = 1 ∧
      ∃ p, decodeLayer s (fun e i => a (edgeVar e i)) i = some p ∧
        (c.constraints[j].length : Rat) * c.coverage ≤
          ((c.constraints[j].countP
            (fun e => decide (e ∈ walkEdges (s.source :: p ++ [s.sink]))) : Nat) : Rat) :=
  FP.constraint_honoured s c a hwf hsat hcl j hj hedges

/-- **Subpath constraints are honoured (length coverage).** The decoded path of the responsible layer contains constraint edges of
total length at least `total_len · coverage_length`. -/
theorem constraint_honoured_length (s : STGraph) (c : PathCfg) (a : Asg) (hwf : STWF s)
    (hsat : Sat a (encodePaths s c)) (cl : Rat) (hcl : c.coverageLength = some cl)
    (j : Nat) (hj : j < c.constraints.length) (hedges : ∀ e ∈ c.constraints[j], e ∈ s.g.edges) :
    ∃ i, i < c.k ∧ a (rVar i j) = 1 ∧
      ∃ p, decodeLayer s (fun e i => a (edgeVar e i)) i = some p ∧
        (c.constraints[j].map c.len).sum * cl ≤
          (c.constraints[j].map fun e =>
            if e ∈ walkEdges (s.source :: p ++ [s.sink]) then c.len e else 0).sum :=
  FP.constraint_honoured_length s c a hwf hsat cl hcl j hj hedges

/-- **Subpath constraints are honoured, on the user's graph**: the responsible path is a non-empty admissible route of the caller's
DAG and the count is over the route's own edges. -/
theorem constraint_honoured_route (base : Graph) (starts ends : List Node) (c : PathCfg) (a : Asg)
    (h : BaseWF base) (hac : Acyclic base)
    (hsat : Sat a (encodePaths (augment base starts ends) c)) (hcl : c.coverageLength = none)
    (hcov : 0 < c.coverage)
    (j : Nat) (hj : j < c.constraints.length) (hne : c.constraints[j] ≠ [])
    (hedges : ∀ e ∈ c.constraints[j], e ∈ base.edges) :
    ∃ i, i < c.k ∧ ∃ p, decodeLayer (augment base starts ends) (fun e i => a (edgeVar e i)) i = some p ∧
      ValidRoute base starts ends p ∧
      (c.constraints[j].length : Rat) * c.coverage ≤
        ((c.constraints[j].countP (fun e => decide (e ∈ walkEdges p)) : Nat) : Rat) :=
  FP.constraint_honoured_route base starts ends c a h hac hsat hcl hcov j hj hne hedges

/-- **Completeness of 7a/7b.** Any satisfying assignment of the LP *without* the constraints whose
edge variables are the indicators of routes `P i`, one of which (`resp j`) contains each constraint
`j` to the requested fraction, becomes a satisfying assignment of the LP *with* the constraints by
setting `r(i,j) = [i = resp j]` and changing no other variable. -/
theorem constraint_complete (s : STGraph) (c : PathCfg) (a : Asg) (P : Nat → List Edge)
    (resp : Nat → Nat) (hsat : Sat a (encodePaths s c.noConstraints))
    (hx : ∀ i, i < c.k → ∀ j (hj : j < c.constraints.length), ∀ e ∈ c.constraints[j],
      a (edgeVar e i) = if e ∈ P i then 1 else 0)
    (hlen : ∀ j (hj : j < c.constraints.length), ∀ e ∈ c.constraints[j], 0 ≤ c.len e)
    (hresp : ∀ j (hj : j < c.constraints.length), resp j < c.k ∧
      match c.coverageLength with
      | none => (c.constraints[j].length : Rat) * c.coverage ≤
          ((c.constraints[j].countP (fun e => decide (e ∈ P (resp j))) : Nat) : Rat)
      | some cl => (c.constraints[j].map c.len).sum * cl ≤
          (c.constraints[j].map fun e => if e ∈ P (resp j) then c.len e else 0).sum) :
    Sat (withR a resp) (encodePaths s c) ∧ ∀ v, v.isR = false → withR a resp v = a v :=
  FP.constraint_complete s c a P resp hsat hx hlen hresp

/-- **Ignoring an edge deletes exactly its block (kFlowDecomp).** For an active edge `e` whose
removal does not change the weight bound `w_max` (the maximum flow over the *active* edges):
columns and objective are unchanged and the rows of the LP without `e` ignored are, as a multiset,
the rows of the LP with `e` ignored plus `e`'s `k` product blocks and its class row. -/
theorem ignore_is_row_deletion (inp : FlowInput) (e : Edge) (hnd : inp.st.g.edges.Nodup)
    (he : e ∈ inp.activeEdges) (hw : (inp.ignoreMore e).wmax = inp.wmax) :
    (kfdLP (inp.ignoreMore e)).cols = (kfdLP inp).cols ∧
    (kfdLP (inp.ignoreMore e)).obj = (kfdLP inp).obj ∧
    (kfdLP inp).rows.Perm ((kfdLP (inp.ignoreMore e)).rows ++ kfdEdgeRows inp e) :=
  FP.kfd_ignore_is_row_deletion inp e hnd he hw

/-- `ignore_is_row_deletion` in list form (the order `filter` produces), valid for every `e` -/
theorem ignore_is_row_deletion_filter (inp : FlowInput) (e : Edge)
    (hw : (inp.ignoreMore e).wmax = inp.wmax) :
    kfdLP (inp.ignoreMore e) = (encodePaths inp.st inp.cfg).append
      { cols := kfdCols inp.st inp.cfg.k inp.wmax inp.weightInt,
        rows := kfdRowsOf inp.cfg.k inp.f (inp.activeEdges.filter fun e' => e' != e) inp.wmax } :=
  FP.kfd_ignore_filter inp e hw

/-- ignoring an edge that is already ignored / synthetic / absent changes nothing -/
theorem ignore_inactive_noop (inp : FlowInput) (e : Edge) (he : e ∉ inp.activeEdges) :
    kfdLP (inp.ignoreMore e) = kfdLP inp ∧ kcoverLP (inp.ignoreMore e) = kcoverLP inp := by
  have hact : (inp.ignoreMore e).activeEdges = inp.activeEdges := by
    rw [ignoreMore_active]
    apply List.filter_eq_self.2
    intro x hx
    have : x ≠ e := fun h => he (h ▸ hx)
    simpa using this
  exact ⟨kfdLP_congr_on rfl rfl rfl hact fun _ _ => rfl, kcoverLP_congr_on rfl rfl hact⟩

/-- **The flow value of an ignored edge occurs nowhere in the LP**: changing the flow on ignored
edges (or dropping the attribute: `lookupD … 0`) leaves the LP literally unchanged. -/
theorem ignored_flow_irrelevant (inp : FlowInput) (flow' : List (Edge × Rat))
    (h : ∀ e ∈ inp.activeEdges, lookupD flow' e 0 = lookupD inp.flow e 0) :
    kfdLP { inp with flow := flow' } = kfdLP inp :=
  kfdLP_congr_on rfl rfl rfl rfl h

/-- **kPathCover**: the statement of `ignore_is_row_deletion`, without side condition (no weight bound) -/
theorem ignore_is_row_deletion_kcover (inp : FlowInput) (e : Edge) (hnd : inp.st.g.edges.Nodup)
    (he : e ∈ inp.activeEdges) :
    (kcoverLP (inp.ignoreMore e)).cols = (kcoverLP inp).cols ∧
    (kcoverLP (inp.ignoreMore e)).obj = (kcoverLP inp).obj ∧
    (kcoverLP inp).rows.Perm ((kcoverLP (inp.ignoreMore e)).rows ++ kcoverEdgeRows inp e) := by
  rw [kcover_ignore_filter, kcoverLP_eq]
  simp only [LP.append_cols, LP.append_obj, LP.append_rows, kcoverEdgeRows, true_and]
  exact c10_perm_append_block _ ((BlockWise.map _).delete (hnd.sublist List.filter_sublist) he)

/-- ignoring never makes a feasible cover model infeasible -/
theorem ignore_relaxes_kcover (inp : FlowInput) (e : Edge) (a : Asg) (hsat : Sat a (kcoverLP inp)) :
    Sat a (kcoverLP (inp.ignoreMore e)) := by
  rw [kcover_ignore_filter]
  rw [kcoverLP_eq] at hsat
  exact sat_append_anti a hsat (fun _ h => h) (List.map_subset _ List.filter_sublist.subset)

/-- ignoring never makes a feasible kFlowDecomp model infeasible, at equal `w_max` -/
theorem ignore_relaxes_kfd (inp : FlowInput) (e : Edge) (hw : (inp.ignoreMore e).wmax = inp.wmax)
    (a : Asg) (hsat : Sat a (kfdLP inp)) : Sat a (kfdLP (inp.ignoreMore e)) := by
  rw [kfd_ignore_filter inp e hw]
  rw [kfdLP_eq] at hsat
  exact sat_append_anti a hsat (fun _ h => h) ((kfdRowsOf_blockWise _ _ _).subset List.filter_sublist.subset)

/-- **kLeastAbsErrors**: ignoring `e` removes its rows, its error column and its objective term -/
theorem ignore_is_row_deletion_klae (inp : ErrInput) (e : Edge) (hnd : inp.st.g.edges.Nodup)
    (he : e ∈ inp.basicEdges) (hw : (inp.ignoreMore e).wmax none = inp.wmax none) :
    (klaeLP inp).rows.Perm ((klaeLP (inp.ignoreMore e)).rows ++ klaeEdgeRows inp e) ∧
    (klaeLP inp).obj.Perm ((klaeLP (inp.ignoreMore e)).obj ++ [(inp.scale e, eeVar e)]) ∧
    (klaeLP inp).cols.Perm ((klaeLP (inp.ignoreMore e)).cols
      ++ [errCol (inp.wmax none) inp.fi.weightInt e]) := by
  rw [klae_ignore_filter inp e hw, klaeLP_eq]
  simp only [LP.append_cols, LP.append_obj, LP.append_rows, klaePart]
  have hnd' : inp.basicEdges.Nodup := hnd.sublist List.filter_sublist
  exact ⟨c10_perm_append_block _ ((klaeRows_blockWise _ _ _).delete hnd' he),
    (BlockWise.map _).delete hnd' he,
    c10_perm_append_block _ (c10_perm_append_block _ ((BlockWise.map _).delete hnd' he))⟩

/-- **error scale 0 ≡ ignore** (kLeastAbsErrors): the two LPs are equal -/
theorem scale_zero_eq_ignore (inp : ErrInput) (e : Edge) :
    klaeLP { inp with scaling := (e, 0) :: inp.scaling } = klaeLP (inp.ignoreMore e) :=
  klaeLP_congr_on rfl rfl rfl (scaleZero_agree inp e)

/-- **kMinPathError**: ignoring `e` deletes exactly its three blocks (two product blocks, the two error
rows); columns and objective are unchanged -/
theorem ignore_is_row_deletion_kmpe (inp : MpeInput) (e : Edge) (hnd : inp.ei.st.g.edges.Nodup)
    (he : e ∈ inp.ei.basicEdges) (hw : (inp.ei.ignoreMore e).wmax none = inp.ei.wmax none) :
    (kmpeLP (inp.ignoreMore e)).cols = (kmpeLP inp).cols ∧
    (kmpeLP (inp.ignoreMore e)).obj = (kmpeLP inp).obj ∧
    (kmpeLP inp).rows.Perm ((kmpeLP (inp.ignoreMore e)).rows ++ kmpeEdgeRows inp e) := by
  rw [kmpe_ignore_filter inp e hw, kmpeLP_eq]
  simp only [LP.append_cols, LP.append_obj, LP.append_rows, kmpeEdgeRows, true_and]
  exact c10_perm_append_block _ ((kmpeRows_blockWise _ _ _ _ _).delete (hnd.sublist List.filter_sublist) he)

/-- **error scale 0 ≡ ignore** (kMinPathError) -/
theorem scale_zero_eq_ignore_kmpe (inp : MpeInput) (e : Edge) :
    kmpeLP { inp with ei := inp.ei.scaleZero e } = kmpeLP (inp.ignoreMore e) :=
  kmpeLP_congr_on rfl rfl rfl (scaleZero_agree inp.ei e) rfl rfl

/-- ignoring never makes a feasible kLeastAbsErrors model infeasible, at equal weight bound -/
theorem ignore_relaxes_klae (inp : ErrInput) (e : Edge)
    (hw : (inp.ignoreMore e).wmax none = inp.wmax none) (a : Asg) (hsat : Sat a (klaeLP inp)) :
    Sat a (klaeLP (inp.ignoreMore e)) := by
  have hsub : inp.basicEdges.filter (fun e' => e' != e) ⊆ inp.basicEdges := List.filter_sublist.subset
  rw [klae_ignore_filter inp e hw]
  rw [klaeLP_eq] at hsat
  -- the columns of `klaePart` are fixed ones followed by one error column per non-ignored edge
  exact sat_append_anti a hsat
    (List.append_subset.2 ⟨List.subset_append_left _ _,
      List.subset_append_of_subset_right _ ((BlockWise.map _).subset hsub)⟩)
    ((klaeRows_blockWise _ _ _).subset hsub)

/-- ignoring never makes a feasible kMinPathError model infeasible, at equal weight bound -/
theorem ignore_relaxes_kmpe (inp : MpeInput) (e : Edge)
    (hw : (inp.ei.ignoreMore e).wmax none = inp.ei.wmax none) (a : Asg) (hsat : Sat a (kmpeLP inp)) :
    Sat a (kmpeLP (inp.ignoreMore e)) := by
  rw [kmpe_ignore_filter inp e hw]
  rw [kmpeLP_eq] at hsat
  exact sat_append_anti a hsat (fun _ h => h)
    ((kmpeRows_blockWise _ _ _ _ _).subset List.filter_sublist.subset)

/-!
For `klaecLP` (`kLeastAbsErrorsCycles`) the statements corresponding to `ignored_flow_irrelevant` and
`ignore_relaxes_*` are *false* (the model mirrors the code); the witnesses below are replayed on the real
code by the check (known findings `C10-cyclic-cap-uses-ignored-flow`, `C10-walk-product-bits-from-wmax`).
-/

/-- what C10 demands of the cyclic encoder: the flow of ignored edges does not reach the LP -/
def ignored_flow_irrelevant_klaec_FullStatement : Prop :=
  ∀ (inp : WalkInput) (flow' : List (Edge × Rat)),
    (∀ e ∈ inp.activeEdges true, flow'.lookup e = inp.flow.lookup e) →
    klaecLP { inp with flow := flow' } = klaecLP inp

/-- **falsified**: on `f → h ⇄ hc`, `h → g` with `(h, hc)` ignored, the flow value of the ignored edge
is the upper bound of its multiplicity variable (`compute_edge_max_reachable_value`). The refuted statement asks
for equal `lookup`s on the non-ignored edges, more than the `lookupD … 0` of the DAG theorem `ignored_flow_irrelevant`:
it fails even so. -/
theorem ignored_flow_irrelevant_klaec_false : ¬ ignored_flow_irrelevant_klaec_FullStatement := by
  intro h
  have := h (C10Witness.winp (3/2)) (C10Witness.winp (7/2)).flow C10Witness.agree_off_ignored
  exact C10Witness.klaec_ignored_flow_matters this.symm

/-- what C10 demands: ignoring one more edge keeps a feasible model feasible -/
def ignore_relaxes_klaec_FullStatement : Prop :=
  ∀ (inp : WalkInput) (e : Edge), (∃ a, Sat a (klaecLP inp)) →
    ∃ a, Sat a (klaecLP { inp with ignore := e :: inp.ignore })

/-- **falsified**: on `d → s → u0` with a loop at `s` (flows 1, 0, 0; the loop ignored), ignoring
`(d, s)` makes `w_max = 0`; the integer × continuous product then has no bits and forces the
multiplicity of `(s, u0)` to 0 — the LP becomes infeasible -/
theorem ignore_relaxes_klaec_false : ¬ ignore_relaxes_klaec_FullStatement := by
  intro h
  obtain ⟨a, ha⟩ := h (C10Witness.zinp [("s", "s")]) ("d", "s") C10Witness.klaec_feasible_before_ignoring
  exact C10Witness.klaec_infeasible_after_ignoring a ha

/-- **Source-to-sink walks of the augmented graph = admissible routes of the user's graph**, for
every well-formed user graph and all declared additional starts / ends (both directions). -/
theorem augment_starts_ends (base : Graph) (starts ends : List Node) (h : BaseWF base)
    (p : List Node) :
    IsWalkIn (augment base starts ends).g (srcName :: p ++ [snkName]) ↔
      ValidRoute base starts ends p :=
  FP.augment_starts_ends base starts ends h p

/-- enlarging `starts` / `ends` only adds admissible routes -/
theorem starts_ends_monotone (base : Graph) (starts starts' ends ends' : List Node)
    (hs : ∀ v ∈ starts, v ∈ starts') (he : ∀ v ∈ ends, v ∈ ends') (p : List Node)
    (h : ValidRoute base starts ends p) : ValidRoute base starts' ends' p :=
  ⟨h.nonempty, h.nodes, h.adjacent,
    fun v hv => (h.first v hv).imp id (hs v), fun v hv => (h.last v hv).imp id (he v)⟩

/-- a route admitted only with `v` declared an additional start starts at `v` -/
theorem new_route_starts_there (base : Graph) (starts ends : List Node) (v : Node) (p : List Node)
    (h : ValidRoute base (v :: starts) ends p) (hn : ¬ ValidRoute base starts ends p) :
    p.head? = some v :=
  FP.new_route_starts_there base starts ends v p h hn

/-- a route admitted only with `v` declared an additional end ends at `v` -/
theorem new_route_ends_there (base : Graph) (starts ends : List Node) (v : Node) (p : List Node)
    (h : ValidRoute base starts (v :: ends) p) (hn : ¬ ValidRoute base starts ends p) :
    p.getLast? = some v :=
  FP.new_route_ends_there base starts ends v p h hn

/-- declaring a node that already is a source changes nothing, not even the augmented graph -/
theorem start_at_source_noop (base : Graph) (starts ends : List Node) (v : Node)
    (hv : base.pred v = []) : augment base (v :: starts) ends = augment base starts ends :=
  augment_congr base (funext (c10_declared_noop base.pred v starts hv)) rfl

/-- declaring a node that already is a sink changes nothing either -/
theorem end_at_sink_noop (base : Graph) (starts ends : List Node) (v : Node)
    (hv : base.succ v = []) : augment base starts (v :: ends) = augment base starts ends :=
  augment_congr base rfl (funext (c10_declared_noop base.succ v ends hv))

/-- the two `min1` rows make `used_edge(e,i)` the indicator of `edge(e,i) ≥ 1` -/
theorem used_indicator_exact (a : Asg) (e : Edge) (i : Nat) (ub : Rat)
    (hu : a (usedVar e i) = 0 ∨ a (usedVar e i) = 1) (hx0 : 0 ≤ a (edgeVar e i))
    (hrows : ∀ r ∈ min1Rows e i ub, r.holds a) :
    (a (usedVar e i) = 1 ↔ 1 ≤ a (edgeVar e i)) ∧ (a (usedVar e i) = 0 ↔ a (edgeVar e i) = 0) :=
  FP.used_indicator_exact a e i ub hu hx0 hrows

/-- conversely, for an integral multiplicity in `[0, ub]` the indicator of `edge(e,i) ≥ 1` satisfies both
`min1` rows -/
theorem used_indicator_complete (a : Asg) (e : Edge) (i : Nat) (ub : Rat)
    (hz : ∃ z : Int, a (edgeVar e i) = z) (hx0 : 0 ≤ a (edgeVar e i)) (hub : a (edgeVar e i) ≤ ub)
    (hu : a (usedVar e i) = if 1 ≤ a (edgeVar e i) then 1 else 0) :
    ∀ r ∈ min1Rows e i ub, r.holds a :=
  FP.used_indicator_complete a e i ub hz hx0 hub hu

/-- **Subset constraints are honoured**: the responsible walk traverses (multiplicity ≥ 1; the
multiplicities are the traversal counts of the reconstructed walk, C14) at least
`|set(constraint_j)| · coverage` of the *distinct* edges of the constraint. -/
theorem subset_constraint_honoured (s : STGraph) (c : WalkCfg) (ub : Edge → Rat) (a : Asg)
    (hsat : Sat a (walkCore s c ub)) (j : Nat) (hj : j < c.constraints.length)
    (hedges : ∀ e ∈ c.constraints[j], e ∈ s.g.edges) :
    ∃ i, i < c.k ∧ a (rVar i j) = 1 ∧
      (c.constraints[j].eraseDups.length : Rat) * c.coverage ≤
        ((c.constraints[j].eraseDups.countP (fun e => decide (1 ≤ a (edgeVar e i))) : Nat) : Rat) :=
  FP.subset_constraint_honoured s c ub a hsat j hj hedges

/-- **Completeness of the subset block** (the analogue of `constraint_complete`). Any satisfying assignment of
`_encode_walks` in which, for every subset constraint `j` (its edges are edges of the graph, as
`_check_valid_subset_constraints` enforces), the layer `resp j` traverses at least
`|set(constraint_j)| · coverage` of the constraint's distinct edges becomes a satisfying assignment of
`create_solver_and_walks` by the explicit choice `FP.subsetAsg`: `used_edge(e,i) = [edge(e,i) ≥ 1]`,
`r(i,j) = [layer i covers constraint j to the fraction]`; every column other than `r` / `used_edge` keeps its
value. The coverage fraction is arbitrary, and the row `edge ≤ ub·used_edge` follows
from the column bound `edge(e,i) ≤ ub e`, which is part of `Sat a (encodeWalks s c ub)`. -/
theorem subset_constraint_complete (s : STGraph) (c : WalkCfg) (ub : Edge → Rat) (a : Asg) (resp : Nat → Nat)
    (hsat : Sat a (encodeWalks s c ub))
    (hresp : ∀ j (hj : j < c.constraints.length), resp j < c.k ∧
      (∀ e ∈ c.constraints[j], e ∈ s.g.edges) ∧
      (c.constraints[j].eraseDups.length : Rat) * c.coverage ≤
        ((c.constraints[j].eraseDups.countP (fun e => decide (1 ≤ a (edgeVar e (resp j)))) : Nat) : Rat)) :
    ∃ a', Sat a' (walkCore s c ub) ∧ (∀ e i, a' (edgeVar e i) = a (edgeVar e i)) ∧
      ∀ v, (∀ i j, v ≠ rVar i j) → (∀ e i, v ≠ usedVar e i) → a' v = a v :=
  ⟨_, FP.subsetAsg_complete s c ub a hsat fun j hj => ⟨resp j, hresp j hj⟩, FP.subsetAsg_edge a _ _,
    FP.subsetAsg_other a _ _⟩

/-- **The subset block is exact** (`subset_constraint_honoured` + `subset_constraint_complete`): the
feasible set of `create_solver_and_walks`, projected to the columns other than `r` / `used_edge`, is the
feasible set of `_encode_walks` intersected with "every subset constraint is covered, to the requested
fraction of its distinct edges, by some layer". -/
theorem subset_block_exact (s : STGraph) (c : WalkCfg) (ub : Edge → Rat) (a : Asg)
    (hedges : ∀ con ∈ c.constraints, ∀ e ∈ con, e ∈ s.g.edges) :
    (∃ a', Sat a' (walkCore s c ub) ∧
        ∀ v, (∀ i j, v ≠ rVar i j) → (∀ e i, v ≠ usedVar e i) → a' v = a v) ↔
      (Sat a (encodeWalks s c ub) ∧ ∀ j (hj : j < c.constraints.length), ∃ i, i < c.k ∧
        (c.constraints[j].eraseDups.length : Rat) * c.coverage ≤
          ((c.constraints[j].eraseDups.countP (fun e => decide (1 ≤ a (edgeVar e i))) : Nat) : Rat)) := by
  constructor
  · rintro ⟨a', hsat, hsame⟩
    have hE : ∀ e i, a (edgeVar e i) = a' (edgeVar e i) := fun e i =>
      (hsame _ (fun _ _ h => by simp [edgeVar, rVar] at h)
        (fun _ _ h => by simp [edgeVar, usedVar] at h)).symm
    have hS : ∀ e i, a (selVar e i) = a' (selVar e i) := fun e i =>
      (hsame _ (fun _ _ h => by simp [selVar, rVar] at h)
        (fun _ _ h => by simp [selVar, usedVar] at h)).symm
    have hD : ∀ v i, a (distVar v i) = a' (distVar v i) := fun v i =>
      (hsame _ (fun _ _ h => by simp [distVar, rVar] at h)
        (fun _ _ h => by simp [distVar, usedVar] at h)).symm
    refine ⟨FP.encodeWalks_transfer s c ub id (fun _ hi => hi) a' a hE hS hD (FP.sat_append_left hsat), ?_⟩
    intro j hj
    obtain ⟨i, hi, _, hle⟩ := subset_constraint_honoured s c ub a' hsat j hj
      (hedges _ (List.getElem_mem hj))
    refine ⟨i, hi, ?_⟩
    simp only [hE]
    exact hle
  · rintro ⟨hsat, hcov⟩
    exact ⟨_, FP.subsetAsg_complete s c ub a hsat fun j hj =>
      let ⟨i, hi, hle⟩ := hcov j hj; ⟨i, hi, hedges _ (List.getElem_mem hj), hle⟩, FP.subsetAsg_other a _ _⟩

open FP.C10Example in
/-- `constraint_complete` produces a satisfying assignment of the LP with the constraint `[(a,b),(b,c)]`,
`constraint_honoured` applies to it -/
example : ∃ i, i < cfgC.k ∧ (withR PathCoreExample.asg (fun _ => 0)) (rVar i 0) = 1 ∧ ∃ p,
    decodeLayer PathCoreExample.st (fun e i => (withR PathCoreExample.asg (fun _ => 0)) (edgeVar e i)) i = some p ∧
    ((cfgC.constraints[0]'(by decide)).length : Rat) * cfgC.coverage ≤
      (((cfgC.constraints[0]'(by decide)).countP
        (fun e => decide (e ∈ walkEdges (PathCoreExample.st.source :: p ++ [PathCoreExample.st.sink]))) : Nat) : Rat) :=
  constraint_honoured PathCoreExample.st cfgC _ PathCoreExample.st_wf sat_with_constraint rfl 0
    (by decide) (by rw [PathCoreExample.st_edges]; decide)

example := FP.C10Example.ignore_example
example := FP.C10Example.route_example
example := FP.C10Example.min1_example

open FP.C10SubsetExample in
/-- `subset_constraint_complete` on the walk `source, s, a, a, a, t, sink` with the subset constraint `[(a,a), (a,t), (a,a)]`
(two distinct edges): the hypotheses are met, and `subset_constraint_honoured` applies to the result -/
example : ∃ a', Sat a' (walkCore WalkCoreExample.st cfgS WalkCoreExample.ub) ∧
    (∀ e i, a' (edgeVar e i) = WalkCoreExample.asg (edgeVar e i)) ∧
    ∀ v, (∀ i j, v ≠ rVar i j) → (∀ e i, v ≠ usedVar e i) → a' v = WalkCoreExample.asg v :=
  subset_constraint_complete WalkCoreExample.st cfgS WalkCoreExample.ub WalkCoreExample.asg (fun _ => 0)
    sat_enc resp_ok

example := FP.C10SubsetExample.ext_values

end FP.Props.C10
