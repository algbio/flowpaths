import FP.Proofs.PathCoreExample
import FP.Proofs.C09WalkExample
import FP.Proofs.CondWalkCoverNeeds
import FP.Proofs.KFDCWalks
/-!
# C09 — minimum path/walk covers cover everything with fewest routes; the width equals it

DAG part (`kPathCover`, `MinPathCover`, `stDAG.get_width`): the LP of `kPathCover` is feasible exactly when `k`
source-to-sink paths cover every edge that is not ignored (and contain every subpath constraint, at coverage
fraction 1), and every solution decodes to such paths; with a faithful solver and a valid lower bound the loop
of `MinPathCover.solve` returns the minimum cover size. An antichain is a lower bound, and pairwise
unreachability (a BFS check) makes an antichain, for digraphs with cycles as well. A feasible integral flow of
cost `c` decomposes into `c` covering paths; together with an antichain of the same size it certifies `c` =
minimum cover size. The min-flow/max-antichain *strong duality* (that such a pair always exists and that the
network simplex and the residual search find it) is not proven: the harness checks the pair on every run.

Cyclic part (`kPathCoverCycles`, `MinPathCoverCycles`, `stDiGraph.get_width`), for arbitrary digraphs: every
solution of the LP decodes to `k` source-to-sink walks covering every edge that is not ignored (and containing
the subset constraints, at coverage fraction 1); every family of `k ≥ 1` covering walks within the repetition
caps extends to a solution whose edge variables are the traversal counts, and the caps (`|E|·|V|` inside SCCs,
`1` outside) cut off no cover; hence feasible ⇔ a cover exists, and the minimum search. The flow-to-walks
direction on the condensation and its corollary on the width are proven under the hypotheses `hclosed` and
`hinc`, each shown necessary (`cwc_needs_closed`, `cwc_needs_no_isolated`).
-/
namespace FP.Props.C09
open FP FP.Spec FP.Search

-- trap: `FP.outN` (`WalkResidual`) and `FP.Spec.outN` (`Spec/Cover`) have one body and both are in scope here; the bare
-- `outN` of the four statements on the width means the first, the theorems of `FlowCover` and `CondWalkCover` they are
-- proved from say the second, and the proofs go through by unfolding
example : @outN = @FP.outN := by with_reducible rfl

/-- Every satisfying assignment of the `kPathCover` LP on a well-formed user DAG decodes to
`k` paths, each a valid simple route of the user's graph (or empty, only if empty paths are allowed),
such that every edge that is neither ignored nor synthetic lies on at least one of them -/
theorem kcover_sound (inp : FlowInput) (a : Asg) (h : BaseWF inp.base) (hac : Acyclic inp.base)
    (hsat : Sat a (kcoverLP inp)) :
    ∃ ps : List (List Node), decodePaths inp.st (fun e i => a (edgeVar e i)) inp.cfg.k = some ps ∧
      ps.length = inp.cfg.k ∧
      (∀ p ∈ ps, p ≠ [] → ValidRoute inp.base inp.starts inp.ends p ∧ p.Nodup) ∧
      (∀ p ∈ ps, p = [] → inp.cfg.allowEmpty = true) ∧
      ∀ e ∈ inp.activeEdges, ∃ p ∈ ps, e ∈ walkEdges p :=
  FP.kcover_sound inp a h hac hsat

/-- `k` source-to-sink paths of the augmented graph covering every active edge and containing
every subpath constraint give a satisfying assignment (coverage fraction 1, no length coverage, no
position variables — the configuration `kPathCover` uses unless `length_attr` coverage is requested) -/
theorem kcover_complete (inp : FlowInput) (h : BaseWF inp.base) (hac : Acyclic inp.base)
    (routes : List (List Node)) (hk : routes.length = inp.cfg.k)
    (hcl : inp.cfg.coverageLength = none) (hcov : inp.cfg.coverage = 1)
    (hpos : inp.cfg.encodePosition = false)
    (hr : ∀ r ∈ routes, IsSTWalk inp.st r) (hc : Covers routes inp.activeEdges)
    (hs : Satisfies routes inp.cfg.constraints) :
    Sat (coverAsg routes inp.cfg.constraints) (kcoverLP inp) :=
  FP.kcover_complete inp (h.stwf hac) routes hk hcl hcov hpos hr hc hs

/-- **feasible ⇔ a cover exists** (empty paths not allowed, the default) -/
theorem kcover_feasible_iff (inp : FlowInput) (h : BaseWF inp.base) (hac : Acyclic inp.base)
    (hae : inp.cfg.allowEmpty = false) (hcl : inp.cfg.coverageLength = none)
    (hcov : inp.cfg.coverage = 1) (hpos : inp.cfg.encodePosition = false)
    (hce : ∀ c ∈ inp.cfg.constraints, ∀ e ∈ c, e ∈ inp.st.g.edges) :
    (∃ a, Sat a (kcoverLP inp)) ↔ HasCover inp.st inp.activeEdges inp.cfg.constraints inp.cfg.k :=
  FP.kcover_feasible_iff inp (h.stwf hac) hae hcl hcov hpos hce

/-- a cover with `k ≥ 1` routes gives one with `k + 1` (a route may be repeated): the sizes for which a cover
exists are upward closed, as the upward loop of `MinPathCover.solve` assumes -/
theorem cover_monotone (s : STGraph) (active : List Edge) (cons : List (List Edge)) (k : Nat)
    (hk : 1 ≤ k) (h : HasCover s active cons k) : HasCover s active cons (k + 1) :=
  FP.cover_monotone s active cons k hk h

/-- Distinct active edges no two of which lie on a common source-to-sink walk bound every cover
from below (any s-t digraph, cycles allowed) -/
theorem antichain_weak_duality (s : STGraph) (active : List Edge) (cons : List (List Edge))
    (A : List Edge) (hA : Antichain s A) (hact : ∀ e ∈ A, e ∈ active) (k : Nat)
    (h : HasCover s active cons k) : A.length ≤ k :=
  FP.antichain_weak_duality s active cons A hA hact k h

/-- what the harness's breadth-first check of a reported antichain establishes -/
theorem antichain_of_unreachable (s : STGraph) (A : List Edge) (hnd : A.Nodup)
    (h : ∀ e1 ∈ A, ∀ e2 ∈ A, e1 ≠ e2 → ¬ Reach s.g.edges e1.2 e2.1) : Antichain s A :=
  FP.antichain_of_unreachable s A hnd h

/-- `stopSearch` with a faithful status script and a valid lower bound returns the minimum cover size -/
theorem cover_search_minimal (s : STGraph) (active : List Edge) (cons : List (List Edge))
    (σ : Nat → Status) (lo hi m : Nat)
    (hopt : ∀ k, σ k = .optimal → HasCover s active cons k)
    (hinf : ∀ k, σ k = .infeasible → ¬ HasCover s active cons k)
    (hlb : ∀ j, j < lo → ¬ HasCover s active cons j)
    (h : (stopSearch σ lo hi).solved = some m) : IsMinCover s active cons m :=
  let ⟨h1, h2, _⟩ := stopSearch_minimal _ σ lo hi m hopt hinf hlb h
  ⟨h1, h2⟩

/-- `stopSearch` with a status script that decides every `k` finds the minimum cover size whenever it lies
inside the searched range -/
theorem cover_search_finds_minimum (s : STGraph) (active : List Edge) (cons : List (List Edge))
    (σ : Nat → Status) (lo hi m : Nat)
    (hopt : ∀ k, HasCover s active cons k → σ k = .optimal)
    (hinf : ∀ k, ¬ HasCover s active cons k → σ k = .infeasible)
    (hlb : ∀ j, j < lo → ¬ HasCover s active cons j)
    (hm : IsMinCover s active cons m) (hhi : m < hi) :
    (stopSearch σ lo hi).solved = some m :=
  stopSearch_finds_minimum _ σ lo hi m hopt hinf (Nat.le_of_not_lt fun hc => hlb m hc hm.1) hhi hm.1 hm.2

/-- **`MinPathCover.solve`, end to end.** The solver is faithful (it reports `optimal` exactly for
feasible and `infeasible` exactly for infeasible `k`-models), the search starts at the size of an
antichain of active edges (the certificate behind `get_width`): an answer `m` is the minimum number of
paths covering every edge that is not ignored and containing the subpath constraints. -/
theorem mincover_search (inp : FlowInput) (h : BaseWF inp.base) (hac : Acyclic inp.base)
    (hae : inp.cfg.allowEmpty = false) (hcl : inp.cfg.coverageLength = none)
    (hcov : inp.cfg.coverage = 1) (hpos : inp.cfg.encodePosition = false)
    (hce : ∀ c ∈ inp.cfg.constraints, ∀ e ∈ c, e ∈ inp.st.g.edges)
    (σ : Nat → Status)
    (hopt : ∀ k, σ k = .optimal → ∃ a, Sat a (kcoverLP (withK inp k)))
    (hinf : ∀ k, σ k = .infeasible → ¬ ∃ a, Sat a (kcoverLP (withK inp k)))
    (A : List Edge) (hA : Antichain inp.st A) (hAact : ∀ e ∈ A, e ∈ inp.activeEdges)
    (hi m : Nat) (hs : (stopSearch σ A.length hi).solved = some m) :
    IsMinCover inp.st inp.activeEdges inp.cfg.constraints m :=
  FP.mincover_search inp h hac hae hcl hcov hpos hce σ hopt hinf A hA hAact hi m hs

/-- An integral feasible flow of the min-flow instance (conserved at the inner nodes, at
least the demand on every edge) with source out-flow `c` decomposes into `c` source-to-sink paths
covering every edge of positive demand: the width is at least the minimum cover size -/
theorem flow_to_cover (s : STGraph) (hwf : STWF s) (demand f : Edge → Nat)
    (hf : CoveringFlow s demand f) (c : Nat) (hc : outN s.g f s.source = c) :
    HasCover s (s.g.edges.filter fun e => decide (1 ≤ demand e)) [] c :=
  FP.flow_to_cover s hwf demand f hf c hc

/-- **the run-time certificate of `get_width`.** a feasible integral flow whose cost equals the size of
an antichain of edges with positive demand: that number is the minimum size of a path cover -/
theorem width_certificate (s : STGraph) (hwf : STWF s) (demand f : Edge → Nat)
    (hf : CoveringFlow s demand f) (A : List Edge) (hA : Antichain s A)
    (hAact : ∀ e ∈ A, e ∈ s.g.edges.filter fun e => decide (1 ≤ demand e))
    (hcost : outN s.g f s.source = A.length) :
    IsMinCover s (s.g.edges.filter fun e => decide (1 ≤ demand e)) [] A.length :=
  FP.width_certificate s hwf demand f hf A hA hAact hcost

/-- the demands `stDAG.get_width(source_sink_edges ∪ ignored)` puts on the min-flow instance are the
indicator of the active edges (also when every edge is ignored: the empty weight dictionary means
demand 0 everywhere, as in the code at fix 820f3e3) -/
theorem dag_width_demands (inp : FlowInput) (e : Edge) (he : e ∈ inp.st.g.edges) :
    lookupD (dagWidthDemands inp.st (inp.st.sourceSinkEdges ++ inp.ignore)) e 0
      = if e ∈ inp.activeEdges then 1 else 0 :=
  FP.dag_width_demands inp e he

/-- **Cyclic counterpart of `kcover_sound`.** Every satisfying assignment of the `kPathCoverCycles` LP on a well-formed
user digraph (cycles allowed), empty walks not allowed (the default), decodes (Eulerian reconstruction per
layer, `get_solution_walks`) to exactly `k` walks such that

* each decoded walk is a route of the *user's* graph (`ValidRoute`: from a node without in-edges or a declared
  start to a node without out-edges or a declared end) and, with the synthetic endpoints that
  `get_solution_walks` strips put back, a source-to-sink walk of the augmented graph;
* every edge that is not ignored lies on one of the decoded walks (already on the stripped walk: an edge that
  is not ignored is not a synthetic edge).

The first clause speaks of `source :: r ++ [sink]`, not of the decoded walk `r` itself, because
`get_solution_walks` strips the synthetic endpoints (`walkcover_sound_literal_false`). Subset constraints and the
coverage fraction are arbitrary. Proof: `walkcore_layer` / `walk_routes_valid` (C01) + the cover rows. -/
theorem walkcover_sound (inp : WalkInput) (a : Asg) (h : BaseWF inp.base)
    (hae : inp.cfg.allowEmpty = false) (hsat : Sat a (kcovercLP inp)) :
    (decodeWalks inp.st a inp.k).length = inp.k ∧
    (∀ r ∈ decodeWalks inp.st a inp.k,
      IsSTWalk inp.st (inp.st.source :: r ++ [inp.st.sink]) ∧ ValidRoute inp.base inp.starts inp.ends r) ∧
    Covers (decodeWalks inp.st a inp.k) (inp.activeEdges false) := by
  refine ⟨by simp [decodeWalks], ?_, ?_⟩
  · intro r hr
    obtain ⟨i, hi, rfl⟩ := List.mem_map.1 hr
    exact kcoverc_layer inp a h hae hsat i (List.mem_range.1 hi)
  · intro e he
    obtain ⟨i, hi, hmem⟩ := kcoverc_cover_mem inp a h hsat he
    obtain ⟨_, hs, ht, _⟩ := (mem_activeEdges_false inp e).1 he
    exact ⟨decodeWalkLayer inp.st a i, List.mem_map.2 ⟨i, List.mem_range.2 hi, rfl⟩,
      (we_mem_strip _ hs ht).1 hmem⟩

/-- **Cyclic counterpart of `kcover_complete`.** `k ≥ 1` source-to-sink walks of the augmented graph (`walk i` is the inner
vertex sequence of the `i`-th one) such that (`WalkCoverWithin`)

* every edge that is not ignored lies on one of them,
* no walk runs through an edge more often than the model's cap for it (`kcovercCap`: `|E|·|V|` of the augmented
  graph — the `max_edge_repetition` the class passes — on the edges inside a strongly connected component, `1` on
  every other edge),
* every subset constraint is covered by one of them, to the coverage fraction of the model (`coversB`: the number
  of distinct constraint edges the walk uses is at least `|set(constraint)| · coverage`),

extend to a satisfying assignment of `kcovercLP` whose edge variables are the traversal counts (`selected_edge` =
first-entry edges, `distance` = first-visit ranks, `used_edge` = indicator of a positive count, `r(i, j)` = "walk
`i` covers constraint `j`"). No hypothesis on `allow_empty_walks`, the coverage fraction or the constraints. -/
theorem walkcover_complete (inp : WalkInput) (walk : Nat → List Node) (h : BaseWF inp.base)
    (hk : 0 < inp.k) (hw : WalkCoverWithin inp walk) :
    Sat (kcovercWalkAsg inp walk) (kcovercLP inp) ∧
      (∀ i e, kcovercWalkAsg inp walk (edgeVar e i)
        = (traversals (inp.st.source :: walk i ++ [inp.st.sink]) e : Rat)) ∧
      (∀ i e, multOf (kcovercWalkAsg inp walk) i e
        = traversals (inp.st.source :: walk i ++ [inp.st.sink]) e) := by
  have hedge := fun i e => kcovercWalkAsg_edge inp walk e i
  exact ⟨kcovercWalkAsg_sat inp walk h hw, hedge, fun i e => multOf_of_eq _ i e _ (hedge i e)⟩

/-- **"within the caps" is no restriction (1): one walk.** Every source-to-sink walk `r` of the augmented graph
has a companion `source :: p ++ [sink]` that runs through every edge of `r` and respects every cap: it uses no
edge more than `2|E| + 1 ≤ |E|·|V|` times (`FP.c09c_compress`: simple path to the first edge still to be visited,
the edge, and so on; a graph with a source-to-sink walk has `|V| ≥ 3`, `|E| ≥ 1`) and an edge outside the SCCs
at most once (as every walk does). With a smaller `max_edge_repetition` this fails: with `|V|`, the graphs
`s → u → v`, `v → a_i`, `a_i → b_j` (all `p·q` pairs), `b_j → u`, `u → t` with `p·q > |V|` have a one-walk cover,
none within the caps, and `MinPathCoverCycles` answers 2. -/
theorem walk_within_caps (inp : WalkInput) (h : BaseWF inp.base) (r : List Node) (hr : IsSTWalk inp.st r) :
    ∃ p, IsWalkIn inp.st.g (inp.st.source :: p ++ [inp.st.sink]) ∧
      (∀ e ∈ walkEdges r, e ∈ walkEdges (inp.st.source :: p ++ [inp.st.sink])) ∧
      ∀ e ∈ inp.st.g.edges,
        (traversals (inp.st.source :: p ++ [inp.st.sink]) e : Rat) ≤ kcovercCap inp e := by
  have hwf : STWFc inp.st := h.stwfc
  obtain ⟨l', hl', hsub, hcnt⟩ := c09c_compress inp.st.g r inp.st.source inp.st.sink
    ⟨hr.walk, hr.first, hr.last⟩
  obtain ⟨p, rfl⟩ := stwalk_shape hwf.ne (⟨hl'.first, hl'.last, hl'.walk⟩ : IsSTWalk inp.st l')
  have hW : IsWalkIn inp.st.g (inp.st.source :: p ++ [inp.st.sink]) := hl'.walk
  refine ⟨p, hW, hsub, fun e he => ?_⟩
  cases hs : isSccEdge inp.st.g e with
  | true =>
    rw [c09k_cap_scc inp e he hs]
    exact Rat.natCast_le_natCast.2 (Nat.le_trans (hcnt e) (c09k_size inp.st hwf p hW))
  | false =>
    rw [kcovercCap_nonScc inp e he hs]
    exact (Rat.natCast_le_natCast (b := 1)).2 (nonScc_once inp.st.g hwf.closed _ hW e he hs)

/-- **"within the caps" is no restriction (2): covers.** Whatever `k` source-to-sink walks cover (every edge that
is not ignored; every subset constraint completely), `k` walks within the caps cover as well — for every `k`, in
particular for the minimum (coverage fraction at most 1, which the class enforces). -/
theorem walkcover_caps_suffice (inp : WalkInput) (h : BaseWF inp.base) (hcov : inp.cfg.coverage ≤ 1)
    (hc : HasCover inp.st (inp.activeEdges false) inp.cfg.constraints inp.k) :
    ∃ walk, WalkCoverWithin inp walk := by
  obtain ⟨routes, hlen, hwalk, hcovers, hsat⟩ := hc
  -- a companion within the caps for every route
  obtain ⟨f, hf⟩ := exists_choice (Q := IsSTWalk inp.st) fun r hr => walk_within_caps inp h r hr
  have hidx : ∀ r ∈ routes, ∃ i, i < inp.k ∧ routes.getD i [] = r := by
    intro r hr
    obtain ⟨i, hi, rfl⟩ := List.getElem_of_mem hr
    exact ⟨i, hlen ▸ hi, getD_eq_getElem routes [] hi⟩
  have hgood : ∀ i, i < inp.k → IsSTWalk inp.st (routes.getD i []) :=
    fun i hi => hwalk _ (getD_mem [] (hlen ▸ hi))
  refine ⟨fun i => f (routes.getD i []), fun i hi => (hf _ (hgood i hi)).1,
    fun i hi => (hf _ (hgood i hi)).2.2, ?_, ?_⟩
  · intro e he
    obtain ⟨r, hr, her⟩ := hcovers e he
    obtain ⟨i, hi, rfl⟩ := hidx r hr
    exact ⟨i, hi, (hf _ (hgood i hi)).2.1 e her⟩
  · intro j hj
    obtain ⟨r, hr, hall⟩ := hsat _ (List.getElem_mem hj)
    obtain ⟨i, hi, rfl⟩ := hidx r hr
    exact ⟨i, hi, coversB_of_all _ _ _ hcov fun e he =>
      Nat.ne_of_gt (List.count_pos_iff.2 ((hf _ (hgood i hi)).2.1 e (hall e he)))⟩

/-- Conversely to `walkcover_caps_suffice`, a family within the caps is a cover in the sense of `HasCover` when the coverage fraction is
(at least) 1. At coverage fraction 1 the two notions coincide. -/
theorem walkcover_within_is_cover (inp : WalkInput) (walk : Nat → List Node) (hcov : 1 ≤ inp.cfg.coverage)
    (hw : WalkCoverWithin inp walk) :
    HasCover inp.st (inp.activeEdges false) inp.cfg.constraints inp.k := by
  let full : Nat → List Node := fun i => inp.st.source :: walk i ++ [inp.st.sink]
  have hmem : ∀ i, i < inp.k → full i ∈ (List.range inp.k).map full :=
    fun i hi => List.mem_map.2 ⟨i, List.mem_range.2 hi, rfl⟩
  refine ⟨(List.range inp.k).map full, by simp, ?_, ?_, ?_⟩
  · intro r hr
    obtain ⟨i, hi, rfl⟩ := List.mem_map.1 hr
    exact ⟨rfl, List.getLast?_concat (l := inp.st.source :: walk i), hw.isWalk i (List.mem_range.1 hi)⟩
  · intro e he
    obtain ⟨i, hi, hmem'⟩ := hw.covers e he
    exact ⟨full i, hmem i hi, hmem'⟩
  · intro c hc
    obtain ⟨j, hj, rfl⟩ := List.getElem_of_mem hc
    obtain ⟨i, hi, hcb⟩ := hw.covered j hj
    exact ⟨full i, hmem i hi, fun e he =>
      List.count_pos_iff.1 (Nat.pos_of_ne_zero (all_of_coversB _ _ _ hcov hcb e he))⟩

/-- **`walkcover_sound` in the vocabulary of covers** (the direction "feasible ⇒ a cover exists" of `kcover_feasible_iff`
for digraphs with cycles): a feasible `kPathCoverCycles` LP yields `k` source-to-sink walks of the augmented
graph covering every edge that is not ignored and containing every subset constraint completely. Two
hypotheses concern the constraints only: the coverage fraction is at least 1 (i.e. 1: the class accepts `(0, 1]`; `Satisfies`
speaks of complete containment) and every constraint edge is an edge of the augmented graph (anything else
is rejected by `_check_valid_subset_constraints`). -/
theorem walkcover_hascover (inp : WalkInput) (a : Asg) (h : BaseWF inp.base)
    (hae : inp.cfg.allowEmpty = false) (hsat : Sat a (kcovercLP inp)) (hcov : 1 ≤ inp.cfg.coverage)
    (hce : ∀ c ∈ inp.cfg.constraints, ∀ e ∈ c, e ∈ inp.st.g.edges) :
    HasCover inp.st (inp.activeEdges false) inp.cfg.constraints inp.k :=
  walkcover_within_is_cover inp _ hcov (c09w_within_of_sat inp a h hae hsat hce)

/-- `walkcover_hascover` with the assignment quantified, feasible ⇒ a walk cover with `k` walks exists: the form
the hypothesis `hopt` of `cover_search_minimal` takes for a solver that reports `optimal` only for feasible
`k`-models -/
theorem walkcover_optimal_has_cover (inp : WalkInput) (h : BaseWF inp.base)
    (hae : inp.cfg.allowEmpty = false) (hcov : 1 ≤ inp.cfg.coverage)
    (hce : ∀ c ∈ inp.cfg.constraints, ∀ e ∈ c, e ∈ inp.st.g.edges)
    (hfeas : ∃ a, Sat a (kcovercLP inp)) :
    HasCover inp.st (inp.activeEdges false) inp.cfg.constraints inp.k :=
  hfeas.elim fun a hsat => walkcover_hascover inp a h hae hsat hcov hce

/-- **feasible ⇔ a walk cover with `k` walks exists** (cyclic counterpart of `kcover_feasible_iff`): empty walks
not allowed (the default; needed for ⇒), coverage fraction 1 (⇒ needs `≥ 1`, ⇐ needs `≤ 1`), constraints made of
edges of the augmented graph (needed for ⇒; anything else is rejected by the class). Any `k`, `k = 0` included
(then both sides say: nothing to cover). -/
theorem walkcover_feasible_iff (inp : WalkInput) (h : BaseWF inp.base) (hae : inp.cfg.allowEmpty = false)
    (hcov : inp.cfg.coverage = 1)
    (hce : ∀ c ∈ inp.cfg.constraints, ∀ e ∈ c, e ∈ inp.st.g.edges) :
    (∃ a, Sat a (kcovercLP inp)) ↔
      HasCover inp.st (inp.activeEdges false) inp.cfg.constraints inp.k := by
  constructor
  · rintro ⟨a, hsat⟩
    exact walkcover_hascover inp a h hae hsat (by rw [hcov]; exact Rat.le_refl) hce
  · intro hc
    obtain ⟨walk, hw⟩ := walkcover_caps_suffice inp h (by rw [hcov]; exact Rat.le_refl) hc
    exact ⟨_, kcovercWalkAsg_sat inp walk h hw⟩

/-- `walkcover_feasible_iff` for the `k`-models of the search (`withK` changes `k` only) -/
theorem walkcover_feasible_iff_withK (inp : WalkInput) (h : BaseWF inp.base) (hae : inp.cfg.allowEmpty = false)
    (hcov : inp.cfg.coverage = 1)
    (hce : ∀ c ∈ inp.cfg.constraints, ∀ e ∈ c, e ∈ inp.st.g.edges) (k : Nat) :
    (∃ a, Sat a (kcovercLP (inp.withK k))) ↔
      HasCover inp.st (inp.activeEdges false) inp.cfg.constraints k :=
  walkcover_feasible_iff (inp.withK k) h hae hcov hce

/-- the feasible `k`-models (`k ≥ 1`) are those with a family within the caps: the decoded layers of a solution
are one, and a family gives a solution (at any coverage fraction: `hcov` is not needed) -/
theorem walkcover_feasible_iff_within (inp : WalkInput) (h : BaseWF inp.base) (hae : inp.cfg.allowEmpty = false)
    (hcov : inp.cfg.coverage = 1)
    (hce : ∀ c ∈ inp.cfg.constraints, ∀ e ∈ c, e ∈ inp.st.g.edges) (hk : 0 < inp.k) :
    (∃ a, Sat a (kcovercLP inp)) ↔ ∃ walk, WalkCoverWithin inp walk :=
  ⟨fun ⟨a, hsat⟩ => ⟨_, c09w_within_of_sat inp a h hae hsat hce⟩,
   fun ⟨walk, hw⟩ => ⟨_, kcovercWalkAsg_sat inp walk h hw⟩⟩

/-- **`MinPathCoverCycles.solve`, end to end** (cyclic counterpart of `mincover_search`). The solver is faithful
(`optimal` only for feasible and `infeasible` only for infeasible `k`-models; nothing is assumed about other
statuses), the loop `for k in range(lowerbound, …)` starts at the size of an antichain of edges that are not
ignored (what `stDiGraph.get_width` certifies; `antichain_of_unreachable` turns pairwise unreachable edges into
one): an answer `m` is the minimum number of source-to-sink walks covering every edge that is not ignored and
containing every subset constraint — among *all* walk covers, not only those within the caps
(`walkcover_caps_suffice`). -/
theorem walkcover_search_minimal (inp : WalkInput) (h : BaseWF inp.base)
    (hae : inp.cfg.allowEmpty = false) (hcov : inp.cfg.coverage = 1)
    (hce : ∀ c ∈ inp.cfg.constraints, ∀ e ∈ c, e ∈ inp.st.g.edges)
    (σ : Nat → Status)
    (hopt : ∀ k, σ k = .optimal → ∃ a, Sat a (kcovercLP (inp.withK k)))
    (hinf : ∀ k, σ k = .infeasible → ¬ ∃ a, Sat a (kcovercLP (inp.withK k)))
    (A : List Edge) (hA : Antichain inp.st A) (hAact : ∀ e ∈ A, e ∈ inp.activeEdges false)
    (hi m : Nat) (hs : (stopSearch σ A.length hi).solved = some m) :
    IsMinCover inp.st (inp.activeEdges false) inp.cfg.constraints m :=
  cover_search_of_iff _ _ _ _ (walkcover_feasible_iff_withK inp h hae hcov hce) σ hopt hinf A hA hAact hi m hs

/-- **The answer of the search is the least `k` for which a cover within the caps exists.** The answer `m` of the loop comes with `m` walks
within the caps of the `m`-model, and for no `j < m` is there a family of `j` walks within the caps of the
`j`-model (the caps do not depend on `k`). By `walkcover_caps_suffice` / `walkcover_within_is_cover` this is the
same statement as `walkcover_search_minimal`. -/
theorem walkcover_search_minimal_within (inp : WalkInput) (h : BaseWF inp.base)
    (hae : inp.cfg.allowEmpty = false) (hcov : inp.cfg.coverage = 1)
    (hce : ∀ c ∈ inp.cfg.constraints, ∀ e ∈ c, e ∈ inp.st.g.edges)
    (σ : Nat → Status)
    (hopt : ∀ k, σ k = .optimal → ∃ a, Sat a (kcovercLP (inp.withK k)))
    (hinf : ∀ k, σ k = .infeasible → ¬ ∃ a, Sat a (kcovercLP (inp.withK k)))
    (A : List Edge) (hA : Antichain inp.st A) (hAact : ∀ e ∈ A, e ∈ inp.activeEdges false)
    (hi m : Nat) (hs : (stopSearch σ A.length hi).solved = some m) :
    (∃ walk, WalkCoverWithin (inp.withK m) walk) ∧
      ∀ j, j < m → ¬ ∃ walk, WalkCoverWithin (inp.withK j) walk := by
  obtain ⟨hm, hmin⟩ := walkcover_search_minimal inp h hae hcov hce σ hopt hinf A hA hAact hi m hs
  refine ⟨walkcover_caps_suffice (inp.withK m) h (by show inp.cfg.coverage ≤ 1; rw [hcov]; exact Rat.le_refl) hm, ?_⟩
  rintro j hj ⟨walk, hw⟩
  exact hmin j hj (walkcover_within_is_cover (inp.withK j) walk
    (by show 1 ≤ inp.cfg.coverage; rw [hcov]; exact Rat.le_refl) hw)

/-- With a solver that decides every `k`-model the loop does return the minimum whenever it lies inside
the searched range (`hi = |E| + 1` in `MinPathCoverCycles.solve`) -/
theorem walkcover_search_finds_minimum (inp : WalkInput) (h : BaseWF inp.base)
    (hae : inp.cfg.allowEmpty = false) (hcov : inp.cfg.coverage = 1)
    (hce : ∀ c ∈ inp.cfg.constraints, ∀ e ∈ c, e ∈ inp.st.g.edges)
    (σ : Nat → Status)
    (hopt : ∀ k, (∃ a, Sat a (kcovercLP (inp.withK k))) → σ k = .optimal)
    (hinf : ∀ k, (¬ ∃ a, Sat a (kcovercLP (inp.withK k))) → σ k = .infeasible)
    (A : List Edge) (hA : Antichain inp.st A) (hAact : ∀ e ∈ A, e ∈ inp.activeEdges false)
    (hi m : Nat) (hm : IsMinCover inp.st (inp.activeEdges false) inp.cfg.constraints m) (hhi : m < hi) :
    (stopSearch σ A.length hi).solved = some m := by
  have hiff := walkcover_feasible_iff_withK inp h hae hcov hce
  exact stopSearch_finds_minimum (HasCover inp.st (inp.activeEdges false) inp.cfg.constraints) σ A.length hi m
    (fun k hk => hopt k ((hiff k).2 hk)) (fun k hk => hinf k fun hf => hk ((hiff k).1 hf))
    (antichain_weak_duality _ _ _ A hA hAact m hm.1) hhi hm.1 hm.2

/-- **Cyclic counterpart of `flow_to_cover`.** A feasible integral flow of the min-flow instance
`stDiGraph.get_width` builds on the expanded condensation (demands `CondInput.demands`) with source
out-flow `cost` yields `cost` source-to-sink walks of the digraph covering every edge that is not
ignored, provided the labelling is the SCC labelling and every edge lies on a source-to-sink walk.
Proof (`FP.Proofs.CondWalkCover*`): the expanded condensation is a well-formed s-t DAG, the flow
decomposes into `cost` paths with exactly `f e` paths through every edge `e`; a path lifts to a walk
that tours all member edges of every SCC whose edge `(k, k_expanded)` it uses and crosses between two
SCCs along a parallel edge of its own (the demand on a condensation edge is the number of its parallel
edges minus the ignored ones, so there are enough paths to give every parallel edge that is not
ignored to a different one).

Without either of the hypotheses `hclosed`, `hinc` the statement is false
(`FP.cwc_needs_closed`, `FP.cwc_needs_no_isolated`):
* `hclosed` — edges join nodes of the graph (always true of a networkx graph; the model's `Graph`
  does not enforce it and `condNodes` is computed from the node list);
* `hinc` — no isolated node (true of an `stDiGraph`: a node of the base graph without in-edges gets a
  source edge, the synthetic nodes have an edge each, `_post_build`); an isolated node is a component
  `source → k → sink` of the instance along which a flow may send units that no walk can realise.

`edges_to_ignore` may contain duplicates: `get_width` decrements `edge_multiplicity` once per *distinct*
ignored edge (fix afcb013; one decrement per entry would lower the demand below the number of parallel edges
left to cover and the width would come out too small, `FP.cwc_duplicate_ignore_counts_once`). -/
theorem condensation_flow_to_walkcover (c : CondInput) (w d : List (Edge × Int)) (f : Edge → Nat)
    (cost : Nat)
    (hscc : ∀ u ∈ c.g.nodes, ∀ v ∈ c.g.nodes,
      c.comp u = c.comp v ↔ (Reach c.g.edges u v ∧ Reach c.g.edges v u))
    (hlive : ∀ e ∈ c.g.edges, Reach c.g.edges srcName e.1 ∧ Reach c.g.edges e.2 snkName)
    (hclosed : ∀ e ∈ c.g.edges, e.1 ∈ c.g.nodes ∧ e.2 ∈ c.g.nodes)
    (hinc : ∀ v ∈ c.g.nodes, ∃ e ∈ c.g.edges, e.1 = v ∨ e.2 = v)
    (hw : c.weightFunction = some w) (hd : c.demands = some d)
    (hf : CoveringFlow c.expandedST (fun e => (lookupD d e 0).toNat) f)
    (hcost : outN c.expandedST.g f c.expandedST.source = cost) :
    HasCover ⟨c.g, srcName, snkName⟩ (c.g.edges.filter fun e => !c.ignore.contains e) [] cost :=
  FP.cwc_condensation_flow_to_walkcover c w d f cost hscc hlive hclosed hinc hw hd hf hcost

/-- **`stDiGraph.get_width` = minimum walk cover, given the certificate.** a feasible integral flow of
the instance on the expanded condensation whose cost equals the size of a set of pairwise unreachable
edges that are not ignored: that number is the minimum number of source-to-sink walks covering every
edge that is not ignored (upper bound: `condensation_flow_to_walkcover`; lower bound:
`antichain_weak_duality` + `antichain_of_unreachable`). That the min-cost flow and such an antichain of equal size always exist
(strong duality) and that the network simplex finds the former is not proven. -/
theorem digraph_width_is_min_walk_cover (c : CondInput) (w d : List (Edge × Int)) (f : Edge → Nat)
    (hscc : ∀ u ∈ c.g.nodes, ∀ v ∈ c.g.nodes,
      c.comp u = c.comp v ↔ (Reach c.g.edges u v ∧ Reach c.g.edges v u))
    (hlive : ∀ e ∈ c.g.edges, Reach c.g.edges srcName e.1 ∧ Reach c.g.edges e.2 snkName)
    (hclosed : ∀ e ∈ c.g.edges, e.1 ∈ c.g.nodes ∧ e.2 ∈ c.g.nodes)
    (hinc : ∀ v ∈ c.g.nodes, ∃ e ∈ c.g.edges, e.1 = v ∨ e.2 = v)
    (hw : c.weightFunction = some w) (hd : c.demands = some d)
    (hf : CoveringFlow c.expandedST (fun e => (lookupD d e 0).toNat) f)
    (A : List Edge) (hA : A.Nodup)
    (hAact : ∀ e ∈ A, e ∈ c.g.edges.filter fun e => !c.ignore.contains e)
    (hun : ∀ e1 ∈ A, ∀ e2 ∈ A, e1 ≠ e2 → ¬ Reach c.g.edges e1.2 e2.1)
    (hcost : outN c.expandedST.g f c.expandedST.source = A.length) :
    IsMinCover ⟨c.g, srcName, snkName⟩ (c.g.edges.filter fun e => !c.ignore.contains e) [] A.length :=
  ⟨condensation_flow_to_walkcover c w d f _ hscc hlive hclosed hinc hw hd hf hcost,
    no_cover_below_antichain (antichain_of_unreachable ⟨c.g, srcName, snkName⟩ A hA hun) hAact⟩

/-- the lower-bound side for walks, from a condensation antichain: pairwise unreachable active edges
(parallel edges between two SCCs are pairwise unreachable; at most one edge per SCC) bound every walk
cover from below, a corollary of `antichain_weak_duality` -/
theorem walkcover_condensation_lower_bound (s : STGraph) (active : List Edge) (A : List Edge)
    (hnd : A.Nodup) (hact : ∀ e ∈ A, e ∈ active)
    (hun : ∀ e1 ∈ A, ∀ e2 ∈ A, e1 ≠ e2 → ¬ Reach s.g.edges e1.2 e2.1) (k : Nat)
    (h : HasCover s active [] k) : A.length ≤ k :=
  antichain_weak_duality s active [] A (antichain_of_unreachable s A hnd hun) hact k h

/-- parallel edges between two components (and, generally, an edge into a later component versus an
edge out of an earlier one) are pairwise unreachable: each needs a walk of its own — why the
multiplicity of parallel inter-SCC edges is the demand on the condensation edge -/
theorem inter_scc_unreachable (es : List Edge) (comp : Node → Nat) (rank : Nat → Nat)
    (hmono : ∀ e ∈ es, comp e.1 = comp e.2 ∨ rank (comp e.1) < rank (comp e.2)) (e1 e2 : Edge)
    (h : rank (comp e2.1) < rank (comp e1.2)) : ¬ Reach es e1.2 e2.1 :=
  FP.inter_scc_unreachable es comp rank hmono e1 e2 h

/-- Non-vacuity of the two theorems on the width: `s → a ⇄ b` with the exits `a → t`, `b → t`, augmented, with its
SCC labelling; the source and sink edges are ignored. Exactly two walks, `source s a b a t sink` and
`source s a b t sink` (the parallel exits need a walk each). -/
def cyc1 : CondInput :=
  { g := { nodes := ["s", "a", "b", "t", "source", "sink"],
           edges := [("s", "a"), ("a", "b"), ("a", "t"), ("b", "a"), ("b", "t"), ("t", "sink"),
                     ("source", "s")] },
    scc := [("sink", 0), ("t", 1), ("a", 2), ("b", 2), ("s", 3), ("source", 4)],
    ignore := [("source", "s"), ("t", "sink")] }

theorem cyc1_closed : ∀ e ∈ cyc1.g.edges, e.1 ∈ cyc1.g.nodes ∧ e.2 ∈ cyc1.g.nodes := by decide +kernel

theorem cyc1_scc : ∀ u ∈ cyc1.g.nodes, ∀ v ∈ cyc1.g.nodes,
    cyc1.comp u = cyc1.comp v ↔ (Reach cyc1.g.edges u v ∧ Reach cyc1.g.edges v u) :=
  scc_of_reachFrom cyc1.g cyc1_closed cyc1.comp (by decide +kernel)

theorem cyc1_live :
    ∀ e ∈ cyc1.g.edges, Reach cyc1.g.edges srcName e.1 ∧ Reach cyc1.g.edges e.2 snkName :=
  cwc_live_of_reachFrom cyc1.g (by decide +kernel)

theorem cyc1_inc : ∀ v ∈ cyc1.g.nodes, ∃ e ∈ cyc1.g.edges, e.1 = v ∨ e.2 = v := by decide +kernel

/-- the expanded condensation, augmented: the SCC `{a, b}` is the edge `2 → 2_expanded` -/
theorem cyc1_expanded : cyc1.expandedST.g =
    ⟨["3", "2", "2_expanded", "1", "4", "0", "source", "sink"],
     [("3", "2"), ("2", "2_expanded"), ("2_expanded", "1"), ("1", "0"), ("4", "3"), ("0", "sink"),
      ("source", "4")]⟩ := by decide +kernel

/-- no ignored edge is foreign to the graph, `weightFunction` does not raise: weight 1 on the SCC edge, 2 on
`2_expanded → 1` (the parallel exits), 0 where the only parallel edge is ignored and on the synthetic edges; the
entries for `k → k_expanded` of the trivial components `k` are written as well and name no edge -/
theorem cyc1_weights : cyc1.weightFunction = some
    [(("3", "2"), 1), (("2", "2_expanded"), 1), (("2_expanded", "1"), 2), (("1", "0"), 0), (("4", "3"), 0),
     (("0", "sink"), 0), (("source", "4"), 0), (("3", "3_expanded"), 1), (("1", "1_expanded"), 1),
     (("4", "4_expanded"), 1), (("0", "0_expanded"), 1)] := by decide +kernel

theorem cyc1_demands : cyc1.demands = some
    [(("3", "2"), 1), (("2", "2_expanded"), 1), (("2_expanded", "1"), 2), (("1", "0"), 0), (("4", "3"), 0),
     (("0", "sink"), 0), (("source", "4"), 0)] := by
  rw [CondInput.demands, cyc1_weights, Option.map_some, antichainDemands, cyc1_expanded]
  decide +kernel

theorem cyc1_w : cyc1.weightFunction = some (cyc1.weightFunction.getD []) := by
  rw [cyc1_weights]; rfl

theorem cyc1_d : cyc1.demands = some (cyc1.demands.getD []) := by
  rw [cyc1_demands]; rfl

/-- two units along `source 4 3 2 2_expanded 1 0 sink` (the demand on `2_expanded → 1` is 2) -/
def cyc1Flow : Edge → Nat := fun _ => 2

example : (cyc1.demands.getD []).lookup ("2_expanded", "1") = some 2 := by
  rw [cyc1_demands]; decide +kernel

theorem cyc1_flow : CoveringFlow cyc1.expandedST
    (fun e => (lookupD (cyc1.demands.getD []) e 0).toNat) cyc1Flow := by
  refine ⟨?_, ?_⟩
  · rw [cyc1_expanded]; decide +kernel
  · rw [cyc1_expanded, cyc1_demands]; decide +kernel

theorem cyc1_cost : outN cyc1.expandedST.g cyc1Flow cyc1.expandedST.source = 2 := by
  rw [cyc1_expanded]; decide +kernel

/-- two walks cover `s → a`, `a → b`, `b → a`, `a → t`, `b → t` -/
theorem cyc1_cover : HasCover ⟨cyc1.g, srcName, snkName⟩
    (cyc1.g.edges.filter fun e => !cyc1.ignore.contains e) [] 2 :=
  condensation_flow_to_walkcover cyc1 _ _ cyc1Flow 2
    cyc1_scc cyc1_live cyc1_closed cyc1_inc cyc1_w cyc1_d cyc1_flow cyc1_cost

set_option maxRecDepth 20000 in
/-- 2 is the minimum (antichain: the parallel exits `a → t`, `b → t`) -/
example : IsMinCover ⟨cyc1.g, srcName, snkName⟩
    (cyc1.g.edges.filter fun e => !cyc1.ignore.contains e) [] 2 :=
  digraph_width_is_min_walk_cover cyc1 _ _ cyc1Flow
    cyc1_scc cyc1_live cyc1_closed cyc1_inc cyc1_w cyc1_d cyc1_flow
    [("a", "t"), ("b", "t")] (by decide +kernel) (by decide +kernel)
    (cwc_unreachable_of_reachFrom cyc1.g cyc1_closed _ (by decide +kernel) (by decide +kernel)) cyc1_cost

/-! Non-vacuity of the DAG part: `a → b → c`, `a → c` needs exactly two paths. -/

section Example
open FP.PathCoreExample

def inp2 : FlowInput := { base := base, flow := [], cfg := { k := 2 } }

def routes2 : List (List Node) := [["source", "a", "b", "c", "sink"], ["source", "a", "c", "sink"]]

theorem inp2_active : inp2.activeEdges = [("a", "b"), ("a", "c"), ("b", "c")] := by decide +kernel

theorem routes2_walk : ∀ r ∈ routes2, IsSTWalk inp2.st r := by
  have h : ∀ r ∈ routes2, r.head? = some inp2.st.source ∧ r.getLast? = some inp2.st.sink ∧
      ∀ e ∈ walkEdges r, e ∈ inp2.st.g.edges := by decide +kernel
  exact fun r hr => ⟨(h r hr).1, (h r hr).2.1, (h r hr).2.2⟩

theorem routes2_cover : Covers routes2 inp2.activeEdges := by
  rw [inp2_active]
  show ∀ e ∈ [("a", "b"), ("a", "c"), ("b", "c")], ∃ r ∈ routes2, e ∈ walkEdges r
  decide +kernel

theorem cover2 : HasCover inp2.st inp2.activeEdges [] 2 :=
  ⟨routes2, rfl, routes2_walk, routes2_cover, fun c hc => by simp at hc⟩

/-- the LP for `k = 2` is satisfiable (the hypotheses of `kcover_sound` are met by the assignment
`kcover_complete` builds) -/
theorem sat2 : Sat (coverAsg routes2 []) (kcoverLP inp2) :=
  kcover_complete inp2 base_wf base_acyclic routes2 rfl rfl rfl rfl routes2_walk routes2_cover
    (fun c hc => by simp [inp2] at hc)

example := kcover_sound inp2 _ base_wf base_acyclic sat2

/-- `(a,b)` and `(a,c)` leave the same node: an antichain of size 2 -/
theorem antichain2 : Antichain inp2.st [("a", "b"), ("a", "c")] :=
  ⟨by decide, fun r hr e1 he1 e2 he2 h1 h2 => by
    apply walkEdges_fst_inj r (stwalk_nodup st_wf hr.walk) e1 e2 h1 h2
    simp only [List.mem_cons, List.not_mem_nil, or_false] at he1 he2
    rcases he1 with rfl | rfl <;> rcases he2 with rfl | rfl <;> rfl⟩

/-- so one path does not suffice, and the minimum is 2 -/
theorem mincover2 : IsMinCover inp2.st inp2.activeEdges [] 2 :=
  ⟨cover2, no_cover_below_antichain antichain2 (by rw [inp2_active]; decide)⟩

/-- the LP for `k = 1` is infeasible -/
example : ¬ ∃ a, Sat a (kcoverLP (withK inp2 1)) := by
  intro hsat
  have := (kcover_feasible_iff (withK inp2 1) base_wf base_acyclic rfl rfl rfl rfl
    (fun c hc => by simp [withK, inp2] at hc)).1 hsat
  exact mincover2.2 1 (by decide) this

/-- the search started at the antichain size answers 2 -/
example : (stopSearch (fun k => if k < 2 then .infeasible else .optimal) 2 5).solved = some 2 := by decide

/-- the flow certificate: 1 unit on `source→a→b→c→sink`, 1 unit on `a→c` (2 on `source→a`, `c→sink`) -/
def flow2 : Edge → Nat := fun e =>
  if e = ("source", "a") ∨ e = ("c", "sink") then 2
  else if e ∈ [("a", "b"), ("b", "c"), ("a", "c")] then 1 else 0

def demand2 : Edge → Nat := fun e => if e ∈ inp2.activeEdges then 1 else 0

theorem flow2_covering : CoveringFlow inp2.st demand2 flow2 :=
  ⟨by decide +kernel, by decide +kernel⟩

example : IsMinCover inp2.st (inp2.st.g.edges.filter fun e => decide (1 ≤ demand2 e)) [] 2 :=
  width_certificate inp2.st st_wf demand2 flow2 flow2_covering
    [("a", "b"), ("a", "c")] antichain2 (by decide +kernel) (by decide +kernel)

/-- the condensation model on `s → a ⇄ b → t` with the parallel exit `b → t`: SCC `{a, b}` expands
to an edge of weight 1, both exits `a → t`, `b → t` count (multiplicity 2) -/
example : (CondInput.weightFunction
    { g := { nodes := ["s", "a", "b", "t", "source", "sink"],
             edges := [("s", "a"), ("a", "b"), ("a", "t"), ("b", "a"), ("b", "t"), ("t", "sink"), ("source", "s")] },
      scc := [("sink", 0), ("t", 1), ("a", 2), ("b", 2), ("s", 3), ("source", 4)],
      ignore := [("source", "s"), ("t", "sink")] }).map (fun w => lookupD w ("2_expanded", "1") 0) = some 2 := by
  show Option.map (fun w => lookupD w ("2_expanded", "1") 0) cyc1.weightFunction = some 2
  rw [cyc1_weights]; decide +kernel

end Example

/-! Non-vacuity of the LP part for cycles: `s → a → t` with a self-loop at `a` that a subset constraint requires. -/

section WalkExample
open FP.C09WalkExample

theorem hceC : ∀ c ∈ inpC.cfg.constraints, ∀ e ∈ c, e ∈ inpC.st.g.edges := by decide +kernel

/-- the hypotheses of `walkcover_sound` are met by a concrete assignment (walk `s, a, a, a, t`) -/
example := walkcover_sound inpC asgC WalkCoreExample.base_wf rfl satC

example : decodeWalks inpC.st asgC inpC.k = [["s", "a", "a", "a", "t"]] := decodeC

example : HasCover inpC.st [("s", "a"), ("a", "a"), ("a", "t")] [[("a", "a")]] 1 :=
  inpC_active ▸ walkcover_hascover inpC asgC WalkCoreExample.base_wf rfl satC (by decide) hceC

/-- **non-vacuity of `walkcover_complete`**: the family `[source, s, a, a, a, t, sink]` is within the caps (the
loop is used twice, its cap is 25), the assignment built from it satisfies the LP and has `edge((a,a),0) = 2` -/
example : Sat (kcovercWalkAsg inpC walkC) (kcovercLP inpC) ∧ kcovercWalkAsg inpC walkC (edgeVar ("a", "a") 0) = 2 :=
  ⟨(walkcover_complete inpC walkC WalkCoreExample.base_wf (by decide) withinC).1, walkAsgC_loop⟩

/-- one walk covers `s → a`, the loop and `a → t` and contains the constraint -/
theorem coverC : HasCover inpC.st (inpC.activeEdges false) inpC.cfg.constraints inpC.k :=
  walkcover_within_is_cover inpC walkC (by decide) withinC

example : ∃ walk, WalkCoverWithin inpC walk :=
  walkcover_caps_suffice inpC WalkCoreExample.base_wf (by decide) coverC

/-- so the `k = 1` model is feasible (`walkcover_feasible_iff`, ⇐) -/
example : ∃ a, Sat a (kcovercLP inpC) :=
  (walkcover_feasible_iff inpC WalkCoreExample.base_wf rfl rfl hceC).2 coverC

theorem noCover0 : ¬ HasCover inpC.st (inpC.activeEdges false) inpC.cfg.constraints 0 :=
  fun h => nomatch inpC_active ▸ (hasCover_zero h).1

/-- the `k = 0` model is not feasible (`walkcover_feasible_iff`, ⇒) -/
example : ¬ ∃ a, Sat a (kcovercLP (inpC.withK 0)) := fun h =>
  noCover0 ((walkcover_feasible_iff_withK inpC WalkCoreExample.base_wf rfl rfl hceC 0).1 h)

theorem coverC_ge (k : Nat) (hk : 1 ≤ k) :
    HasCover inpC.st (inpC.activeEdges false) inpC.cfg.constraints k :=
  cover_monotone_le _ _ _ 1 k (Nat.le_refl 1) hk coverC

/-- the search with a faithful solver, started at the antichain `[(s, a)]`, answers 1, the minimum -/
example : IsMinCover inpC.st (inpC.activeEdges false) inpC.cfg.constraints 1 :=
  walkcover_search_minimal inpC WalkCoreExample.base_wf rfl rfl hceC
    (fun k => if k < 1 then .infeasible else .optimal)
    (fun k hk => by
      have hk1 : 1 ≤ k := Nat.le_of_not_lt fun hlt => by simp [hlt] at hk
      exact (walkcover_feasible_iff_withK inpC WalkCoreExample.base_wf rfl rfl hceC k).2 (coverC_ge k hk1))
    (fun k hk hfeas => by
      have hk0 : k = 0 := Nat.lt_one_iff.1 (Classical.byContradiction fun hge => by simp [hge] at hk)
      subst hk0
      exact noCover0 ((walkcover_feasible_iff_withK inpC WalkCoreExample.base_wf rfl rfl hceC 0).1 hfeas))
    [("s", "a")] ⟨by decide, fun r _ e1 he1 e2 he2 _ _ => by
      simp only [List.mem_cons, List.not_mem_nil, or_false] at he1 he2
      rw [he1, he2]⟩
    (by rw [inpC_active]; decide) 6 1 (by decide)

/-- the literal reading (decoded walks *themselves* start at the synthetic source) is false: the decoded walk
of the example starts at `s` -/
theorem walkcover_sound_literal_false :
    ¬ ∀ (inp : WalkInput) (a : Asg), BaseWF inp.base → inp.cfg.allowEmpty = false → Sat a (kcovercLP inp) →
      (∀ r ∈ decodeWalks inp.st a inp.k, IsSTWalk inp.st r) ∧
      Covers (decodeWalks inp.st a inp.k) (inp.activeEdges false) := by
  intro hall
  have h := (hall inpC asgC WalkCoreExample.base_wf rfl satC).1
  rw [decodeC] at h
  exact absurd (h _ List.mem_cons_self).first (by decide)

end WalkExample

end FP.Props.C09
