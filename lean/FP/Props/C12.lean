import FP.Proofs.Wrapper
import FP.Proofs.WrapperObj
import FP.Proofs.WrapperObjRead
/-!
# C12 — MILP building blocks encode exactly the relation they name

Helpers and queued bounds are proved in `FP/Proofs/Wrapper.lean` (the McCormick block in `FP/Proofs/LP.lean`). The statements on the objective rest on the
invariant of `FP/Proofs/WrapperObj.lean`, those on the solve of a box model and the read-back on the column-wise
optimality and the snapshot lemmas of `FP/Proofs/WrapperObjRead.lean`.
-/
namespace FP.Props.C12
open FP FP.Spec

/-- **binary × continuous.** For a binary value of `b` and `lb ≤ c ≤ ub` the four McCormick rows
hold iff `p = b·c` — every admissible pair is allowed and every other product value excluded. -/
theorem binProd_exact (a : Asg) (b c p : Var) (lb ub : Rat)
    (hb : a b = 0 ∨ a b = 1) (hc : lb ≤ a c ∧ a c ≤ ub) :
    (∀ r ∈ binProd b c p lb ub, r.holds a) ↔ a p = a b * a c :=
  FP.binProd_exact a b c p lb ub hb hc

/-- the number of bits is the least `n` with `ub + 1 ≤ 2^n` (also for `ub = 0` and non powers of two) -/
theorem numBits_spec (ub : Nat) :
    ub + 1 ≤ 2 ^ numBits ub ∧ ∀ n, ub + 1 ≤ 2 ^ n → numBits ub ≤ n :=
  FP.numBits_spec ub

/-- **integer × continuous, soundness.** Any assignment satisfying the fragment (column bounds,
integrality of the bit columns and all rows) has `p = n·c`, whenever `lb ≤ c ≤ ub`. -/
theorem intProd_sound (a : Asg) (n c p : Var) (lb : Rat) (ubN : Nat) (name : String)
    (hc : lb ≤ a c ∧ a c ≤ (ubN : Rat)) (h : Sat a (intProd n c p lb ubN name)) :
    a p = a n * a c :=
  FP.intProd_sound a n c p lb ubN name hc h

/-- **integer × continuous, completeness.** For every natural value `k ≤ ub` of the integer factor,
every `lb ≤ c ≤ ub` with `lb ≤ 0`, the intended product value extends to an assignment of the
auxiliary bit/component columns that satisfies the whole fragment (the auxiliary columns being
distinct from the three user columns and from each other). -/
theorem intProd_complete (a : Asg) (n c p : Var) (lb : Rat) (ubN : Nat) (name : String) (k : Nat)
    (hk : a n = k) (hkub : k ≤ ubN) (hlb : lb ≤ 0)
    (hc : lb ≤ a c ∧ a c ≤ (ubN : Rat)) (hp : a p = a n * a c)
    (hfresh : ∀ i, bitVar name i ≠ n ∧ bitVar name i ≠ c ∧ bitVar name i ≠ p ∧
                   compVar name i ≠ n ∧ compVar name i ≠ c ∧ compVar name i ≠ p)
    (hbc : ∀ i j, bitVar name i ≠ compVar name j) :
    ∃ a' : Asg, (∀ v, (∀ i, v ≠ bitVar name i ∧ v ≠ compVar name i) → a' v = a v) ∧
      Sat a' (intProd n c p lb ubN name) :=
  FP.intProd_complete a n c p lb ubN name k hk hkub hlb hc hp hfresh hbc

/-- **piecewise constant, soundness.** A satisfying assignment selects a range that contains `x`
and forces `y` to that range's constant (`ranges` and `constants` of equal length, `L ≤ U`). -/
theorem piecewise_sound (a : Asg) (x y : Var) (ranges : List (Rat × Rat)) (constants : List Rat)
    (name : String) (hlen : ranges.length = constants.length)
    (hLU : ∀ r ∈ ranges, r.1 ≤ r.2)
    (h : Sat a (piecewise x y ranges constants name)) :
    ∃ i, ∃ hi : i < ranges.length, (ranges[i]).1 ≤ a x ∧ a x ≤ (ranges[i]).2 ∧
      a y = constants[i]'(hlen ▸ hi) :=
  FP.piecewise_sound a x y ranges constants name hlen hLU h

/-- **piecewise constant, completeness.** If `x` lies in range `j` and `y` is that range's
constant, the one-hot assignment satisfies the fragment — for *all* constants (the rows linking `y`
use the spread of the constants as their big-M, fix 445f2b7). -/
theorem piecewise_complete (a : Asg) (x y : Var) (ranges : List (Rat × Rat))
    (constants : List Rat) (name : String) (hlen : ranges.length = constants.length)
    (hLU : ∀ r ∈ ranges, r.1 ≤ r.2) (j : Nat) (hj : j < ranges.length)
    (hx : (ranges[j]).1 ≤ a x ∧ a x ≤ (ranges[j]).2) (hy : a y = constants[j]'(hlen ▸ hj))
    (hfresh : ∀ i, zVar name i ≠ x ∧ zVar name i ≠ y) :
    ∃ a' : Asg, (∀ v, (∀ i, v ≠ zVar name i) → a' v = a v) ∧
      Sat a' (piecewise x y ranges constants name) :=
  FP.piecewise_complete a x y ranges constants name hlen hLU j hj hx hy hfresh

/-- non-vacuity with constants far apart (ranges `[(0,1),(2,3)]`, constants `[0,100]`, `x = 1/2`): a
satisfying assignment with `y = 0` exists; a big-M below the spread of the constants would exclude it -/
theorem piecewise_far_constants_feasible :
    ∃ a : Asg, a (.ix "x" 0) = 1/2 ∧ a (.ix "y" 0) = 0 ∧
      Sat a (piecewise (.ix "x" 0) (.ix "y" 0) [(0,1),(2,3)] [0,100] "f") :=
  FP.piecewise_far_constants_feasible

/-- after a flush with the intended `getCols` field, a queued fix gives `lb = ub = v`, cost kept
(distinct queued indices, nothing queued for lower bounds) -/
theorem flush_fix_exact (f : GetColsField) (s : WState) (hnolb : s.pendingLb = [])
    (hnd : (s.pendingFix.map (·.1)).Nodup) (i : Nat) (hi : i < s.cols.length) :
    ((flush f s).cols.length = s.cols.length) ∧
    (∀ v, (i, v) ∈ s.pendingFix →
        (flush f s).cols[i]? = some { lb := v, ub := v, cost := (s.cols.getD i default).cost }) ∧
    (i ∉ s.pendingFix.map (·.1) → (flush f s).cols[i]? = s.cols[i]?) :=
  FP.flush_fix_exact f s hnolb hnd i hi

/-- after a flush with the intended field (`.upper`), a queued lower bound gives `lb = v` and leaves
`ub` and the cost unchanged; other columns are untouched -/
theorem flush_lb_exact (s : WState) (hnofix : s.pendingFix = [])
    (hnd : (s.pendingLb.map (·.1)).Nodup) (i : Nat) (hi : i < s.cols.length) :
    (∀ v, (i, v) ∈ s.pendingLb →
        (flush .upper s).cols[i]? = some { (s.cols.getD i default) with lb := v }) ∧
    (i ∉ s.pendingLb.map (·.1) → (flush .upper s).cols[i]? = s.cols[i]?) :=
  FP.flush_lb_exact s hnofix hnd i hi

theorem flush_clears (f : GetColsField) (s : WState) :
    (flush f s).pendingFix = [] ∧ (flush f s).pendingLb = [] := FP.flush_clears f s

/-- using the wrong tuple component of `getCols` is observable: raising the lower bound of a
`[0, 5]` column to `2` yields `[2, 0]` (infeasible) -/
theorem flush_lb_wrong_field_witness :
    (flush .lower { cols := [{ lb := 0, ub := 5, cost := 0 }], pendingLb := [(0, 2)] }).cols
      = [{ lb := 2, ub := 0, cost := 0 }] := FP.flush_lb_wrong_field_witness

/-- **a replaced objective fully replaces the previous one** (full strength, over histories): whatever
happened before the last `set_objective(terms, const, sense)` of a history and whatever follows it (queued bound
changes, new variables, solves), the objective constant is `const` (`0` when the expression has no constant
term), the sense is the requested one, and every column that existed at that call has the cost the expression
asks for (`0` if it does not occur in it) while every column created later has cost `0`. Nothing of an earlier
objective enters the right-hand sides. -/
theorem set_objective_replaces (f : GetColsField) (pre post : List WOp) (ts : List (Nat × Rat))
    (c : Option Rat) (mx : Bool) (hpost : ∀ o ∈ post, o.isSetObjective = false) :
    let s := wrun f (pre ++ WOp.setObjective ts c mx :: post)
    s.offset = offsetOf c ∧ s.maximize = mx ∧
    ∀ i (hi : i < s.cols.length), s.cols[i].cost =
      if i < (wrun f pre).cols.length then termCost ts i else 0 := by
  intro s
  have hs : s = post.foldl (wstep f) (wstep f (wrun f pre) (.setObjective ts c mx)) := by
    simp [s, wrun, List.foldl_append]
  obtain ⟨h1, h2, m, h3⟩ := wobj_run_keeps f post hpost (wstep f (wrun f pre) (.setObjective ts c mx))
  rw [← hs] at h1 h2 h3
  refine ⟨h1, h2, fun i hi => ?_⟩
  rw [wobj_cost_of_costs h3 i hi, wobj_costs, wstep, wobj_setObjective_costs]
  by_cases h : i < (wrun f pre).cols.length <;> simp [h]

/-- `changeObjectiveOffset(expr.constant or 0.0)` -/
theorem offsetOf_spec (q : Rat) : offsetOf none = 0 ∧ offsetOf (some q) = q := ⟨rfl, rfl⟩

/-- a history without any `set_objective`: all costs `0`, constant `0`, minimisation -/
theorem no_objective (f : GetColsField) (ops : List WOp) (hops : ∀ o ∈ ops, o.isSetObjective = false) :
    let s := wrun f ops
    s.offset = 0 ∧ s.maximize = false ∧ ∀ i (hi : i < s.cols.length), s.cols[i].cost = 0 := by
  intro s
  obtain ⟨h1, h2, m, h3⟩ := wobj_run_keeps f ops hops {}
  exact ⟨h1, h2, fun i hi => wobj_cost_of_costs h3 i hi⟩

/-- corollary: two `set_objective` calls in a row leave the state of the second alone (costs, constant, sense) -/
theorem set_objective_twice (f : GetColsField) (s : WState) (t1 t2 : List (Nat × Rat))
    (c1 c2 : Option Rat) (m1 m2 : Bool) :
    wstep f (wstep f s (.setObjective t1 c1 m1)) (.setObjective t2 c2 m2)
      = wstep f s (.setObjective t2 c2 m2) := by
  simp only [wstep, FP.setObjective_replaces]

/-- corollary (cost vector only): a replaced objective fully replaces the previous one -/
theorem setObjective_replaces (cols : List WCol) (t1 t2 : List (Nat × Rat)) :
    setObjective (setObjective cols t1) t2 = setObjective cols t2 :=
  FP.setObjective_replaces cols t1 t2

/-- the new cost of column `i` is the sum of its coefficients in the expression -/
theorem setObjective_cost (cols : List WCol) (t : List (Nat × Rat)) (i : Nat) (hi : i < cols.length) :
    ((setObjective cols t)[i]?).map (·.cost) = some ((t.filter (·.1 = i)).map (·.2)).sum :=
  FP.setObjective_cost cols t i hi

/-- non-vacuity: the constant `5` and the cost of column 1 of the first objective do not survive the second
(which has no constant term and does not mention column 1) -/
example : let s := wrun .upper [.addVars [(0, 3), (1, 4)], .setObjective [(0, 1), (1, -1)] (some 5),
                                .optimize, .setObjective [(0, 2), (0, 1)] none true, .addVars [(0, 1)]]
    (s.offset, s.maximize, s.cols.map (·.cost)) = (0, true, [3, 0, 0]) := by decide +kernel

/-- `add_variables` appends columns: the `k`-th returned variable is column `numCol + k`, that column has the
`k`-th bounds and cost `0`, and the existing columns are untouched -/
theorem add_variables_handles (f : GetColsField) (s : WState) (bs : List (Rat × Rat)) (k : Nat)
    (hk : k < bs.length) :
    (addVarsHandles s bs)[k]? = some (s.cols.length + k) ∧
    (wstep f s (.addVars bs)).cols[s.cols.length + k]? = some { lb := bs[k].1, ub := bs[k].2, cost := 0 } ∧
    ∀ i, i < s.cols.length → (wstep f s (.addVars bs)).cols[i]? = s.cols[i]? := by
  refine ⟨?_, ?_, ?_⟩
  · simp [addVarsHandles, List.getElem?_range' hk]
  · simp [wstep, hk]
  · intro i hi
    simp [wstep, List.getElem?_append_left hi]

/-- **`boxOptimum` is what a solve must return.** On a non-empty box it is an optimal solution of
`min / max Σ cost·x + offset`, and every optimal solution agrees with it on every determined column (cost
non-zero, or lower bound = upper bound): value `lb` where a larger value is worse, `ub` where a smaller one is. -/
theorem box_optimum_correct (mx : Bool) (cols : List WCol) (off : Rat) (hfeas : boxFeasible cols = true) :
    IsBoxOptimum mx cols off (boxOptimum mx cols) ∧
    ∀ x, IsBoxOptimum mx cols off x →
      ∀ (i : Nat) (c : WCol), cols[i]? = some c → colDetermined c = true → x[i]? = some (colOpt mx c) := by
  refine ⟨⟨wobj_opt_inBox mx cols hfeas, fun y hy => ?_⟩, fun x hx i c hc hd => ?_⟩
  · rw [wobj_objValue, wobj_objValue, wobj_asGood_add]
    exact (wobj_opt_best mx cols y hy).1
  · have := hx.2 _ (wobj_opt_inBox mx cols hfeas)
    rw [wobj_objValue, wobj_objValue, wobj_asGood_add] at this
    exact (wobj_opt_best mx cols x hx.1).2 this i c hc hd

/-- the model reports "infeasible" exactly for the empty box -/
theorem box_infeasible (cols : List WCol) : boxFeasible cols = false ↔ ¬ ∃ x, InBox cols x := by
  constructor
  · intro hf ⟨x, hx⟩
    rw [wobj_feasible_of_inBox cols x hx] at hf
    cases hf
  · intro hno
    cases h : boxFeasible cols
    · rfl
    · exact absurd ⟨_, wobj_opt_inBox false _ h⟩ hno

/-- the expected read-back: the forced value of a determined column, nothing for the others -/
theorem expectedValues_spec (mx : Bool) (cols : List WCol) (i : Nat) :
    (expectedValues mx cols)[i]? =
      (cols[i]?).map (fun c => if colDetermined c then some (colOpt mx c) else none) := by
  simp [expectedValues]

/-- **values are read back for exactly the variables asked for**: `get_values` succeeds with `r` iff `r` has
one entry per asked `(key, variable)` pair, in the order asked, carrying that key and the entry of the solution
vector at the variable's column index; it fails (Python: `IndexError`) iff some asked variable's column index
lies outside the vector. -/
theorem get_values_exact {κ : Type} (x : List Rat) (asked : List (κ × Nat)) :
    (∀ r : List (κ × Rat), readValues x asked = some r ↔
      r.length = asked.length ∧
      ∀ (p : Nat) (kv : κ × Nat) (kr : κ × Rat), asked[p]? = some kv → r[p]? = some kr →
        kr.1 = kv.1 ∧ x[kv.2]? = some kr.2) ∧
    (readValues x asked = none ↔ ∃ kv ∈ asked, x.length ≤ kv.2) := by
  have hread : ∀ (kv : κ × Nat) (kr : κ × Rat),
      (x[kv.2]?).map (fun v => (kv.1, v)) = some kr ↔ kr.1 = kv.1 ∧ x[kv.2]? = some kr.2 := by
    intro kv kr
    cases x[kv.2]? <;> simp [Prod.ext_iff, eq_comm]
  constructor
  · intro r
    simp only [readValues, mapM_option_eq_some_iff_getElem?, hread]
  · simp only [readValues, mapM_option_eq_none, Option.map_eq_none_iff, List.getElem?_eq_none_iff]

/-- **every `optimize` yields a fresh solution**: what the backend holds after `optimize` is the solve of the
model as flushed by this very call; the result of an earlier solve (and the number of earlier solves) has no
influence on it. -/
theorem optimize_fresh (f : GetColsField) (s : WState) :
    (wstep f s .optimize).last
      = some (solveBox (flush f s).maximize (flush f s).cols (flush f s).offset) ∧
    ∀ (l : Option Solve) (n : Nat),
      (wstep f { s with last := l, nSolves := n } .optimize).last = (wstep f s .optimize).last :=
  ⟨rfl, fun _ _ => rfl⟩

theorem wsnaps_length (f : GetColsField) (ops : List WOp) :
    (wsnaps f ops).length = (ops.filter (·.isOptimize)).length :=
  wobj_snaps_length f ops {}

/-- **the values returned after the `n`-th `optimize` are those of the `n`-th solve**: if `n` solves precede
the `optimize` at the end of `pre`, the `n`-th (0-based) observed state has the columns, constant and sense of
the model as this `optimize` flushed it, counts `n + 1` solves and holds the solve of exactly that model -/
theorem readback_nth (f : GetColsField) (pre post : List WOp) :
    ∃ sn, (wsnaps f (pre ++ WOp.optimize :: post))[(pre.filter (·.isOptimize)).length]? = some sn ∧
      sn.cols = (flush f (wrun f pre)).cols ∧ sn.offset = (flush f (wrun f pre)).offset ∧
      sn.maximize = (flush f (wrun f pre)).maximize ∧
      sn.nSolves = (pre.filter (·.isOptimize)).length + 1 ∧
      sn.last = some (solveBox (flush f (wrun f pre)).maximize (flush f (wrun f pre)).cols
        (flush f (wrun f pre)).offset) := by
  refine ⟨wstep f (wrun f pre) .optimize, ?_, rfl, rfl, rfl, ?_, rfl⟩
  · simp only [wsnaps, wobj_snaps_append]
    rw [List.getElem?_append_right (by rw [wobj_snaps_length]; exact Nat.le_refl _), wobj_snaps_length,
      Nat.sub_self]
    simp [wsnapsFrom, WOp.isOptimize, wrun]
  · have := wobj_nSolves f pre {}
    simp only [wstep, wrun] at this ⊢
    rw [this]
    show 0 + _ + 1 = _
    omega

/-- … hence `get_values` / `get_objective_value` after the `n`-th `optimize` read the optimum of the box as
it is at that `optimize` (current bounds, last objective, its constant), for any set of asked variables -/
theorem get_values_fresh {κ : Type} (f : GetColsField) (pre post : List WOp) (asked : List (κ × Nat))
    (sn : WState)
    (hsn : (wsnaps f (pre ++ WOp.optimize :: post))[(pre.filter (·.isOptimize)).length]? = some sn) :
    getValues sn asked =
      (if boxFeasible (flush f (wrun f pre)).cols then
        readValues (boxOptimum (flush f (wrun f pre)).maximize (flush f (wrun f pre)).cols) asked
       else none) ∧
    getObjectiveValue sn =
      (if boxFeasible (flush f (wrun f pre)).cols then
        some (objValue (flush f (wrun f pre)).cols (flush f (wrun f pre)).offset
          (boxOptimum (flush f (wrun f pre)).maximize (flush f (wrun f pre)).cols))
       else none) := by
  obtain ⟨sn', h1, _, _, _, _, h6⟩ := readback_nth f pre post
  rw [hsn] at h1
  cases h1
  simp only [getValues, getObjectiveValue, h6, solveBox]
  cases boxFeasible (flush f (wrun f pre)).cols <;> simp

/-- non-vacuity, and the witness against a stale solution vector: two solves of one wrapper with a queued lower
bound and a new objective in between; the second read-back is `[2, 1]` with objective value `4` (not the `[0, 4]`
and `1` of the first solve), and asking for column 1 then column 0 returns exactly these two, in that order -/
theorem readback_two_solves_witness :
    let ops := [WOp.addVars [(0, 3), (1, 4)], .setObjective [(0, 1), (1, -1)] (some 5), .optimize,
                .queueLb 0 2, .setObjective [(0, 2)], .optimize]
    (wsnaps .upper ops).map (·.last) = [some (.optimal [0, 4] 1), some (.optimal [2, 1] 4)] ∧
    (wsnaps .upper ops).map (fun s => getValues s [("b", 1), ("a", 0)])
      = [some [("b", 4), ("a", 0)], some [("b", 1), ("a", 2)]] ∧
    (wsnaps .upper ops).map (fun s => expectedValues s.maximize s.cols)
      = [[some 0, some 4], [some 2, none]] := by decide +kernel

end FP.Props.C12
