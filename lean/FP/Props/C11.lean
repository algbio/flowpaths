import FP.Proofs.NodeExpandModesCycWitness
import FP.Proofs.KMPEC
import FP.Proofs.KCoverC
/-!
# C11 — node-weighted solving equals solving the explicitly node-expanded instance

Model: `FP/Model/NodeExpand.lean` (`NodeExpandedDiGraph` and the node branch of `kFlowDecomp.__init__`).

What is proven here, for **every** name alphabet (names are arbitrary strings: they may contain dots and
end in `.0` / `.1`):

* expand-then-condense is the identity on paths, elements, constraints, starts / ends, node values;
* `get_expanded_edge` is injective and node copies never collide with edge copies;
* the ignore list is exactly {copies of original edges} ∪ {copies of attribute-less nodes};
* the expansion of a (closed, acyclic) graph is a well-formed acyclic graph, every admissible route of which is
  the expansion `v₁.0 v₁.1 … vₙ.0 vₙ.1` of an admissible route of the original graph, and `get_condensed_paths`
  returns `v₁ … vₙ` (the converse, that every such expansion is a route of the expansion, is not proved);
* `node_mode_is_edge_mode_on_expansion`: the LP that `kFlowDecomp(flow_attr_origin="node")` builds is, as
  data, the LP that `kFlowDecomp` builds in edge mode on the explicit expansion of the property text
  (`expandInput`). The content of this equality is that the code's ignore list (built inside the expansion
  loop from predecessor lists, then `list(set(…))`) and its copied attributes (original edges may carry an
  attribute of the same name) cannot be told apart, by the edge-level encoder, from the specification's
  "all original edges and all attribute-less nodes are ignored, only node copies carry values". That the
  Lean `kfdNodeLP` *is* what the real constructor builds is not a theorem: it is checked by the 3-way K2
  LP-dump comparison in `harness/props/c11.py`.
* the same equality for the node branches of `kLeastAbsErrors`, `kMinPathError` (with additional starts / ends,
  `error_scaling`, `path_length_ranges` / `path_length_factors`, `encode_edge_position`) and of
  `kPathCover(cover_type="node")` (model: `FP/Model/NodeExpandModes.lean`):
  `node_mode_is_edge_mode_on_expansion_klae`, `…_kmpe`, `…_kcover`, all three unconditional. `kPathCover` builds its
  `NodeExpandedDiGraph` with `node_length_attr=length_attr` (fix 65014a7), so the copy `(u.1, v.0)` of an original
  edge that lacks the length attribute has length 0 in `subpath_constraints_coverage_length` constraints, as in the
  other classes; `coverLengths` is the reading on an expansion built without it (such a copy has length 1), and
  `kcover_former_lp_eq`, `kcover_former_reading_differs` say when the two readings give the same LP and that they
  need not.

* the four **cyclic** k-classes (model: `FP/Model/NodeExpandModesCyc.lean`):
  `node_mode_is_edge_mode_on_expansion_kcoverc` (unconditional), `…_kfdc`, `…_klaec`, `…_kmpec`. The cyclic
  constructors compute their per-edge repetition caps on the expanded graph from whatever `flow_attr` values sit on it
  — ignored edges included — and `NodeExpandedDiGraph` copies every attribute of an original edge `(u, v)` onto
  `(u.1, v.0)`. `w_max` always comes out equal; the caps of `kFlowDecompCycles` come out equal **exactly when** no
  original edge inside a cycle carries an attribute named like the flow attribute with a value whose floor differs
  from that of `w_max` (`kfdc_caps_equal_iff`); for the two error classes it suffices that such attributes have value
  `0`. Without the hypothesis the equality fails: `kfdc_node_mode_cap_from_edge_attribute_differs` (the node LP is infeasible, the LP
  on the explicit expansion feasible), `errc_node_mode_cap_from_edge_attribute_differs`; both inputs are replayed on
  the real classes (finding `C11-cyclic-node-mode-cap-from-edge-attribute`). Independent of the caps:
  `node_mode_walks_condense_kfdc` / `_kcoverc` / `_klaec` / `_kmpec` — every walk decoded from a satisfying
  assignment of a cyclic node branch condenses to an admissible walk of the caller's graph in original names.

Dotted names do **not** break condensing (`condense_expand`, `dotted_names_condense_witness`). Outside this model, and
left to the end-to-end oracle of the check: `MinPathCover` returning expanded names, node mode of `kFlowDecomp` crashing
on graphs without inner nodes.
-/
namespace FP.Props.C11
open FP FP.NX FP.Spec

/-- **expand then condense is the identity on paths** — any node names whatsoever -/
theorem condense_expand (orig : List Node) (p : List Node) (h : ∀ v ∈ p, v ∈ orig) :
    condensePath orig [] (expandPath p) = .ok p :=
  NX.condense_expand orig p h

/-- with global source / sink ids: they are accepted and dropped, everything else comes back -/
theorem condense_expand_globals (orig globals : List Node) (p : List Node)
    (h : ∀ v ∈ p, v ∈ orig ∨ v ∈ globals) :
    condensePath orig globals (expandPath p) = .ok (p.filter fun v => !globals.contains v) :=
  NX.condense_expand_globals orig globals p h

theorem condensePaths_expand (orig : List Node) (ps : List (List Node)) (h : ∀ p ∈ ps, ∀ v ∈ p, v ∈ orig) :
    condensePaths orig [] (ps.map expandPath) = .ok ps :=
  NX.condensePaths_expand orig ps h

/-- `get_expanded_edge` is injective on nodes and on edges -/
theorem expandedEdge_injective :
    (∀ a b : Node, nodeEdge a = nodeEdge b → a = b) ∧ (∀ a b : Edge, edgeEdge a = edgeEdge b → a = b) :=
  ⟨fun _ _ => nodeEdge_inj, fun _ _ => edgeEdge_inj⟩

/-- the copy of a node is never the copy of an edge, and the two copies of a node differ -/
theorem expandedEdge_disjoint (v : Node) (e : Edge) : nodeEdge v ≠ edgeEdge e ∧ n0 v ≠ n1 v :=
  ⟨nodeEdge_ne_edgeEdge v e, n0_ne_n1 v v⟩

/-- expanding an element and reading it back yields the element -/
theorem condenseElement_expand (g : Graph) :
    (∀ v x, expandedNode g v = .ok x → condenseElement x = some (.node v) ∧ v ∈ g.nodes) ∧
    (∀ e x, expandedEdge g e = .ok x → condenseElement x = some (.edge e) ∧ e ∈ g.edges) :=
  NX.condenseElement_expand g

/-- constraints: whatever `get_expanded_subpath_constraints` accepts is the element-wise translation,
and reading the expanded constraints back yields the original node lists / edge lists -/
theorem constraints_roundtrip (g : Graph) (cs : Constraints) (xs : List (List Edge))
    (h : expandConstraints g cs = .ok xs) :
    xs = specConstraints cs ∧
    match cs with
    | .nodes l => xs.map condenseConstraint = l.map (·.map .node)
    | .edges l => xs.map (fun x => edgesOf (condenseConstraint x)) = l :=
  ⟨expandConstraints_ok h, NX.constraints_roundtrip h⟩

theorem starts_ends_roundtrip (g : Graph) (l xs : List Node) :
    (expandStarts g l = .ok xs → xs = l.map n0 ∧ (∀ v ∈ l, v ∈ g.nodes) ∧ xs.map strip2 = l) ∧
    (expandEnds g l = .ok xs → xs = l.map n1 ∧ (∀ v ∈ l, v ∈ g.nodes) ∧ xs.map strip2 = l) :=
  ⟨expandStarts_ok, expandEnds_ok⟩

/-- nodes lacking the attribute are ignored, every original edge is ignored, and a node that carries
the attribute is not ignored -/
theorem missing_attr_ignored (ng : NodeGraph) (hc : Closed ng.g) :
    (∀ v ∈ ng.g.nodes, ng.hasFlow v = false → nodeEdge v ∈ edgesToIgnore ng) ∧
    (∀ e ∈ ng.g.edges, edgeEdge e ∈ edgesToIgnore ng) ∧
    (∀ v ∈ ng.g.nodes, ng.hasFlow v = true → nodeEdge v ∉ edgesToIgnore ng) :=
  NX.missing_attr_ignored ng hc

theorem edgesToIgnore_exact (ng : NodeGraph) (hc : Closed ng.g) (x : Edge) :
    x ∈ edgesToIgnore ng ↔
      (∃ e ∈ ng.g.edges, x = edgeEdge e) ∨ (∃ v ∈ ng.g.nodes, ng.hasFlow v = false ∧ x = nodeEdge v) :=
  NX.edgesToIgnore_exact ng hc x

theorem expansion_nodes (g : Graph) (hc : Closed g) (x : Node) :
    x ∈ (expandGraph g).nodes ↔ ∃ v ∈ g.nodes, x = n0 v ∨ x = n1 v :=
  NX.expansion_nodes g hc x

theorem expansion_edges (g : Graph) (hc : Closed g) (x : Edge) :
    x ∈ (expandGraph g).edges ↔ (∃ v ∈ g.nodes, x = nodeEdge v) ∨ (∃ e ∈ g.edges, x = edgeEdge e) :=
  NX.expansion_edges g hc x

/-- the expansion is a well-formed input of the edge-level models (distinct nodes and edges, closed,
synthetic names unused) whatever the names of the original graph are -/
theorem expansion_wf (g : Graph) (hc : Closed g) : BaseWF (expandGraph g) := NX.expansion_wf g hc

theorem expansion_acyclic (g : Graph) (hac : Acyclic g) : Acyclic (expandGraph g) := NX.expansion_acyclic g hac

/-- a walk of the expansion from a `.0` node to a `.1` node alternates `v.0, v.1` and condenses to a
walk of the original graph -/
theorem expanded_walk_condenses (g : Graph) (l : List Node) (v w : Node)
    (hw : IsWalkIn (expandGraph g) l) (hfirst : l.head? = some (n0 v)) (hlast : l.getLast? = some (n1 w)) :
    ∃ p, l = expandPath p ∧ IsWalkIn g p ∧ p.head? = some v ∧ p.getLast? = some w :=
  NX.expanded_walk_condenses g l v w hw hfirst hlast

/-- admissible routes of the expansion (with expanded additional starts / ends) are the expansions of
admissible routes of the original graph, and condensing returns the latter -/
theorem expanded_route_condenses (g : Graph) (hc : Closed g) (starts ends : List Node) (l : List Node)
    (h : ValidRoute (expandGraph g) (starts.map n0) (ends.map n1) l) :
    ∃ p, l = expandPath p ∧ ValidRoute g starts ends p ∧ condensePath g.nodes [] l = .ok p :=
  NX.expanded_route_condenses g hc starts ends l h

/-- **DAG k-models in node mode return routes of the original graph in original names**: every
non-empty path decoded from a satisfying assignment of `_encode_paths` on the augmented expansion
condenses (by `get_condensed_paths`) to an admissible route of the caller's graph -/
theorem node_mode_paths_condense (g : Graph) (hc : Closed g) (hac : Acyclic g) (starts ends : List Node)
    (c : PathCfg) (a : Asg)
    (hsat : Sat a (encodePaths (augment (expandGraph g) (starts.map n0) (ends.map n1)) c)) (i : Nat) (hi : i < c.k) :
    ∃ l, decodeLayer (augment (expandGraph g) (starts.map n0) (ends.map n1)) (fun e j => a (edgeVar e j)) i = some l ∧
      (l ≠ [] → ∃ p, condensePath g.nodes [] l = .ok p ∧ ValidRoute g starts ends p ∧ l = expandPath p) :=
  NX.node_mode_paths_condense g hc hac starts ends c a hsat i hi

/-- the condensed graph carries on every node exactly the value the original node carries -/
theorem condenseFlow_expandFlow (ng : NodeGraph) :
    condenseFlow ng.g (expandFlow ng) = ng.g.nodes.filterMap fun v => (ng.nodeFlow.lookup v).map fun q => (v, q) :=
  NX.condenseFlow_expandFlow ng

/-- the LP of kFlowDecomp depends on the ignore list only as a set and on the values of non-ignored
edges only -/
theorem kfdLP_ignore_as_set (a b : FlowInput) (hbase : a.base = b.base) (hs : a.starts = b.starts)
    (he : a.ends = b.ends) (hw : a.weightInt = b.weightInt) (hcfg : a.cfg = b.cfg)
    (hign : ∀ e, a.ignore.contains e = b.ignore.contains e)
    (hf : ∀ e, a.ignored e = false → a.f e = b.f e) : kfdLP a = kfdLP b :=
  NX.kfdLP_congr a b ⟨hbase, hs, he, hw, hcfg, hign, hf⟩

/-- **node mode is edge mode on the expansion (kFlowDecomp), as equality of LP data.** Whenever the node
branch accepts its input, the LP it builds equals the LP of the edge-level model on the explicit expansion
of the property text. `hc`, `hef` hold for every networkx graph (edges join nodes; attributes sit on
existing edges). -/
theorem node_mode_is_edge_mode_on_expansion (inp : NodeFlowInput) (lp : LP) (hc : Closed inp.ng.g)
    (hef : ∀ p ∈ inp.ng.edgeFlow, p.1 ∈ inp.ng.g.edges) (h : kfdNodeLP inp = .ok lp) :
    lp = kfdLP (expandInput inp) :=
  NX.node_mode_is_edge_mode_on_expansion inp lp hc hef h

/-- node mode accepts every input in which some node carries the attribute and is not ignored, `k > 0`,
ignored nodes are known, and the (node-form) constraints are non-empty lists of known nodes -/
theorem node_mode_accepts (inp : NodeFlowInput) (l : List (List Node)) (hcs : inp.constraints = .nodes l)
    (hc : Closed inp.ng.g) (hk : inp.k ≠ 0)
    (hact : ∃ v ∈ inp.ng.g.nodes, inp.ng.hasFlow v = true ∧ v ∉ inp.ignoreNodes)
    (hl : ∀ c ∈ l, c ≠ [] ∧ ∀ v ∈ c, v ∈ inp.ng.g.nodes)
    (hi : ∀ v ∈ inp.ignoreNodes, v ∈ inp.ng.g.nodes) : ∃ lp, kfdNodeLP inp = .ok lp :=
  NX.node_mode_accepts inp l hcs hc hk hact hl hi

/-- what an accepted input satisfies: the translation succeeded, some expanded edge is left to be
explained ("All edges are ignored" is a `ValueError`) and `k > 0` -/
theorem node_mode_accepted_has_active (inp : NodeFlowInput) (fi : FlowInput) (h : kfdNodeInternal inp = .ok fi) :
    kfdNodeTranslate inp = .ok fi ∧ fi.activeEdges ≠ [] ∧ fi.cfg.k ≠ 0 :=
  NX.kfdNodeInternal_ok h

/-- **kLeastAbsErrors.** Whenever the node branch of `kLeastAbsErrors.__init__` accepts its input (constraints,
additional starts / ends, ignored nodes and the keys of `error_scaling` are known nodes, …), the LP it builds
equals the LP of the edge-level model on the explicit expansion: starts `v.0`, ends `v.1`, error scaling on the
node copies, all original edges and all attribute-less nodes ignored, only node copies carry values, lengths as
`NodeExpandedDiGraph(node_length_attr=length_attr)` defines them. `hc`, `hef` as for `kFlowDecomp`. -/
theorem node_mode_is_edge_mode_on_expansion_klae (inp : NodeModeInput) (lp : LP) (hc : Closed inp.nf.ng.g)
    (hef : ∀ p ∈ inp.nf.ng.edgeFlow, p.1 ∈ inp.nf.ng.g.edges) (h : klaeNodeLP inp = .ok lp) :
    lp = klaeLP (expandModeInput inp false) := by
  obtain ⟨ei, hi, rfl⟩ := map_ok h
  obtain rfl := klaeNodeInternal_ok hi
  have h := nxm_agree inp hc hef false
  exact klaeLP_congr_on h.st h.cfg h.wInt (nxm_errAgree _ _ h rfl)

/-- **kMinPathError** (`encode_edge_position=True`; `path_length_ranges` / `path_length_factors` are passed
through unchanged by both branches) -/
theorem node_mode_is_edge_mode_on_expansion_kmpe (inp : NodeMpeInput) (lp : LP) (hc : Closed inp.nm.nf.ng.g)
    (hef : ∀ p ∈ inp.nm.nf.ng.edgeFlow, p.1 ∈ inp.nm.nf.ng.g.edges) (h : kmpeNodeLP inp = .ok lp) :
    lp = kmpeLP (expandMpeInput inp) := by
  obtain ⟨mi, hi, rfl⟩ := map_ok h
  obtain rfl := kmpeNodeInternal_ok hi
  have h := nxm_agree inp.nm hc hef true
  exact kmpeLP_congr_on (b := expandMpeInput inp) h.st h.cfg h.wInt (nxm_errAgree _ _ h rfl) rfl rfl

/-- **kPathCover(cover_type="node").** The node branch equals the edge branch on the explicit expansion (every
node an edge to be covered unless the caller ignores it, all original edges ignored; the length attribute as
`NodeExpandedDiGraph(node_length_attr=length_attr)` defines it). -/
theorem node_mode_is_edge_mode_on_expansion_kcover (inp : NodeModeInput) (lp : LP) (hc : Closed inp.nf.ng.g)
    (h : kcoverNodeLP inp = .ok lp) : lp = kcoverLP (expandCoverInput inp) := by
  obtain ⟨fi, hi, rfl⟩ := map_ok h
  obtain rfl := kcoverNodeInternal_ok hi
  -- the cover input built from `G_with_flow_attr` has no attribute-carrying original edge
  have h := nxm_agree { inp with nf := { inp.nf with ng := coverNG inp.nf.ng } } hc (fun _ hp => nomatch hp) false
  exact kcoverLP_congr_on h.st h.cfg h.active

/-- the LP with the length attribute read as `coverLengths` (an expansion built without `node_length_attr`: copied
attributes, default 1 on attribute-less edge copies) equals the LP of the node branch when the two readings agree on
every edge of every expanded constraint or `subpath_constraints_coverage_length` is not set -/
theorem kcover_former_lp_eq (inp : NodeModeInput)
    (hlen : inp.nf.coverageLength = none ∨
      ∀ con ∈ specConstraints inp.nf.constraints, ∀ e ∈ con,
        lenAt (coverLengths inp.nf.ng) e = lenAt (expandLengths inp.nf.ng) e) :
    kcoverLP (nxmTranslated inp (coverNG inp.nf.ng) (coverLengths inp.nf.ng) false).fi
      = kcoverLP (nxmTranslated inp (coverNG inp.nf.ng) (expandLengths inp.nf.ng) false).fi :=
  kcoverLP_lengths_congr (nxmTranslated inp (coverNG inp.nf.ng) (coverLengths inp.nf.ng) false).fi _ rfl hlen

/-- `coverLengths` and `expandLengths` agree on the edges of constraints given as lists of nodes -/
theorem kcover_lengths_agree_on_node_constraints (ng : NodeGraph) (l : List (List Node)) :
    ∀ con ∈ specConstraints (.nodes l), ∀ e ∈ con,
      lenAt (coverLengths ng) e = lenAt (expandLengths ng) e := by
  intro con hcon e he
  obtain ⟨c, _, rfl⟩ := List.mem_map.1 hcon
  obtain ⟨v, _, rfl⟩ := List.mem_map.1 he
  exact nxm_len_nodeEdge ng v

/-- `coverLengths` and `expandLengths` are the same list when every original edge carries the length attribute -/
theorem kcover_lengths_eq_of_all_edges (ng : NodeGraph)
    (hall : ∀ e ∈ ng.g.edges, (ng.edgeLen.lookup e).isSome = true) : coverLengths ng = expandLengths ng := by
  unfold coverLengths expandLengths
  congr 1
  funext nl
  congr 1
  apply List.map_congr_left
  intro e he
  unfold lookupD
  obtain ⟨q, hq⟩ := Option.isSome_iff_exists.1 (hall e he)
  rw [hq]
  rfl

/-- the ignore list the node branches build is, as a set, that of the property text, and outside it the
attribute copied onto the expansion is the node's value -/
theorem node_branch_ignore_and_values (ng : NodeGraph) (hc : Closed ng.g)
    (hef : ∀ p ∈ ng.edgeFlow, p.1 ∈ ng.g.edges) (ignoreNodes : List Node) (e : Edge) :
    (e ∈ (edgesToIgnore ng ++ ignoreNodes.map nodeEdge).eraseDups ↔
      (∃ x ∈ ng.g.edges, e = edgeEdge x) ∨ (∃ v ∈ ng.g.nodes, ng.hasFlow v = false ∧ e = nodeEdge v) ∨
        (∃ v ∈ ignoreNodes, e = nodeEdge v)) ∧
    ((edgesToIgnore ng ++ ignoreNodes.map nodeEdge).eraseDups.contains e = false →
      lookupD (expandFlow ng) e 0 = lookupD (ng.nodeFlow.map fun p => (nodeEdge p.1, p.2)) e 0) :=
  ⟨NX.mem_ignore_iff ng hc ignoreNodes e, NX.nxm_flow_agree ng hc hef ignoreNodes e⟩

def exG : Graph := { nodes := ["a.0", "a", "x.1.0"], edges := [("a", "a.0"), ("a.0", "x.1.0")] }

theorem exG_closed : Closed exG := by unfold Closed; decide +kernel

/-- names containing `.0` / dots do not break condensing: the path `a → a.0 → x.1.0` survives the round trip (replayed
on the real class by the check) -/
theorem dotted_names_condense_witness :
    condensePath exG.nodes [] (expandPath ["a", "a.0", "x.1.0"]) = .ok ["a", "a.0", "x.1.0"] ∧
    expandPath ["a", "a.0", "x.1.0"] = ["a.0", "a.1", "a.0.0", "a.0.1", "x.1.0.0", "x.1.0.1"] :=
  ⟨NX.condense_expand _ _ (by decide +kernel), by decide +kernel⟩

/-- an empty constraint, first or not, is rejected (`ValueError`) -/
theorem empty_constraint_rejected_witness :
    expandConstraints exG (.nodes [[], ["a"]]) = .error "empty" ∧
    expandConstraints exG (.nodes [["a"], []]) = .error "empty" ∧
    expandConstraints exG (.edges [[("a", "a.0")], []]) = .error "empty" ∧
    expandConstraints exG (.nodes [["a"]]) = .ok [[("a.0", "a.1")]] :=
  ⟨rfl, rfl, rfl, rfl⟩

/-- a damaged path (odd length, or starting at a `.1` node) is rejected or truncated exactly as the code does -/
example : condensePath exG.nodes [] ["a.1", "a.0.0", "a.0.1"] = .error "invalid" :=
  eq_error_of_decide (by decide +kernel)
example : condensePath exG.nodes [] ["a.0", "a.1", "a.0.0"] = .ok ["a"] := rfl
example : condensePath exG.nodes [] ["b.0", "b.1"] = .error "notin" := eq_error_of_decide (by decide +kernel)

/-- the expansion of `exG` in networkx insertion order -/
example : (expandGraph exG).nodes = ["a.0.0", "a.0.1", "a.1", "x.1.0.0", "a.0", "x.1.0.1"] := by decide +kernel
example : (expandGraph exG).edges =
    [("a.0.0", "a.0.1"), ("a.1", "a.0.0"), ("a.0.1", "x.1.0.0"), ("a.0", "a.1"), ("x.1.0.0", "x.1.0.1")] := by decide +kernel
example : edgesToIgnore { g := exG, nodeFlow := [("a", 2), ("a.0", 1)] } =
    [("a.1", "a.0.0"), ("x.1.0.0", "x.1.0.1"), ("a.0.1", "x.1.0.0")] := by decide +kernel

def exInp : NodeFlowInput :=
  { ng := { g := exG, nodeFlow := [("a", 2), ("a.0", 2)], edgeFlow := [(("a", "a.0"), 7)] },
    ignoreNodes := ["a.0"], constraints := .nodes [["a", "a.0"]], k := 2 }

/-- the hypotheses of `node_mode_is_edge_mode_on_expansion` are satisfiable: the node branch accepts `exInp` -/
example : ∃ lp, kfdNodeLP exInp = .ok lp ∧ lp = kfdLP (expandInput exInp) := by
  obtain ⟨lp, h⟩ := node_mode_accepts exInp [["a", "a.0"]] rfl exG_closed (by decide)
    ⟨"a", by decide, by decide, by decide⟩ (by decide) (by decide)
  exact ⟨lp, h, node_mode_is_edge_mode_on_expansion exInp lp exG_closed (by decide) h⟩

/-- the two input records of the example above really differ (ignore list and values), so the equality has content -/
example : (kfdNodeTranslate exInp).toOption.map (·.ignore.length) = some 4 ∧
    (expandInput exInp).ignore.length = 4 ∧
    (kfdNodeTranslate exInp).toOption.map (·.flow.length) = some 3 ∧ (expandInput exInp).flow.length = 2 := by
  decide +kernel

/-- ignoring every node that carries a value is rejected, as the constructor does -/
example : kfdNodeInternal { exInp with ignoreNodes := ["a", "a.0"] } = .error "allignored" ∧
    (kfdNodeTranslate { exInp with ignoreNodes := ["a", "a.0"] }).toBool = true :=
  ⟨eq_error_of_decide (by decide +kernel), by decide +kernel⟩

/-- `exInp` with an additional start and end, and error scaling on two nodes (one factor 0: that node is ignored) -/
def exMode : NodeModeInput :=
  { nf := exInp, starts := ["a.0"], ends := ["a"], scaling := [("a", 1/2), ("x.1.0", 0)] }

theorem exMode_hef : ∀ p ∈ exMode.nf.ng.edgeFlow, p.1 ∈ exMode.nf.ng.g.edges := by decide +kernel

/-- the hypotheses of `node_mode_is_edge_mode_on_expansion_klae` are satisfiable -/
example : ∃ lp, klaeNodeLP exMode = .ok lp ∧ lp = klaeLP (expandModeInput exMode false) := by
  obtain ⟨lp, h⟩ := exists_ok_of_toBool (x := klaeNodeLP exMode) (by decide +kernel)
  exact ⟨lp, h, node_mode_is_edge_mode_on_expansion_klae exMode lp exG_closed exMode_hef h⟩

/-- the two records of the example above differ (ignore list: code order with duplicates removed vs the list of the property
text; values: the copied edge attribute is not in the explicit expansion) -/
example : (klaeNodeInternal exMode).toOption.map (·.fi.ignore) ≠ some (expandModeInput exMode false).fi.ignore ∧
    (klaeNodeInternal exMode).toOption.map (·.fi.flow.length) = some 3 ∧
    (expandModeInput exMode false).fi.flow.length = 2 ∧
    (expandModeInput exMode false).fi.starts = ["a.0.0"] ∧ (expandModeInput exMode false).fi.ends = ["a.1"] ∧
    (expandModeInput exMode false).scaling = [(("a.0", "a.1"), 1/2), (("x.1.0.0", "x.1.0.1"), 0)] := by
  decide +kernel

def exMpe : NodeMpeInput :=
  { nm := { exMode with nf := { exInp with weightInt := true } }, ranges := [(0, 2), (3, 9)], factors := [1, 2] }

/-- the hypotheses of `node_mode_is_edge_mode_on_expansion_kmpe` are satisfiable (integer weights, two length
ranges with factors) -/
example : ∃ lp, kmpeNodeLP exMpe = .ok lp ∧ lp = kmpeLP (expandMpeInput exMpe) := by
  obtain ⟨lp, h⟩ := exists_ok_of_toBool (x := kmpeNodeLP exMpe) (by decide +kernel)
  exact ⟨lp, h, node_mode_is_edge_mode_on_expansion_kmpe exMpe lp exG_closed exMode_hef h⟩

/-- unknown nodes among the starts or the keys of `error_scaling` are rejected, as `get_expanded_edge` does -/
example : (klaeNodeLP { exMode with starts := ["nosuch"] }).toBool = false ∧
    (klaeNodeLP { exMode with scaling := [("nosuch", 1)] }).toBool = false ∧
    (klaeNodeLP { exMode with scaling := [("a", 2)] }).toBool = false := by decide +kernel

/-- `a → b`, `a → c → b`, every node of length 1, no edge carries the length attribute; the constraint is the
*edge* `(a, b)`, 75 % of its length must lie on one path; `k = 1` -/
def exCover : NodeModeInput :=
  { nf := { ng := { g := { nodes := ["a", "b", "c"], edges := [("a", "b"), ("a", "c"), ("c", "b")] },
                    nodeLen := some [("a", 1), ("b", 1), ("c", 1)] },
            constraints := .edges [[("a", "b")]], k := 1, coverageLength := some (3/4) } }

theorem exCover_closed : Closed exCover.nf.ng.g := by unfold Closed; decide +kernel

/-- the path `a, c, b` on the augmented expansion, `r(0,0) = 1` -/
def exCoverAsg : Asg := fun v =>
  if v ∈ [edgeVar ("source", "a.0") 0, edgeVar ("a.0", "a.1") 0, edgeVar ("a.1", "c.0") 0, edgeVar ("c.0", "c.1") 0,
      edgeVar ("c.1", "b.0") 0, edgeVar ("b.0", "b.1") 0, edgeVar ("b.1", "sink") 0, rVar 0 0] then 1 else 0

/-- the facts about `exCover` that the two theorems below use, in one kernel evaluation (the expansion is built once) -/
theorem exCover_table :
    (kcoverNodeLP exCover).toBool = true ∧ satCheck exCoverAsg (kcoverLP (expandCoverInput exCover)) = true ∧
    lenAt (expandLengths exCover.nf.ng) ("a.1", "b.0") = 0 ∧ lenAt (coverLengths exCover.nf.ng) ("a.1", "b.0") = 1 ∧
    (kcoverLP (nxmTranslated exCover (coverNG exCover.nf.ng) (coverLengths exCover.nf.ng) false).fi).rows.all
      (rowOk exCoverAsg) = false := by decide +kernel

/-- on an input with an attribute-less edge inside a coverage-length constraint the node branch of `kPathCover` builds the
LP of the edge branch on the explicit expansion — the constraint `(a.0,a.1), (a.1,b.0), (b.0,b.1)` has lengths `1, 0, 1`,
threshold `3/2` — and that LP is feasible for `k = 1`: the path `a, c, b` covers every node and carries length 2 of the
constraint. -/
theorem kcover_node_mode_length_regression :
    ∃ lp, kcoverNodeLP exCover = .ok lp ∧ lp = kcoverLP (expandCoverInput exCover) ∧ Sat exCoverAsg lp ∧
      lenAt (expandLengths exCover.nf.ng) ("a.1", "b.0") = 0 := by
  obtain ⟨lp, h⟩ := exists_ok_of_toBool exCover_table.1
  have heq := node_mode_is_edge_mode_on_expansion_kcover exCover lp exCover_closed h
  refine ⟨lp, h, heq, ?_, exCover_table.2.2.1⟩
  rw [heq]
  exact satCheck_sound _ _ exCover_table.2.1

/-- with the length attribute read as `coverLengths` (the copy `(a.1, b.0)` of the attribute-less edge `(a, b)` has
length 1) the LP on `exCover` differs from the LP on the explicit expansion — lengths `1, 1, 1`, threshold `9/4`, which
the path `a, c, b` (length 2) misses, so that `k = 1` is infeasible (fix 65014a7 is what makes `kPathCover` pass
`node_length_attr`). -/
theorem kcover_former_reading_differs :
    kcoverLP (nxmTranslated exCover (coverNG exCover.nf.ng) (coverLengths exCover.nf.ng) false).fi
        ≠ kcoverLP (expandCoverInput exCover) ∧
      lenAt (coverLengths exCover.nf.ng) ("a.1", "b.0") = 1 ∧
      ¬ Sat exCoverAsg (kcoverLP (nxmTranslated exCover (coverNG exCover.nf.ng) (coverLengths exCover.nf.ng) false).fi) := by
  have hns : ¬ Sat exCoverAsg
      (kcoverLP (nxmTranslated exCover (coverNG exCover.nf.ng) (coverLengths exCover.nf.ng) false).fi) := fun hsat =>
    absurd ((FP.rowOk_of_sat _ _ hsat).symm.trans exCover_table.2.2.2.2) nofun
  -- the LP on the explicit expansion is satisfied by `exCoverAsg`, the one read with `coverLengths` is not
  refine ⟨fun heq => hns ?_, exCover_table.2.2.2.1, hns⟩
  rw [heq]
  exact satCheck_sound _ _ exCover_table.2.1

/-- with the constraint given as the node list `[a, b]` the LPs coincide as well -/
example : ∃ lp, kcoverNodeLP { exCover with nf := { exCover.nf with constraints := .nodes [["a", "b"]] } } = .ok lp ∧
    lp = kcoverLP (expandCoverInput { exCover with nf := { exCover.nf with constraints := .nodes [["a", "b"]] } }) := by
  obtain ⟨lp, h⟩ := exists_ok_of_toBool
    (x := kcoverNodeLP { exCover with nf := { exCover.nf with constraints := .nodes [["a", "b"]] } }) (by decide +kernel)
  exact ⟨lp, h, node_mode_is_edge_mode_on_expansion_kcover _ lp exCover_closed h⟩

/-- **kPathCoverCycles(cover_type="node").** Whenever the node branch accepts its input, its LP is the LP of the
edge-level class on the explicit expansion (every node an edge to be covered unless the caller ignores it, all
original edges ignored, additional starts `v.0` / ends `v.1`). Unconditional: the repetition caps are
`number_of_edges * number_of_nodes` of the augmented expansion and read no attribute. `hc` holds for every networkx
graph (edges join nodes). -/
theorem node_mode_is_edge_mode_on_expansion_kcoverc (inp : NodeModeInput) (lp : LP) (hc : Closed inp.nf.ng.g)
    (h : kcovercNodeLP inp = .ok lp) : lp = kcovercLP (expandWalkCoverInput inp) := by
  rw [nxc_kcovercNodeLP_ok h]
  exact nxc_kcovercLP_congr _ _
    (nxc_agree { inp with nf := { inp.nf with ng := coverNG inp.nf.ng } } hc (fun _ hp => nomatch hp))

/-- **`w_max` always agrees, and the caps of `kFlowDecompCycles` agree exactly when** every original edge that carries an
attribute named like the flow attribute and whose copy lies inside an SCC of the augmented expansion carries a value with
the floor of `w_max` (the hypothesis `hcap` of `node_mode_is_edge_mode_on_expansion_kfdc`) -/
theorem kfdc_caps_equal_iff (inp : NodeModeInput) (hc : Closed inp.nf.ng.g)
    (hef : ∀ p ∈ inp.nf.ng.edgeFlow, p.1 ∈ inp.nf.ng.g.edges) :
    (nxcTranslated inp inp.nf.ng).wmax false = (expandWalkInput inp).wmax false ∧
    (kfdcBounds (nxcTranslated inp inp.nf.ng) = kfdcBounds (expandWalkInput inp) ↔
      ∀ x q, inp.nf.ng.edgeFlow.lookup x = some q →
        isSccEdge (expandWalkInput inp).st.g (edgeEdge x) = true →
        q.floor = ((expandWalkInput inp).wmax false).floor) := by
  have hag := nxc_agree inp hc hef
  refine ⟨hag.wmax false, (nxc_kfdcBounds_iff _ _ hag).trans ⟨?_, ?_⟩⟩
  · -- read both sides at the copy of `x`: the node branch has `q` there, the explicit expansion the default `w_max`
    intro hb x q hl hs
    have hx : x ∈ inp.nf.ng.g.edges := hef (x, q) (mem_of_lookup_eq_some hl)
    have hmem : edgeEdge x ∈ (nxcTranslated inp inp.nf.ng).st.g.edges :=
      (aug_mem_edges' (expansion_wf inp.nf.ng.g hc)).2 (Or.inl (edgeEdge_mem_expand hx hc))
    have h1 := hb (edgeEdge x) hmem (by rw [hag.st]; exact hs)
    obtain ⟨h2, h3⟩ := nxc_fOpt_edgeCopy inp x q hl
    rw [h2, h3, hag.wmax false] at h1
    exact h1
  · -- the attribute differs on such copies only, and there the floors agree by `hcap`
    intro hcap e _ hs
    apply expandFlow_getD_map Rat.floor
    intro x q hl hx
    rw [hag.wmax false]
    apply hcap x q hl
    rw [← hx, ← hag.st]
    exact hs

/-- **kFlowDecompCycles** (with or without `given_weights`). `hc`, `hef` hold for every networkx graph (edges join
nodes; attributes sit on existing edges). `hcap` is needed (`kfdc_caps_equal_iff`,
`kfdc_node_mode_cap_from_edge_attribute_differs`): the class caps the repetitions of an edge of the expanded graph by
`floor(data[flow_attr] if flow_attr in data else w_max)`, and the copy `(u.1, v.0)` of an
original edge carries every attribute of `(u, v)` — so an original edge inside a cycle that happens to carry an attribute
named like the flow attribute must carry a value with the floor of `w_max` (e.g. `w_max` itself) for the node branch to
build the LP of the explicit expansion. -/
theorem node_mode_is_edge_mode_on_expansion_kfdc (inp : NodeModeInput) (given : Option (List Rat)) (lp : LP)
    (hc : Closed inp.nf.ng.g) (hef : ∀ p ∈ inp.nf.ng.edgeFlow, p.1 ∈ inp.nf.ng.g.edges)
    (hcap : ∀ x q, inp.nf.ng.edgeFlow.lookup x = some q →
      isSccEdge (expandWalkInput inp).st.g (edgeEdge x) = true →
        q.floor = ((expandWalkInput inp).wmax false).floor)
    (h : kfdcNodeLP inp given = .ok lp) : lp = kfdcLP (expandWalkInput inp) given := by
  rw [nxc_kfdcNodeLP_ok h]
  exact nxc_kfdcLP_congr _ _ (nxc_agree inp hc hef) ((kfdc_caps_equal_iff inp hc hef).2.2 hcap) given

/-- `node_mode_is_edge_mode_on_expansion_kfdc` when no original edge carries an attribute named like the flow
attribute -/
theorem node_mode_is_edge_mode_on_expansion_kfdc_of_no_edge_attr (inp : NodeModeInput) (given : Option (List Rat))
    (lp : LP) (hc : Closed inp.nf.ng.g) (hno : inp.nf.ng.edgeFlow = [])
    (h : kfdcNodeLP inp given = .ok lp) : lp = kfdcLP (expandWalkInput inp) given :=
  node_mode_is_edge_mode_on_expansion_kfdc inp given lp hc (by rw [hno]; intro p hp; cases hp)
    (by rw [hno]; intro x q hl; cases hl) h

/-- what the node branch hands to the edge-level constructor is `nxcTranslated` (so `kfdc_caps_equal_iff` speaks about
the caps of the LP the node branch builds) -/
theorem kfdc_node_branch_input (inp : NodeModeInput) (wi : WalkInput) (h : kfdcNodeInternal inp = .ok wi) :
    wi = nxcTranslated inp inp.nf.ng :=
  NX.nxc_kfdcNodeInternal_ok h

/-- **kLeastAbsErrorsCycles.** `hzero` is needed (`errc_node_mode_cap_from_edge_attribute_differs`): the caps are
`compute_edge_max_reachable_value(flow_attr)` of the expanded graph, which reads `data.get(flow_attr, 0)` on every
edge, copies of original edges included — an original edge that carries an attribute named like the flow attribute
must carry `0`, the value read on an edge without it. Error scaling keyed by node goes to the node copies. -/
theorem node_mode_is_edge_mode_on_expansion_klaec (inp : NodeModeInput) (lp : LP) (hc : Closed inp.nf.ng.g)
    (hef : ∀ p ∈ inp.nf.ng.edgeFlow, p.1 ∈ inp.nf.ng.g.edges)
    (hzero : ∀ x q, inp.nf.ng.edgeFlow.lookup x = some q → q = 0)
    (h : klaecNodeLP inp = .ok lp) : lp = klaecLP (expandWalkInput inp) := by
  rw [nxc_errcNodeLP_ok h]
  exact nxc_klaecLP_congr _ _ (nxc_agree inp hc hef) (nxc_errc_bounds inp hc hef hzero)

/-- **kMinPathErrorCycles** (same caps as `kLeastAbsErrorsCycles`) -/
theorem node_mode_is_edge_mode_on_expansion_kmpec (inp : NodeModeInput) (lp : LP) (hc : Closed inp.nf.ng.g)
    (hef : ∀ p ∈ inp.nf.ng.edgeFlow, p.1 ∈ inp.nf.ng.g.edges)
    (hzero : ∀ x q, inp.nf.ng.edgeFlow.lookup x = some q → q = 0)
    (h : kmpecNodeLP inp = .ok lp) : lp = kmpecLP (expandWalkInput inp) := by
  rw [nxc_errcNodeLP_ok h]
  exact nxc_kmpecLP_congr _ _ (nxc_agree inp hc hef) (nxc_errc_bounds inp hc hef hzero)

/-- the only edges on which `data.get(flow_attr, d)` differs between the node branch's graph and the explicit
expansion are copies of original edges carrying an attribute of the same name with a value other than `d` -/
theorem cyclic_node_branch_attribute (inp : NodeModeInput) (e : Edge) (d : Rat)
    (hd : ∀ x q, inp.nf.ng.edgeFlow.lookup x = some q → e = edgeEdge x → q = d) :
    ((nxcTranslated inp inp.nf.ng).fOpt e).getD d = ((expandWalkInput inp).fOpt e).getD d :=
  NX.expandFlow_getD_map id inp.nf.ng e d hd

/-- **cyclic node branches return walks of the caller's graph in original names** (composition with the walk core's
soundness and `expanded_route_condenses`): every layer of a satisfying assignment of the LP that the node branch of
`kFlowDecompCycles` builds decodes to a walk of the augmented expansion that is empty (only with `allow_empty_walks`)
or `v₁.0 v₁.1 … vₙ.0 vₙ.1`, which `get_condensed_paths` turns into the admissible walk `v₁ … vₙ` of the caller's graph
(a node may repeat). No hypothesis on copied attributes: the caps are not involved. -/
theorem node_mode_walks_condense_kfdc (inp : NodeModeInput) (given : Option (List Rat)) (lp : LP)
    (hc : Closed inp.nf.ng.g) (h : kfdcNodeLP inp given = .ok lp) (a : Asg) (hsat : Sat a lp)
    (i : Nat) (hi : i < inp.nf.k) : WalksCondense inp a i := by
  rw [nxc_kfdcNodeLP_ok h] at hsat
  exact nxc_condense_of_enc inp inp.nf.ng rfl hc _ (kfdc_sat_enc_of_base (sat_kfdc_base _ given a hsat)) hi

theorem node_mode_walks_condense_kcoverc (inp : NodeModeInput) (lp : LP)
    (hc : Closed inp.nf.ng.g) (h : kcovercNodeLP inp = .ok lp) (a : Asg) (hsat : Sat a lp)
    (i : Nat) (hi : i < inp.nf.k) : WalksCondense inp a i := by
  rw [nxc_kcovercNodeLP_ok h] at hsat
  exact nxc_condense_of_enc inp (coverNG inp.nf.ng) rfl hc _ (kcoverc_sat_enc _ a hsat) hi

theorem node_mode_walks_condense_klaec (inp : NodeModeInput) (lp : LP)
    (hc : Closed inp.nf.ng.g) (h : klaecNodeLP inp = .ok lp) (a : Asg) (hsat : Sat a lp)
    (i : Nat) (hi : i < inp.nf.k) : WalksCondense inp a i := by
  rw [nxc_errcNodeLP_ok h] at hsat
  exact nxc_condense_of_enc inp inp.nf.ng rfl hc _ (klaec_sat_enc hsat) hi

theorem node_mode_walks_condense_kmpec (inp : NodeModeInput) (lp : LP)
    (hc : Closed inp.nf.ng.g) (h : kmpecNodeLP inp = .ok lp) (a : Asg) (hsat : Sat a lp)
    (i : Nat) (hi : i < inp.nf.k) : WalksCondense inp a i := by
  rw [nxc_errcNodeLP_ok h] at hsat
  exact nxc_condense_of_enc inp inp.nf.ng rfl hc _ (kmpec_sat_enc hsat) hi

example (inp : NodeModeInput) (a : Asg) (i : Nat) : WalksCondense inp a i ↔
    ((decodeWalkLayer (expandWalkInput inp).st a i = [] → inp.nf.allowEmpty = true) ∧
     (decodeWalkLayer (expandWalkInput inp).st a i ≠ [] →
        ∃ p, condensePath inp.nf.ng.g.nodes [] (decodeWalkLayer (expandWalkInput inp).st a i) = .ok p ∧
          ValidRoute inp.nf.ng.g inp.starts inp.ends p ∧
          decodeWalkLayer (expandWalkInput inp).st a i = expandPath p)) := Iff.rfl

/-- **the hypothesis `hcap` cannot be dropped** (finding `C11-cyclic-node-mode-cap-from-edge-attribute`, replayed on the
real class): `s → a → t` with the self-loop `a → a`, node values `1, 2, 1`, `k = 1`, and the edge attribute `flow = 0`
on the self-loop. The node branch accepts the input and caps the copy `(a.1, a.0)` of the self-loop at `0`; its LP has no
satisfying assignment, whereas the LP of the edge-level class on the explicit expansion (cap `w_max = 2`) is satisfied by
the walk `s, a, a, t` with weight `1`. -/
theorem kfdc_node_mode_cap_from_edge_attribute_differs :
    ∃ lp, kfdcNodeLP NX.LoopCap.inp none = .ok lp ∧ (∀ a, ¬ Sat a lp) ∧
      Sat NX.LoopCap.asgX (kfdcLP (expandWalkInput NX.LoopCap.inp) none) ∧
      lp ≠ kfdcLP (expandWalkInput NX.LoopCap.inp) none ∧
      nxcCapOf lp ("a.1", "a.0") = some (some 0) ∧
      nxcCapOf (kfdcLP (expandWalkInput NX.LoopCap.inp) none) ("a.1", "a.0") = some (some 2) :=
  have ⟨cN, cX, _⟩ := NX.LoopCap.table.2.2.1
  ⟨_, NX.LoopCap.node_lp, NX.LoopCap.node_infeasible, NX.LoopCap.expansion_feasible,
    NX.ne_of_capOf cN cX (by decide), cN, cX⟩

/-- **the hypothesis `hzero` cannot be dropped**: the same graph with node values `1/2, 3/2, 1/2`, float weights and the
edge attribute `flow = 9` on the self-loop: the node branches of the two error classes cap the expanded edge of `a` at `9`,
the edge-level classes on the explicit expansion at `floor(3/2) = 1` (on the real classes: objective `0` in node mode — `s, a, a, a, t`
with weight `1/2` — against `1` / `1/2` on the explicit expansion). -/
theorem errc_node_mode_cap_from_edge_attribute_differs :
    errcNodeInternal NX.LoopCapErr.inp = .ok (nxcTranslated NX.LoopCapErr.inp NX.LoopCapErr.inp.nf.ng) ∧
    klaecLP (nxcTranslated NX.LoopCapErr.inp NX.LoopCapErr.inp.nf.ng) ≠ klaecLP (expandWalkInput NX.LoopCapErr.inp) ∧
    kmpecLP (nxcTranslated NX.LoopCapErr.inp NX.LoopCapErr.inp.nf.ng) ≠ kmpecLP (expandWalkInput NX.LoopCapErr.inp) ∧
    nxcCapOf (klaecLP (nxcTranslated NX.LoopCapErr.inp NX.LoopCapErr.inp.nf.ng)) ("a.0", "a.1") = some (some 9) ∧
    nxcCapOf (klaecLP (expandWalkInput NX.LoopCapErr.inp)) ("a.0", "a.1") = some (some 1) :=
  have ⟨_, lN, lX, mN, mX⟩ := NX.LoopCapErr.table
  ⟨NX.LoopCapErr.node_internal, NX.ne_of_capOf lN lX (by decide), NX.ne_of_capOf mN mX (by decide), lN, lX⟩

/-! The examples below are on `NX.CycExample`: `s → a ⇄ b → t` with the self-loop `a → a`. -/

open NX.CycExample in
/-- the expansion of the self-loop `a → a` is `a.1 → a.0`, an edge inside an SCC of the augmented expansion -/
example : edgeEdge ("a", "a") = ("a.1", "a.0") ∧ ("a.1", "a.0") ∈ (expandGraph g).edges ∧
    isSccEdge (expandWalkInput exKfdc).st.g ("a.1", "a.0") = true := selfloop_copy

open NX.CycExample in
/-- the hypotheses of `node_mode_is_edge_mode_on_expansion_kfdc` are satisfiable with original edges that carry the
attribute (`7` on `(s, a)`, whose copy is outside every SCC; `w_max = 6` on the self-loop), an ignored node, a node
without the attribute, an edge-form constraint on the self-loop, additional start / end and given weights -/
example : ∃ lp, kfdcNodeLP exKfdc (some [1]) = .ok lp ∧ lp = kfdcLP (expandWalkInput exKfdc) (some [1]) := by
  obtain ⟨lp, h⟩ := exists_ok_of_toBool exKfdc_accepted
  exact ⟨lp, h, node_mode_is_edge_mode_on_expansion_kfdc exKfdc (some [1]) lp g_closed exKfdc_hef exKfdc_hcap h⟩

open NX.CycExample in
/-- the two input records of the example above really differ (ignore list, copied values, translated constraint with a duplicate) -/
example : (nxcTranslated exKfdc exKfdc.nf.ng).ignore ≠ (expandWalkInput exKfdc).ignore ∧
    (nxcTranslated exKfdc exKfdc.nf.ng).flow.length = 5 ∧ (expandWalkInput exKfdc).flow.length = 3 ∧
    (expandWalkInput exKfdc).cfg.constraints = [[("a.0", "a.1"), ("a.1", "a.0"), ("a.0", "a.1")]] ∧
    (expandWalkInput exKfdc).starts = ["a.0"] ∧ (expandWalkInput exKfdc).ends = ["b.1"] := by decide +kernel

open NX.CycExample in
example : ∃ lp, klaecNodeLP exErrc = .ok lp ∧ lp = klaecLP (expandWalkInput exErrc) := by
  obtain ⟨lp, h⟩ := exists_ok_of_toBool exErrc_klaec_accepted
  exact ⟨lp, h, node_mode_is_edge_mode_on_expansion_klaec exErrc lp g_closed exErrc_hef exErrc_hzero h⟩

open NX.CycExample in
example : ∃ lp, kmpecNodeLP exErrc = .ok lp ∧ lp = kmpecLP (expandWalkInput exErrc) := by
  obtain ⟨lp, h⟩ := exists_ok_of_toBool exErrc_kmpec_accepted
  exact ⟨lp, h, node_mode_is_edge_mode_on_expansion_kmpec exErrc lp g_closed exErrc_hef exErrc_hzero h⟩

open NX.CycExample in
example : ∃ lp, kcovercNodeLP exErrc = .ok lp ∧ lp = kcovercLP (expandWalkCoverInput exErrc) := by
  obtain ⟨lp, h⟩ := exists_ok_of_toBool exErrc_kcoverc_accepted
  exact ⟨lp, h, node_mode_is_edge_mode_on_expansion_kcoverc exErrc lp g_closed h⟩

open NX.CycExample in
/-- the error-class record: scaling on the node copies, the zero-scaled node `s` ends up ignored -/
example : (expandWalkInput exErrc).scaling = [(("a.0", "a.1"), 1/2), (("s.0", "s.1"), 0)] ∧
    (expandWalkInput exErrc).activeEdges true = [("a.0", "a.1")] ∧
    (expandWalkInput exErrc).activeEdges false = [("s.0", "s.1"), ("a.0", "a.1")] := by decide +kernel

/-- the 2-cycle `a ⇄ b` alone: no node without in-edges, no node without out-edges; an end is declared, no start -/
def exNoSource : NodeModeInput :=
  { nf := { ng := { g := { nodes := ["a", "b"], edges := [("a", "b"), ("b", "a")] }, nodeFlow := [("a", 1), ("b", 1)] },
            k := 1 }, ends := ["b"] }

open NX.CycExample in
/-- rejected inputs: unknown start, no source (every node has an in-edge and no start is declared; accepted once a
start is declared), `k = 0`, more given
weights than `k`, every valued node ignored -/
example : (kfdcNodeLP { exKfdc with starts := ["nosuch"] } none).toBool = false ∧
    (kfdcNodeLP exNoSource none).toBool = false ∧
    (kfdcNodeLP { exNoSource with starts := ["a"] } none).toBool = true ∧
    (kfdcNodeLP { exKfdc with nf := { exKfdc.nf with k := 0 } } none).toBool = false ∧
    (kfdcNodeLP exKfdc (some [1, 1, 1])).toBool = false ∧
    (kfdcNodeLP { exKfdc with nf := { exKfdc.nf with ignoreNodes := ["s", "a", "b"] } } none).toBool = false := by
  decide +kernel

end FP.Props.C11
