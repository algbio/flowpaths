import FP.Proofs.KFDCScaleWitness
import FP.Proofs.KFDCRangeWitness
import FP.Proofs.KFDCRangeInt
import FP.Proofs.KFDCRangeRat
import FP.Proofs.Search
/-!
# C04 — MinFlowDecompCycles finds a decomposition into the fewest walks

Objects (all mirrored from the code and tied to it by the harness):
`kfdcLP inp given` — the MILP of `kFlowDecompCycles.__init__` for the user's digraph `inp.base` with flow
`inp.f`, `k = inp.k` layers, safety optimisations off (LP-dump equality with the real constructor);
`kfdcCap inp e` — `edge_upper_bounds[e]`: inside an SCC the floor of the edge's own flow value, or of `w_max`
without the attribute (`math.floor`, fix fcfd0b0, so always an integer: `kfdc_cap_int`), `1` outside SCCs;
`decodeWalkLayer` — `get_solution_walks` (C14/C01);
`stopSearchTimed` — the k-loop of `MinFlowDecompCycles.solve` (C13), which runs over
`range(lower bound, |E(G)| + len(subset_constraints) + 1)` (fix 26b11a1).

The k-model is sound (`kfdc_exact`) and complete (`kfdc_complete`, `kfdc_complete_walks`). The caps exclude no
decomposition with weights `≥ 1` (`cap_adequate_floor`, `nonScc_once`, `within_of_int`) but are not scale invariant
(`scale_law_counterexample`). The search returns the least feasible `k` (`mfdc_search_minimal`, `mfdc_search_finds`,
`mfdc_min_walks`, `mfdc_minimum_int`). The search range: `k ≤ |E|` misses the minimum once there are subset
constraints (`search_range_counterexample`); it is adequate for plain integer instances (`search_range_adequate`) and
for float weights (`search_range_adequate_float`), and `k ≤ |E| + #constraints` is adequate with subset constraints
(`search_range_adequate_constraints`, `search_range_adequate_constraints_float`): at most `|E|` walks for the flow
plus one covering walk of weight `0` per constraint. `mfdc_search_complete_*` put range and search together.

Not covered by the range theorems (open, not refuted): integer weights together with ignored edges, additional
starts/ends (node mode) or edges without the attribute; float weights when all non-ignored flow values
are below `1` (there the product blocks get too few bits for `kfdc_complete`, and the caps make most such
instances unsatisfiable anyway, see `scale_law_counterexample`); `allow_empty_walks` together with subset
constraints.
Not modelled: `stDiGraph.get_width` / the min-gen-set bound as valid lower bounds (hypothesis `hlo`;
brute-force oracle).
-/
namespace FP.Props.C04
open FP FP.Spec FP.Search

/-- The product helper as the walk models call it (`ub = w_max = k·max flow`, fractional for float data):
`p = n·c` whatever the number of bits. -/
theorem intProdQ_sound (a : Asg) (n c p : Var) (lb ub : Rat) (name : String)
    (hc : lb ≤ a c ∧ a c ≤ ub) (h : Sat a (intProdQ n c p lb ub name)) : a p = a n * a c :=
  FP.intProdQ_sound a n c p lb ub name hc h

/-- the repetition cap of an edge of the augmented graph: inside an SCC the floor of the edge's own flow
value (`w_max` without the attribute), `1` outside -/
theorem kfdc_cap (inp : WalkInput) (e : Edge) (he : e ∈ inp.st.g.edges) :
    kfdcCap inp e = if isSccEdge inp.st.g e
      then ((((inp.fOpt e).getD (inp.wmax false)).floor : Int) : Rat) else 1 :=
  FP.kfdcCap_eq he

theorem kfdc_cap_int (inp : WalkInput) (e : Edge) : ∃ z : Int, kfdcCap inp e = (z : Rat) :=
  FP.lookupD_capBounds_int _ _ e

/-- For every satisfying assignment of the `kFlowDecompCycles` LP (with or without given
weights) on a well-formed user digraph: the weights lie in `[0, w_max]` (integral for
`weight_type=int`); in every layer the traversal counts of the decoded walk (synthetic endpoints put
back) are the layer's edge variables, natural numbers within the caps; and the decoded walks with the
weight variables explain the flow of every non-ignored edge exactly:
`Σ_i w_i · traversals(source :: walk_i ++ [sink], e) = f e`. -/
theorem kfdc_exact (inp : WalkInput) (given : Option (List Rat)) (a : Asg)
    (h : BaseWF inp.base) (hsat : Sat a (kfdcLP inp given)) :
    (∀ i, i < inp.k → 0 ≤ a (weightsVar i) ∧ a (weightsVar i) ≤ inp.wmax false ∧
        (inp.weightInt = true → ∃ z : Int, a (weightsVar i) = z)) ∧
    (∀ i, i < inp.k → ∀ e ∈ inp.st.g.edges,
        traversals (inp.st.source :: decodeWalkLayer inp.st a i ++ [inp.st.sink]) e = multOf a i e ∧
        a (edgeVar e i) = (multOf a i e : Rat) ∧ (multOf a i e : Rat) ≤ kfdcCap inp e) ∧
    IsWalkDecomp inp.st.source inp.st.sink (inp.activeEdges false) inp.f inp.k
      (decodeWalkLayer inp.st a) (fun i => a (weightsVar i)) :=
  FP.kfdc_exact inp given a h hsat

/-- with given weights the first `|ws|` weight variables are the given numbers -/
theorem kfdc_given_weights (inp : WalkInput) (ws : List Rat) (a : Asg)
    (hsat : Sat a (kfdcLP inp (some ws))) (i : Nat) (hi : i < ws.length) :
    a (weightsVar i) = ws.getD i 0 := by
  rw [kfdcLP_some] at hsat
  have hrow := (sat_append_right hsat).2 (rowEq [(1, weightsVar i)] (ws.getD i 0))
    (List.mem_map.2 ⟨i, List.mem_range.2 hi, rfl⟩)
  rwa [rowEq_holds, evalTerms_single, Rat.one_mul] at hrow

/-- Multiplicities `m i e`, weights `w i` and connectivity witnesses `sel`, `dist` with
(`KfdcDecomp`): per layer conservation, unit out-flow of the source, caps, witnesses; weights in
`[0, w_max]`; multiplicities at most `w_max`; `Σ_i w_i·m_i(e) = f e` on the non-ignored edges; subset
constraints covered — extend to the satisfying assignment `kfdcAsg` of the whole LP (all auxiliary
columns included), which carries exactly these multiplicities and weights. `NameInj`: the product
blocks have pairwise different names (the model identifies a column with its name). -/
theorem kfdc_complete (inp : WalkInput) (m : Nat → Edge → Nat) (w : Nat → Rat)
    (sel : Nat → Edge → Bool) (dist : Nat → Node → Nat)
    (hwf : STWFc inp.st) (hsrc : inp.st.source ∈ inp.st.g.nodes) (hinj : NameInj inp)
    (h : KfdcDecomp inp m w sel dist) :
    Sat (kfdcAsg inp m w sel dist) (kfdcLP inp none) ∧
    (∀ i e, kfdcAsg inp m w sel dist (edgeVar e i) = (m i e : Rat)) ∧
    (∀ i, kfdcAsg inp m w sel dist (weightsVar i) = w i) :=
  ⟨kfdcAsg_sat inp m w sel dist hwf hinj h, (kfdcAsg_core inp m w sel dist).edge, kfdcAsg_weights inp m w sel dist⟩

/-- Every walk admits connectivity witnesses: for a source-to-sink walk of a well-formed s-t
digraph, its traversal counts with the first-entry edges (`walkSel`) and first-visit ranks
(`walkDist`, at most `|V|`) satisfy everything rows 17a, 17b, 21, 22a, 22b, 18a, 19c ask for. -/
theorem walk_has_conn_witness (s : STGraph) (hwf : STWFc s) (ae : Bool) (ub : Edge → Rat) (p : List Node)
    (hW : IsWalkIn s.g (s.source :: p ++ [s.sink]))
    (hcap : ∀ e ∈ s.g.edges, (traversals (s.source :: p ++ [s.sink]) e : Rat) ≤ ub e) :
    LayerWitness s ae ub (traversals (s.source :: p ++ [s.sink]))
      (walkSel (s.source :: p ++ [s.sink])) (walkDist s.g.nodes (s.source :: p ++ [s.sink])) :=
  FP.walk_layer_witness s hwf ae ub hW hcap

/-- `k ≥ 1` weighted walks of the augmented graph that decompose the flow, stay within
the caps and have weights in `[0, w_max]` (`WalkDecompWithin`) are represented by a satisfying
assignment: the decoded multiplicities are the walks' traversal counts, the weight variables the given
weights. -/
theorem kfdc_complete_walks (inp : WalkInput) (walk : Nat → List Node) (w : Nat → Rat)
    (hb : BaseWF inp.base) (hk : 0 < inp.k) (hinj : NameInj inp)
    (h : WalkDecompWithin inp walk w) :
    ∃ a : Asg, Sat a (kfdcLP inp none) ∧
      (∀ i e, multOf a i e = traversals (inp.st.source :: walk i ++ [inp.st.sink]) e) ∧
      (∀ i, a (weightsVar i) = w i) :=
  ⟨_, kfdcWalkAsg_sat inp walk w hb hinj h, fun i e => multOf_of_eq _ i e _ ((kfdcAsg_core inp _ w _ _).edge i e),
    kfdcAsg_weights inp _ w _ _⟩

/-- the boolean evaluation used by the driver op `kfdc.witness` is sound for `Sat` -/
theorem satCheck_sound (a : Asg) (lp : LP) (h : satCheck a lp = true) : Sat a lp :=
  FP.satCheck_sound a lp h

/-- In a decomposition with non-negative weights, a walk of weight at least `1` (any positive integer) runs
through `e` at most `f e` times. -/
theorem cap_adequate_int (k : Nat) (m : Nat → Edge → Nat) (w : Nat → Rat) (fe : Rat) (e : Edge)
    (hw0 : ∀ j, j < k → 0 ≤ w j) (hdec : explainedM k m w e = fe)
    (i : Nat) (hi : i < k) (hw : 1 ≤ w i) : (m i e : Rat) ≤ fe :=
  FP.cap_adequate_int k m w fe e hw0 hdec i hi hw

/-- In a decomposition with non-negative weights, a walk of weight at least `1` runs through `e` at most
`floor(f e)` times, the count being a natural number: the cap `edge_upper_bounds[e] = floor(f e)` excludes no
decomposition with weights `≥ 1`, in particular no integer-weighted one. -/
theorem cap_adequate_floor (k : Nat) (m : Nat → Edge → Nat) (w : Nat → Rat) (fe : Rat) (e : Edge)
    (hw0 : ∀ j, j < k → 0 ≤ w j) (hdec : explainedM k m w e = fe)
    (i : Nat) (hi : i < k) (hw : 1 ≤ w i) : (m i e : Rat) ≤ ((fe.floor : Int) : Rat) :=
  FP.cap_adequate_floor k m w fe e hw0 hdec i hi hw

/-- `cap_adequate_int` with a minimum weight `δ > 0`: at most `f e / δ` traversals (the bound behind the proposed
repair `cap e = ⌈f e / δ⌉` with `δ` the smallest weight a walk may have) -/
theorem cap_adequate_min_weight (k : Nat) (m : Nat → Edge → Nat) (w : Nat → Rat) (fe δ : Rat) (e : Edge)
    (hw0 : ∀ j, j < k → 0 ≤ w j) (hdec : explainedM k m w e = fe)
    (i : Nat) (hi : i < k) (hw : δ ≤ w i) : δ * (m i e : Rat) ≤ fe :=
  FP.cap_adequate_min_weight k m w fe δ e hw0 hdec i hi hw

/-- A walk runs through an edge outside the SCCs at most once — with `isSccEdge` as the code
computes it (`stDiGraph.is_scc_edge`, modelled by iterated closure): the cap `1` of these edges excludes
nothing -/
theorem nonScc_once (g : Graph) (hcl : ∀ e ∈ g.edges, e.1 ∈ g.nodes ∧ e.2 ∈ g.nodes)
    (L : List Node) (hW : IsWalkIn g L) (e : Edge) (he : e ∈ g.edges) (hscc : isSccEdge g e = false) :
    traversals L e ≤ 1 :=
  FP.nonScc_once g hcl L hW e he hscc

/-- on a plain flow instance (nothing ignored, every edge of the user's graph carries its flow value)
every SCC edge is a non-ignored edge whose cap is the floor of its own flow value (`CapsAreFlows`);
the synthetic edges are never SCC edges -/
theorem caps_are_flows (inp : WalkInput) (hb : BaseWF inp.base) (hign : inp.ignore = [])
    (hattr : ∀ e ∈ inp.base.edges, ∃ q, inp.fOpt e = some q) : CapsAreFlows inp :=
  FP.caps_are_flows inp hb hign hattr

/-- The caps exclude no decomposition with weights `≥ 1`: walks of the augmented graph with weights in
`[1, w_max]` decomposing a flow with values at most `w_max` are within all caps (`cap_adequate_floor` on SCC edges,
`nonScc_once` on the others), hence representable by the k-model (`kfdc_complete_walks`) -/
theorem within_of_int (inp : WalkInput) (walk : Nat → List Node) (w : Nat → Rat)
    (hb : BaseWF inp.base) (hcaps : CapsAreFlows inp)
    (hwalk : ∀ i, i < inp.k → IsWalkIn inp.st.g (inp.st.source :: walk i ++ [inp.st.sink]))
    (hw : ∀ i, i < inp.k → 1 ≤ w i ∧ w i ≤ inp.wmax false ∧ (inp.weightInt = true → ∃ z : Int, w i = z))
    (hflow : ∀ e ∈ inp.activeEdges false, inp.f e ≤ inp.wmax false)
    (hdec : IsWalkDecomp inp.st.source inp.st.sink (inp.activeEdges false) inp.f inp.k walk w)
    (hcov : ∀ j (hj : j < inp.cfg.constraints.length), ∃ i, i < inp.k ∧
      coversB (multsOf inp.st.source inp.st.sink walk i) inp.cfg.constraints[j] inp.cfg.coverage = true) :
    WalkDecompWithin inp walk w :=
  FP.within_of_int inp walk w hb hcaps hwalk hw hflow hdec hcov

/-- `s → a → t` with a self-loop at `a`, float weights. With all flows `1` the LP for `k = 1`
has a satisfying assignment; with all flows `1/2` — the same instance scaled by `1/2` — the LP has no
satisfying assignment for *any* `k`, although the walk `s, a, a, t` with weight `1/2` decomposes the
scaled flow. (The real `MinFlowDecompCycles` returns `True` / `False` on the two inputs.) -/
theorem scale_law_counterexample :
    (∃ a : Asg, Sat a (kfdcLP (ScaleWitness.inp 1 1) none)) ∧
    (∀ (k : Nat) (a : Asg), ¬ Sat a (kfdcLP (ScaleWitness.inp (1/2) k) none)) ∧
    IsWalkDecomp "source" "sink" ((ScaleWitness.inp (1/2) 1).activeEdges false)
      (ScaleWitness.inp (1/2) 1).f 1 (fun _ => ["s", "a", "a", "t"]) (fun _ => 1/2) :=
  ⟨⟨_, ScaleWitness.loop_unscaled_feasible⟩, ScaleWitness.loop_scaled_infeasible,
    ScaleWitness.loop_scaled_decomposition⟩

/-- the column bound that the intended solution of the scaled instance violates: the loop's cap is the
floor of its flow value `c` — `1` on the unscaled instance,
`floor(1/2) = 0` on the scaled one —, the walk runs through the loop once -/
theorem scale_law_cap_violated :
    (∀ (c : Rat) (k : Nat), kfdcCap (ScaleWitness.inp c k) ("a", "a") = ((c.floor : Int) : Rat)) ∧
    kfdcCap (ScaleWitness.inp 1 1) ("a", "a") = 1 ∧
    kfdcCap (ScaleWitness.inp (1/2) 1) ("a", "a") = 0 ∧
    kfdcCap (ScaleWitness.inp (1/2) 1) ("a", "a")
      < (traversals ["source", "s", "a", "a", "t", "sink"] ("a", "a") : Rat) :=
  ⟨ScaleWitness.loop_cap, by rw [ScaleWitness.loop_cap]; decide +kernel, ScaleWitness.loop_cap_half 1,
    ScaleWitness.loop_scaled_cap_violated⟩

/-- `FaithfulC`: the solver says `kOptimal` only for satisfiable k-models and
`kInfeasible` only for unsatisfiable ones. With a valid lower bound (`hlo`) the `k` returned by the
timed search machine is the least `k` whose k-model is satisfiable. -/
theorem mfdc_search_minimal (inp : WalkInput) (σ : Nat → Status) (late : Nat → Bool)
    (lo hi k : Nat) (hσ : FaithfulC inp σ) (hlo : ∀ j, j < lo → ¬ KfdcFeasible inp j)
    (h : (stopSearchTimed σ late lo hi).solved = some k) :
    KfdcFeasible inp k ∧ (∀ j, j < k → ¬ KfdcFeasible inp j) ∧ lo ≤ k ∧ k < hi ∧ late k = false :=
  timedSearch_minimal (KfdcFeasible inp) σ late lo hi k hσ hlo h

/-- If the least satisfiable k-model lies in the searched range and the solver is
conclusive and in time up to it, the search returns it. -/
theorem mfdc_search_finds (inp : WalkInput) (σ : Nat → Status) (late : Nat → Bool)
    (lo hi k : Nat) (hσ : FaithfulC inp σ) (h1 : lo ≤ k) (h2 : k < hi)
    (hk : KfdcFeasible inp k) (hmin : ∀ j, j < k → ¬ KfdcFeasible inp j)
    (hconcl : ∀ j, lo ≤ j → j ≤ k → σ j ≠ .other ∧ late j = false) :
    (stopSearchTimed σ late lo hi).solved = some k :=
  timedSearch_finds (KfdcFeasible inp) σ late lo hi k hσ h1 h2 hk hmin hconcl

/-- The returned `k` comes with `k` walks and weights (integral for
`weight_type=int`) that decompose the flow on every non-ignored edge, and no family of fewer walks that
stays within the caps and `w_max` decomposes it. By `cap_adequate_int` the caps exclude nothing for
positive integer weights on SCC edges. -/
theorem mfdc_min_walks (inp : WalkInput) (σ : Nat → Status) (late : Nat → Bool) (lo hi k : Nat)
    (hb : BaseWF inp.base) (hσ : FaithfulC inp σ) (hlo : ∀ j, j < lo → ¬ KfdcFeasible inp j)
    (h : (stopSearchTimed σ late lo hi).solved = some k) :
    (∃ (walk : Nat → List Node) (w : Nat → Rat),
      IsWalkDecomp inp.st.source inp.st.sink (inp.activeEdges false) inp.f k walk w ∧
      (∀ i, i < k → 0 ≤ w i ∧ (inp.weightInt = true → ∃ z : Int, w i = z))) ∧
    (∀ j, 0 < j → j < k → NameInj (inp.withK j) →
      ∀ walk w, ¬ WalkDecompWithin (inp.withK j) walk w) := by
  obtain ⟨⟨a, ha⟩, hmin, _⟩ := mfdc_search_minimal inp σ late lo hi k hσ hlo h
  -- the decoded walks; they may have weight zero
  obtain ⟨hw, _, hdec⟩ := FP.kfdc_exact (inp.withK k) none a hb ha
  refine ⟨⟨decodeWalkLayer inp.st a, fun i => a (weightsVar i), hdec, fun i hi => ⟨(hw i hi).1, (hw i hi).2.2⟩⟩, ?_⟩
  intro j _ hjk hinj walk w hd
  exact hmin j hjk (feasible_of_walks inp j walk w hb hinj hd)

/-- Minimality for positive integer weights: with a faithful status script and a valid lower
bound, the returned `k` is at most the number `j` of walks of *any* family of source-to-sink walks with
weights `≥ 1` (integral for `weight_type=int`) that decomposes the flow and covers the subset
constraints. Side conditions on `j`: product blocks with distinct names, weights and flow values at most
`w_max = j·max flow` (true for positive integer flows), caps = floored flow values (`caps_are_flows`). -/
theorem mfdc_minimum_int (inp : WalkInput) (σ : Nat → Status) (late : Nat → Bool) (lo hi k : Nat)
    (hb : BaseWF inp.base) (hcaps : ∀ j, CapsAreFlows (inp.withK j)) (hσ : FaithfulC inp σ)
    (hlo : ∀ j, j < lo → ¬ KfdcFeasible inp j)
    (h : (stopSearchTimed σ late lo hi).solved = some k)
    (j : Nat) (hj0 : 0 < j) (hinj : NameInj (inp.withK j))
    (walk : Nat → List Node) (w : Nat → Rat)
    (hwalk : ∀ i, i < j → IsWalkIn inp.st.g (inp.st.source :: walk i ++ [inp.st.sink]))
    (hw : ∀ i, i < j → 1 ≤ w i ∧ w i ≤ (inp.withK j).wmax false ∧
      (inp.weightInt = true → ∃ z : Int, w i = z))
    (hflow : ∀ e ∈ inp.activeEdges false, inp.f e ≤ (inp.withK j).wmax false)
    (hdec : IsWalkDecomp inp.st.source inp.st.sink (inp.activeEdges false) inp.f j walk w)
    (hcov : ∀ c (hc : c < inp.cfg.constraints.length), ∃ i, i < j ∧
      coversB (multsOf inp.st.source inp.st.sink walk i) inp.cfg.constraints[c] inp.cfg.coverage = true) :
    k ≤ j := by
  obtain ⟨_, hmin, _⟩ := mfdc_search_minimal inp σ late lo hi k hσ hlo h
  exact Nat.le_of_not_lt fun hlt => hmin j hlt (feasible_of_walks inp j walk w hb hinj
    (within_of_int (inp.withK j) walk w hb (hcaps j) hwalk hw hflow hdec hcov))

/-! ## the search range

The three theorems on `RangeWitness.inp` below show why the loop of `MinFlowDecompCycles.solve` cannot stop at
`|E|`: with subset constraints `range(lower bound, |E| + 1)` misses the minimum. -/

/-- The range `k ≤ |E|` contains the minimum on *every* input: whenever some k-model is satisfiable, one with at
most `|E(G)|` layers is. False: `search_range_not_adequate`. -/
def search_range_adequate_FullStatement : Prop :=
  ∀ (inp : WalkInput) (k : Nat), BaseWF inp.base → KfdcFeasible inp k →
    ∃ j, j ≤ inp.base.edges.length ∧ KfdcFeasible inp j

/-- Two sources `s0, s1`, a hub `m`, three sinks `t0, t1, t2`, the five edges
`s_a → m` (flow 3) and `m → t_b` (flow 2), `weight_type = int`, and the six subset constraints
`{(s_a, m), (m, t_b)}`: the k-model is satisfiable for `k = 6` (the six paths with weight 1) and for no
`k ≤ 5 = |E|` — a walk is one of the six paths and covers one constraint. A loop of `solve()` ending at
`k = |E| = 5` answers `False` although six weighted walks decompose the flow and cover every constraint. -/
theorem search_range_counterexample :
    BaseWF RangeWitness.inp.base ∧ RangeWitness.inp.base.edges.length = 5 ∧
    KfdcFeasible RangeWitness.inp 6 ∧
    (∀ j, j ≤ RangeWitness.inp.base.edges.length → ¬ KfdcFeasible RangeWitness.inp j) :=
  ⟨RangeWitness.base_wf, rfl, RangeWitness.feasible6, fun j hj => RangeWitness.infeasible_le5 j hj⟩

/-- With subset constraints the range `k ≤ |E|` can miss the minimum. -/
theorem search_range_not_adequate : ¬ search_range_adequate_FullStatement := by
  intro h
  obtain ⟨j, hj, hf⟩ := h RangeWitness.inp 6 RangeWitness.base_wf RangeWitness.feasible6
  exact RangeWitness.infeasible_le5 j hj hf

/-- Over the range `lo … |E| + #constraints` (here `hi = 5 + 6 + 1`) the search machine returns `6` on the
witness for every faithful status script that is conclusive and in time on `lo … 6` — the real `solve()`
answers `True` with six walks. -/
theorem search_range_witness_solved (σ : Nat → Status) (late : Nat → Bool) (lo : Nat)
    (hσ : FaithfulC RangeWitness.inp σ) (hlo : lo ≤ 6)
    (hconcl : ∀ i, lo ≤ i → i ≤ 6 → σ i ≠ .other ∧ late i = false) :
    (stopSearchTimed σ late lo
      (RangeWitness.inp.base.edges.length + RangeWitness.inp.cfg.constraints.length + 1)).solved = some 6 :=
  timedSearch_finds (KfdcFeasible RangeWitness.inp) σ late lo _ 6 hσ hlo (by decide) RangeWitness.feasible6
    (fun j hj => RangeWitness.infeasible_le5 j (by omega)) hconcl

/-- The combinatorial core of the range theorems. On the augmented graph of an input without additional starts/ends
(`Thin`), every family `F` of source-to-sink walks with positive integer weights, each through an edge of
the user's graph (`kfdcr_AWalk`), has the same weighted traversal counts `Σ weight · traversals` on
*every* edge of the augmented graph as a family `A` of at most `#edges of the user's graph` such walks
(the counts are an integral flow, hence a sum of at most that many paths and simple closed walks, the bottleneck of
each on an edge of the user's graph (`flow_pieces`); a closed walk is absorbed by a walk of weight 1 split off a walk
it meets). -/
theorem few_walks_suffice (s : STGraph) (hwf : STWFc s) (hth : Thin s) (F : List (List Node × Nat))
    (hF : ∀ d ∈ F, kfdcr_AWalk s d) :
    ∃ A : List (List Node × Nat), A.length ≤ (s.g.edges.filter (isInner s)).length ∧
      (∀ d ∈ A, kfdcr_AWalk s d) ∧ ∀ e ∈ s.g.edges, kfdcr_tot A e = kfdcr_tot F e :=
  FP.kfdcr_few_walks hwf hth F hF

/-- The classical statement on the level of walks (no LP involved). On a plain instance (edge
mode, nothing ignored) `k` source-to-sink walks of the augmented graph with natural weights that decompose
the flow on the edges of the user's graph can be replaced by `j ≤ |E(G)|` source-to-sink walks with
positive integer weights that decompose it. -/
theorem walks_at_most_edges (inp : WalkInput) (hb : BaseWF inp.base) (hst : inp.starts = [])
    (hen : inp.ends = []) (hign : inp.ignore = []) (k : Nat) (walk : Nat → List Node) (c : Nat → Nat)
    (hwalk : ∀ i, i < k → IsWalkIn inp.st.g (inp.st.source :: walk i ++ [inp.st.sink]))
    (hdec : IsWalkDecomp inp.st.source inp.st.sink (inp.activeEdges false) inp.f k walk (fun i => (c i : Rat))) :
    ∃ (j : Nat) (walk' : Nat → List Node) (n : Nat → Nat), j ≤ inp.base.edges.length ∧
      (∀ i, i < j → 1 ≤ n i ∧ IsWalkIn inp.st.g (inp.st.source :: walk' i ++ [inp.st.sink])) ∧
      IsWalkDecomp inp.st.source inp.st.sink (inp.activeEdges false) inp.f j walk' (fun i => (n i : Rat)) := by
  obtain ⟨A, hAle, hA, hflowA⟩ := kfdcr_decomp_few inp hb hst hen hign k walk c
    (fun i hi => Or.inl (hwalk i hi)) hdec
  obtain ⟨walk', n, h1, h2⟩ := kfdcr_family_decomp inp A hA hflowA
  exact ⟨A.length, walk', n, hAle, fun i hi => ⟨(h1 i hi).1, (h1 i hi).2.2.1⟩, h2⟩

/-- The range `k ≤ |E|` is adequate for plain integer instances.
`weight_type = int`, edge mode (no additional starts/ends), nothing ignored, every edge of the user's
graph carries the flow attribute, no subset constraints: whenever some k-model is satisfiable, one with
at most `|E(G)|` layers is. (`hinj`: the product blocks of the k-models up to `|E|` have distinct
names — the model identifies a column with its name.) -/
theorem search_range_adequate (inp : WalkInput) (k : Nat) (hb : BaseWF inp.base)
    (hst : inp.starts = []) (hen : inp.ends = []) (hign : inp.ignore = [])
    (hint : inp.weightInt = true) (hcons : inp.cfg.constraints = [])
    (hattr : ∀ e ∈ inp.base.edges, ∃ q, inp.fOpt e = some q)
    (hinj : ∀ j, j ≤ inp.base.edges.length → NameInj (inp.withK j))
    (hf : KfdcFeasible inp k) :
    ∃ j, j ≤ inp.base.edges.length ∧ KfdcFeasible inp j :=
  FP.kfdcr_range_int inp hb hst hen hign hint (Or.inl hcons) hattr (Or.inr hcons) 0 (congrArg List.length hcons)
    hinj k hf

/-- Carathéodory's theorem for cones (the algebra behind the float case): a non-negative combination
of the vectors `vec i`, `i ∈ I`, agrees on the coordinates `Ea` with a non-negative combination of at most
`|Ea|` of them. -/
theorem caratheodory (Ea : List Edge) (vec : Nat → Edge → Rat) (I : List Nat) (w : Nat → Rat)
    (hnd : I.Nodup) (hw : ∀ i ∈ I, 0 ≤ w i) :
    ∃ (I' : List Nat) (w' : Nat → Rat), I'.Nodup ∧ (∀ i ∈ I', i ∈ I) ∧ I'.length ≤ Ea.length ∧
      (∀ i ∈ I', 0 ≤ w' i) ∧ ∀ e ∈ Ea, kfdcr_comb I' w' vec e = kfdcr_comb I w vec e :=
  FP.kfdcr_caratheodory Ea vec I w hnd hw

/-- The range `k ≤ |E|` is adequate for float weights. `weight_type = float`, every edge of the user's graph
carries the flow attribute (the caps then do not depend on `k`), no subset constraints, some non-ignored
flow value is at least `1` (so that `w_max ≥ 1` for every `k ≥ 1`; the scaled instance of
`scale_law_counterexample` is excluded by this); ignored edges and additional starts/ends are allowed: whenever some k-model is satisfiable, one
with at most `|E(G)|` layers is — the same walks, re-weighted by Carathéodory's theorem. -/
theorem search_range_adequate_float (inp : WalkInput) (k : Nat) (hb : BaseWF inp.base)
    (hfloat : inp.weightInt = false) (hcons : inp.cfg.constraints = [])
    (hattr : ∀ e ∈ inp.base.edges, ∃ q, inp.fOpt e = some q)
    (hM : ∃ e ∈ inp.activeEdges false, 1 ≤ inp.f e)
    (hinj : ∀ j, j ≤ inp.base.edges.length → NameInj (inp.withK j))
    (hf : KfdcFeasible inp k) :
    ∃ j, j ≤ inp.base.edges.length ∧ KfdcFeasible inp j :=
  FP.kfdcr_range_rat inp hb hfloat (Or.inl hcons) hattr hM 0 (congrArg List.length hcons) hinj k hf

/-- The range `k ≤ |E| + #constraints` is adequate (integer weights, subset constraints allowed).
`weight_type = int`, edge mode, nothing ignored, every edge with the flow attribute, no empty layers
(`allow_empty_walks` off, the default), constraint edges are edges of the graph, some flow value `≥ 1`:
whenever some k-model is satisfiable, one with at most `|E(G)| + #constraints` layers is — the flow is
re-decomposed into at most `|E|` walks (`walks_at_most_edges`), and for every constraint one walk of the
given solution that covers it is kept with weight `0` (it is within the caps because it comes from a
satisfying assignment). -/
theorem search_range_adequate_constraints (inp : WalkInput) (k : Nat) (hb : BaseWF inp.base)
    (hst : inp.starts = []) (hen : inp.ends = []) (hign : inp.ignore = [])
    (hint : inp.weightInt = true) (hae : inp.cfg.allowEmpty = false)
    (hedges : ∀ con ∈ inp.cfg.constraints, ∀ e ∈ con, e ∈ inp.st.g.edges)
    (hattr : ∀ e ∈ inp.base.edges, ∃ q, inp.fOpt e = some q)
    (hM : ∃ e ∈ inp.activeEdges false, 1 ≤ inp.f e)
    (hinj : ∀ j, j ≤ inp.base.edges.length + inp.cfg.constraints.length → NameInj (inp.withK j))
    (hf : KfdcFeasible inp k) :
    ∃ j, j ≤ inp.base.edges.length + inp.cfg.constraints.length ∧ KfdcFeasible inp j :=
  FP.kfdcr_range_int inp hb hst hen hign hint (Or.inr ⟨hae, hedges⟩) hattr (Or.inl hM) _ rfl hinj k hf

/-- The range `k ≤ |E| + #constraints` is adequate (float weights, subset constraints allowed): the selected
walks of `search_range_adequate_float` plus one covering walk of weight `0` per constraint. -/
theorem search_range_adequate_constraints_float (inp : WalkInput) (k : Nat) (hb : BaseWF inp.base)
    (hfloat : inp.weightInt = false) (hae : inp.cfg.allowEmpty = false)
    (hedges : ∀ con ∈ inp.cfg.constraints, ∀ e ∈ con, e ∈ inp.st.g.edges)
    (hattr : ∀ e ∈ inp.base.edges, ∃ q, inp.fOpt e = some q)
    (hM : ∃ e ∈ inp.activeEdges false, 1 ≤ inp.f e)
    (hinj : ∀ j, j ≤ inp.base.edges.length + inp.cfg.constraints.length → NameInj (inp.withK j))
    (hf : KfdcFeasible inp k) :
    ∃ j, j ≤ inp.base.edges.length + inp.cfg.constraints.length ∧ KfdcFeasible inp j :=
  FP.kfdcr_range_rat inp hb hfloat (Or.inr ⟨hae, hedges⟩) hattr hM _ rfl hinj k hf

/-- What a range guarantees. If *some* k-model with `j < hi` layers is satisfiable (for the real loop
`hi = |E| + #constraints + 1`), the lower bound is valid and the solver is conclusive and in
time up to `j`, then the search returns the least satisfiable `k` (and `k ≤ j`). -/
theorem search_range_adequate_of_bound (inp : WalkInput) (σ : Nat → Status) (late : Nat → Bool)
    (lo hi j : Nat) (hσ : FaithfulC inp σ) (hlo : ∀ i, i < lo → ¬ KfdcFeasible inp i)
    (hj : KfdcFeasible inp j) (hjhi : j < hi)
    (hconcl : ∀ i, lo ≤ i → i ≤ j → σ i ≠ .other ∧ late i = false) :
    ∃ k, (stopSearchTimed σ late lo hi).solved = some k ∧ k ≤ j ∧ KfdcFeasible inp k ∧
      ∀ i, i < k → ¬ KfdcFeasible inp i :=
  timedSearch_of_bound (KfdcFeasible inp) σ late lo hi j hσ hlo ⟨j, Nat.le_refl j, hj⟩ hjhi hconcl

/-- For plain integer instances the search finds the minimum whenever a decomposition exists.
If some k-model is satisfiable at all (any `k`, also beyond the range), the lower bound is valid and the
solver is conclusive and in time on `lo … |E|`, then the loop `for k in range(lo, |E| + 1)` returns the
least `k` whose k-model is satisfiable. -/
theorem mfdc_search_complete_plain (inp : WalkInput) (σ : Nat → Status) (late : Nat → Bool) (lo k : Nat)
    (hb : BaseWF inp.base) (hst : inp.starts = []) (hen : inp.ends = []) (hign : inp.ignore = [])
    (hint : inp.weightInt = true) (hcons : inp.cfg.constraints = [])
    (hattr : ∀ e ∈ inp.base.edges, ∃ q, inp.fOpt e = some q)
    (hinj : ∀ j, j ≤ inp.base.edges.length → NameInj (inp.withK j))
    (hσ : FaithfulC inp σ) (hlo : ∀ i, i < lo → ¬ KfdcFeasible inp i)
    (hf : KfdcFeasible inp k)
    (hconcl : ∀ i, lo ≤ i → i ≤ inp.base.edges.length → σ i ≠ .other ∧ late i = false) :
    ∃ k', (stopSearchTimed σ late lo (inp.base.edges.length + 1)).solved = some k' ∧
      k' ≤ inp.base.edges.length ∧ KfdcFeasible inp k' ∧ ∀ i, i < k' → ¬ KfdcFeasible inp i :=
  timedSearch_of_bound (KfdcFeasible inp) σ late lo _ _ hσ hlo
    (search_range_adequate inp k hb hst hen hign hint hcons hattr hinj hf) (Nat.lt_succ_self _) hconcl

/-- `mfdc_search_complete_plain` for float weights -/
theorem mfdc_search_complete_float (inp : WalkInput) (σ : Nat → Status) (late : Nat → Bool) (lo k : Nat)
    (hb : BaseWF inp.base) (hfloat : inp.weightInt = false) (hcons : inp.cfg.constraints = [])
    (hattr : ∀ e ∈ inp.base.edges, ∃ q, inp.fOpt e = some q)
    (hM : ∃ e ∈ inp.activeEdges false, 1 ≤ inp.f e)
    (hinj : ∀ j, j ≤ inp.base.edges.length → NameInj (inp.withK j))
    (hσ : FaithfulC inp σ) (hlo : ∀ i, i < lo → ¬ KfdcFeasible inp i)
    (hf : KfdcFeasible inp k)
    (hconcl : ∀ i, lo ≤ i → i ≤ inp.base.edges.length → σ i ≠ .other ∧ late i = false) :
    ∃ k', (stopSearchTimed σ late lo (inp.base.edges.length + 1)).solved = some k' ∧
      k' ≤ inp.base.edges.length ∧ KfdcFeasible inp k' ∧ ∀ i, i < k' → ¬ KfdcFeasible inp i :=
  timedSearch_of_bound (KfdcFeasible inp) σ late lo _ _ hσ hlo
    (search_range_adequate_float inp k hb hfloat hcons hattr hM hinj hf) (Nat.lt_succ_self _) hconcl

/-- With subset constraints (integer weights) the search over `lo … |E| + #constraints` finds the minimum
whenever a decomposition covering the constraints exists. -/
theorem mfdc_search_complete_constraints (inp : WalkInput) (σ : Nat → Status) (late : Nat → Bool) (lo k : Nat)
    (hb : BaseWF inp.base) (hst : inp.starts = []) (hen : inp.ends = []) (hign : inp.ignore = [])
    (hint : inp.weightInt = true) (hae : inp.cfg.allowEmpty = false)
    (hedges : ∀ con ∈ inp.cfg.constraints, ∀ e ∈ con, e ∈ inp.st.g.edges)
    (hattr : ∀ e ∈ inp.base.edges, ∃ q, inp.fOpt e = some q)
    (hM : ∃ e ∈ inp.activeEdges false, 1 ≤ inp.f e)
    (hinj : ∀ j, j ≤ inp.base.edges.length + inp.cfg.constraints.length → NameInj (inp.withK j))
    (hσ : FaithfulC inp σ) (hlo : ∀ i, i < lo → ¬ KfdcFeasible inp i)
    (hf : KfdcFeasible inp k)
    (hconcl : ∀ i, lo ≤ i → i ≤ inp.base.edges.length + inp.cfg.constraints.length →
      σ i ≠ .other ∧ late i = false) :
    ∃ k', (stopSearchTimed σ late lo (inp.base.edges.length + inp.cfg.constraints.length + 1)).solved = some k' ∧
      k' ≤ inp.base.edges.length + inp.cfg.constraints.length ∧ KfdcFeasible inp k' ∧
      ∀ i, i < k' → ¬ KfdcFeasible inp i :=
  timedSearch_of_bound (KfdcFeasible inp) σ late lo _ _ hσ hlo
    (search_range_adequate_constraints inp k hb hst hen hign hint hae hedges hattr hM hinj hf) (Nat.lt_succ_self _)
    hconcl

/-- `mfdc_search_complete_constraints` for float weights -/
theorem mfdc_search_complete_constraints_float (inp : WalkInput) (σ : Nat → Status) (late : Nat → Bool)
    (lo k : Nat) (hb : BaseWF inp.base) (hfloat : inp.weightInt = false) (hae : inp.cfg.allowEmpty = false)
    (hedges : ∀ con ∈ inp.cfg.constraints, ∀ e ∈ con, e ∈ inp.st.g.edges)
    (hattr : ∀ e ∈ inp.base.edges, ∃ q, inp.fOpt e = some q)
    (hM : ∃ e ∈ inp.activeEdges false, 1 ≤ inp.f e)
    (hinj : ∀ j, j ≤ inp.base.edges.length + inp.cfg.constraints.length → NameInj (inp.withK j))
    (hσ : FaithfulC inp σ) (hlo : ∀ i, i < lo → ¬ KfdcFeasible inp i)
    (hf : KfdcFeasible inp k)
    (hconcl : ∀ i, lo ≤ i → i ≤ inp.base.edges.length + inp.cfg.constraints.length →
      σ i ≠ .other ∧ late i = false) :
    ∃ k', (stopSearchTimed σ late lo (inp.base.edges.length + inp.cfg.constraints.length + 1)).solved = some k' ∧
      k' ≤ inp.base.edges.length + inp.cfg.constraints.length ∧ KfdcFeasible inp k' ∧
      ∀ i, i < k' → ¬ KfdcFeasible inp i :=
  timedSearch_of_bound (KfdcFeasible inp) σ late lo _ _ hσ hlo
    (search_range_adequate_constraints_float inp k hb hfloat hae hedges hattr hM hinj hf) (Nat.lt_succ_self _) hconcl

/-- `kfdc_exact` applies to a concrete satisfying assignment: flows `(1, 1, 1)` on the self-loop graph, `k = 1` -/
example := kfdc_exact (ScaleWitness.inp 1 1) none ScaleWitness.asg1 WalkCoreExample.base_wf
  ScaleWitness.loop_unscaled_feasible

/-- that assignment decodes to the walk `s, a, a, t` -/
example : decodeWalkLayer (ScaleWitness.inp 1 1).st ScaleWitness.asg1 0 = ["s", "a", "a", "t"] := by
  decide +kernel

/-- the README graph `s→a, a→b, b→a, a→t` with flows `(1, 2, 2, 1)` -/
def readmeInp : WalkInput :=
  { base := { nodes := ["s", "a", "b", "t"], edges := [("s", "a"), ("a", "b"), ("b", "a"), ("a", "t")] },
    flow := [(("s", "a"), 1), (("a", "b"), 2), (("b", "a"), 2), (("a", "t"), 1)], weightInt := true,
    cfg := { k := 1 } }

theorem readme_wf : BaseWF readmeInp.base := by decide +kernel

theorem readme_attr : ∀ e ∈ readmeInp.base.edges, ∃ q, readmeInp.fOpt e = some q :=
  attr_of_all readmeInp (by decide +kernel)

/-- the hypotheses of `kfdc_complete_walks` hold for the README graph and the single walk `s a b a b a t` of
weight `1` (twice round the cycle) -/
theorem readme_within : WalkDecompWithin readmeInp (fun _ => ["s", "a", "b", "a", "b", "a", "t"]) (fun _ => 1) :=
  within_of_int readmeInp _ _ readme_wf (caps_are_flows readmeInp readme_wf rfl readme_attr)
    (by intro i _; unfold IsWalkIn; decide +kernel)
    (fun _ _ => ⟨Rat.le_refl, by decide +kernel, fun _ => ⟨1, rfl⟩⟩)
    (by decide +kernel) (by unfold IsWalkDecomp; decide +kernel)
    (fun j hj => absurd hj (Nat.not_lt_zero j))

example : CapsAreFlows readmeInp :=
  caps_are_flows readmeInp readme_wf rfl readme_attr

theorem readme_names_all (k : Nat) : NameInj (readmeInp.withK k) :=
  nameInj_withK readmeInp (by decide +kernel) k

theorem readme_names : NameInj readmeInp := readme_names_all 1

example : ∃ a : Asg, Sat a (kfdcLP readmeInp none) ∧
    (∀ i e, multOf a i e = traversals ("source" :: ["s", "a", "b", "a", "b", "a", "t"] ++ ["sink"]) e) ∧
    (∀ i, a (weightsVar i) = 1) :=
  kfdc_complete_walks readmeInp _ _ readme_wf (by decide) readme_names readme_within

theorem readme_names_le : ∀ j, j ≤ readmeInp.base.edges.length → NameInj (readmeInp.withK j) :=
  fun j _ => readme_names_all j

theorem readme_feasible1 : KfdcFeasible readmeInp 1 :=
  feasible_of_walks readmeInp 1 _ _ readme_wf readme_names readme_within

/-- `search_range_adequate` applies to the README instance: its hypotheses hold, the k-model for `k = 1` is
satisfiable, so one with at most `|E| = 4` layers is -/
example : ∃ j, j ≤ readmeInp.base.edges.length ∧ KfdcFeasible readmeInp j :=
  search_range_adequate readmeInp 1 readme_wf rfl rfl rfl rfl rfl readme_attr readme_names_le readme_feasible1

/-- `walks_at_most_edges` on the README instance with the walk `s a b a b a t` given twice with weights
`1` and `0`: at most four walks with positive weights do -/
example := walks_at_most_edges readmeInp readme_wf rfl rfl rfl 2 (fun _ => ["s", "a", "b", "a", "b", "a", "t"])
  (fun i => if i = 0 then 1 else 0)
  (by intro i _; unfold IsWalkIn; decide +kernel)
  (by unfold IsWalkDecomp; decide +kernel)

/-- on the README instance the search over `0 … |E|` with a faithful, conclusive and punctual solver returns the
minimum -/
example (σ : Nat → Status) (hσ : FaithfulC readmeInp σ) (hc : ∀ i, σ i ≠ .other) :=
  mfdc_search_complete_plain readmeInp σ (fun _ => false) 0 1 readme_wf rfl rfl rfl rfl rfl readme_attr
    readme_names_le hσ (fun i hi => absurd hi (Nat.not_lt_zero i)) readme_feasible1 (fun i _ _ => ⟨hc i, rfl⟩)

theorem loop_names_le : ∀ j, j ≤ (ScaleWitness.inp 1 1).base.edges.length →
    NameInj ((ScaleWitness.inp 1 1).withK j) :=
  fun j _ => nameInj_withK (ScaleWitness.inp 1 1) (by decide +kernel) j

/-- `search_range_adequate_float` applies to the unscaled self-loop instance of `scale_law_counterexample`
(flows `1`) -/
example : ∃ j, j ≤ (ScaleWitness.inp 1 1).base.edges.length ∧ KfdcFeasible (ScaleWitness.inp 1 1) j :=
  search_range_adequate_float (ScaleWitness.inp 1 1) 1 WalkCoreExample.base_wf rfl rfl
    (attr_of_all _ (by decide +kernel))
    ⟨("a", "a"), ScaleWitness.loop_active 1 1, by decide +kernel⟩ loop_names_le
    ⟨_, ScaleWitness.loop_unscaled_feasible⟩

theorem witness_names_le : ∀ j, j ≤ RangeWitness.inp.base.edges.length + RangeWitness.inp.cfg.constraints.length →
    NameInj (RangeWitness.inp.withK j) :=
  fun j _ => RangeWitness.names j

/-- `search_range_adequate_constraints` applies to `RangeWitness.inp` (six constraints, `k = 6`) -/
example : ∃ j, j ≤ 5 + 6 ∧ KfdcFeasible RangeWitness.inp j :=
  search_range_adequate_constraints RangeWitness.inp 6 RangeWitness.base_wf rfl rfl rfl rfl rfl
    RangeWitness.constraint_edges RangeWitness.attr
    ⟨("s0", "m"), by decide +kernel, by decide +kernel⟩ witness_names_le RangeWitness.feasible6

/-- the search on the unscaled instance of `scale_law_counterexample` ends at `k = 1` -/
example : (stopSearchTimed (fun k => if k = 1 then .optimal else .other) (fun _ => false) 1 4).solved = some 1 := by
  decide

theorem faithful_unscaled : FaithfulC (ScaleWitness.inp 1 1) (fun k => if k = 1 then .optimal else .other) := by
  intro k
  by_cases hk : k = 1
  · subst hk
    exact ⟨fun _ => ⟨_, ScaleWitness.loop_unscaled_feasible⟩, fun h => by simp at h⟩
  · simp [hk]

example := mfdc_search_minimal (ScaleWitness.inp 1 1) _ (fun _ => false) 1 4 1 faithful_unscaled
  (fun j hj => by
    have : j = 0 := by omega
    subst this
    rintro ⟨a, ha⟩
    -- k = 0: the 10d row of the loop reads 0 = 1
    have h := (kfdc_exact ((ScaleWitness.inp 1 1).withK 0) none a WalkCoreExample.base_wf ha).2.2
      ("a", "a") (ScaleWitness.loop_active 1 0)
    exact absurd (show (0 : Rat) = 1 from h) (by decide +kernel))
  (by decide)

theorem faithful_scaled : FaithfulC (ScaleWitness.inp (1/2) 1) (fun _ => .infeasible) := by
  intro k
  constructor
  · intro h; cases h
  · intro _ hf
    obtain ⟨a, ha⟩ := hf
    exact ScaleWitness.loop_scaled_infeasible k a ha

/-- on the scaled instance every faithful script without inconclusive answers (`faithful_scaled`) makes the search
end unsolved, as the real code does -/
example (lo hi : Nat) : (stopSearchTimed (fun _ => Status.infeasible) (fun _ => false) lo hi).solved = none := by
  cases h : (stopSearchTimed (fun _ => Status.infeasible) (fun _ => false) lo hi).solved with
  | none => rfl
  | some k =>
    have := ((timedLoop_solved_iff _ _ _ _ _ _).1 h).2.2.2.1
    cases this

end FP.Props.C04
