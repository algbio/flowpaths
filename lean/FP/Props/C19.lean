import FP.Proofs.Tables
import FP.Model.Generated.Guards
import FP.Spec.Rejections
/-!
# C19 — invalid inputs are rejected with `ValueError` instead of being solved

The theorems are stated over `FP.Generated.guardTable`, the table of `raise ValueError` guards that
`harness/extract.py` reads off the current source of flowpaths (regenerated on every run), and are
re-checked by the kernel each time.

`outcome` is the function the observation suite of `harness/props/c19.py` compares with the behaviour of
the real constructors (driver op `k4.outcome`).
-/
namespace FP.Props.C19
open FP.Tables FP.GuardEval FP.Generated FP.Spec.Rejections

/-! `modelClasses`, `expected : String → List Flag` (which violations each class is to reject, from the
docstrings' "Raises" sections and the property text) and the exception list `knownMissing` (mirroring
`known_findings.json`) are hand-written in `FP/Spec/Rejections.lean`. -/

def guardsOf (cls : String) : List Guard :=
  (guardTable.filter (fun cg => cg.cls = cls)).flatMap (·.guards)

def hasGuard (cls : String) (f : Flag) : Bool := (guardsOf cls).any (fun g => g.flag = f)

def outcomeOf (cls : String) (d : D) : Outcome := outcome ⟨cls, guardsOf cls⟩ d

/-- every `raise ValueError` guard found in the source is classified (a new or edited guard condition
breaks this obligation until it is added to `harness/guards_map.json`) -/
theorem no_unmapped_guard : ∀ cg ∈ guardTable, ∀ g ∈ cg.guards, g.flag.isUnmapped = false := by
  decide +kernel

/-- for every class and every violation its documentation (and the property text) lists as rejected,
the class has a guard carrying that flag — except the literal list `knownMissing` -/
theorem expected_guarded :
    ∀ cls ∈ modelClasses, ∀ f ∈ expected cls, (cls, f) ∉ knownMissing → hasGuard cls f = true := by
  -- `hasGuard` asks for a guard in some row named `cls`, so one such row is a witness; its guarded flags are read off
  -- `flagSet`, and `knownMissing` is looked at only where the row has no guard
  have key : ∀ cls ∈ modelClasses, ∃ cg ∈ guardTable, cg.cls = cls ∧
      ∀ f ∈ expected cls, covers cg f = true ∨ (cls, f) ∈ knownMissing := by decide +kernel
  intro cls hc f hf hk
  obtain ⟨cg, hcg, rfl, h⟩ := key cls hc
  exact any_guard_of_row guardTable cg hcg f ((h f hf).resolve_right hk)

/-- the same for the graph classes and abstract bases the model constructors call (no exceptions) -/
theorem support_guarded :
    ∀ cls ∈ supportClasses, ∀ f ∈ supportExpected cls, hasGuard cls f = true := by
  decide +kernel

theorem support_rejected (cls : String) (hc : cls ∈ supportClasses) (f : Flag) (hf : f ∈ supportExpected cls)
    (d : D) (hd : d.has f = true) : outcomeOf cls d = .valueError :=
  outcome_valueError ⟨cls, guardsOf cls⟩ d f (support_guarded cls hc f hf) hd

/-- for every class, every documented violation `f` (not in `knownMissing`) and *every* descriptor
containing `f` — alone or in any of the `2^23` combinations with other violations — the guards
evaluate to `ValueError` -/
theorem invalid_rejected (cls : String) (hc : cls ∈ modelClasses) (f : Flag) (hf : f ∈ expected cls)
    (hk : (cls, f) ∉ knownMissing) (d : D) (hd : d.has f = true) : outcomeOf cls d = .valueError :=
  outcome_valueError ⟨cls, guardsOf cls⟩ d f (expected_guarded cls hc f hf hk) hd

/-- with no violation flag set (and a weighted element) no guard fires, for every class -/
theorem valid_accepted (cls : String) (d : D) (h : d.anyViolation = false) (hw : d.hasWeightedElement = true) :
    outcomeOf cls d = .ok :=
  outcome_ok _ d h hw

/-- an input with some violation never evaluates to "accepted" -/
theorem violation_never_ok (cls : String) (d : D) (h : d.anyViolation = true) : outcomeOf cls d ≠ .ok :=
  outcome_not_ok_of_violation _ d h

example : outcomeOf "kFlowDecomp" { kNonPositive := true } = .valueError := by decide +kernel
example : outcomeOf "kFlowDecompCycles" { kNonPositive := true, negativeWeight := true } = .valueError := by decide +kernel
example : outcomeOf "kPathCover" {} = .ok := valid_accepted _ _ rfl rfl
example : (firing ⟨"stDAG", guardsOf "stDAG"⟩ { cyclicForDag := true }).map (·.func) = some "stDAG._pre_build_validate" := by
  decide +kernel
example : (guardsOf "kFlowDecomp").length > 20 := by decide +kernel

/-- the behaviour of `outcome` on a class *without* a guard, on a literal fixture: a constructor with a
weight check but no check of `k` -/
def fixture : ClassGuards :=
  ⟨"Fixture", [⟨"Fixture", "Fixture.__init__", "data[flow_attr] < 0", "", .negativeWeight, .construct⟩,
               ⟨"Fixture", "Fixture.__init__", "weight_type not in [int, float]", "", .badWeightType, .construct⟩]⟩

example : outcome fixture { kNonPositive := true } = .other := by decide +kernel
example : outcome fixture { kNonPositive := true, badWeightType := true } = .valueError := by decide +kernel
example : determined fixture [] { kNonPositive := true, badWeightType := true } = false := by decide +kernel
example : determined fixture [] { negativeWeight := true, badWeightType := true } = true := by decide +kernel

end FP.Props.C19
