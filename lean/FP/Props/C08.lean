import FP.Proofs.KLAE
import FP.Proofs.KMPE
import FP.Proofs.KMPEGiven
import FP.Proofs.KLAEC
import FP.Proofs.KMPEC
import FP.Proofs.KMPECComplete
import FP.Proofs.Augment
import FP.Proofs.ErrExample
import FP.Proofs.MpeFactorsWitness
import FP.Proofs.KLAECExample
import FP.Proofs.KMPEGivenExample
/-!
# C08 — k-Minimum-Path-Error is feasible for k ≥ width and minimises total slack  (DAG model)

`kmpeLP inp` is the LP that `kMinPathError.__init__` hands to the solver (tied to the code by the K2
LP-dump suite). Vocabulary (`FP/Spec/ErrModels.lean`): `MPE.SlackOK` is the inequality
`|f(e) − Σ_i w_i[e ∈ p_i]| · scale(e) ≤ Σ_i slack_i[e ∈ p_i]`, `MPE.totalSlack = Σ_i slack_i`,
`MPE.Solution` / `MPE.Bounded` (weights and slacks ≥ 0 of the requested type / … ≤ `w_max`),
`MPE.Covers` (every non-ignored edge lies on some route).

Scope: soundness is proven without (`kmpe_sound`) and with (`kmpe_factors_sound`) path-length
factors; completeness / feasibility / optimality for `path_length_factors = []`, no subpath constraints
and unit lengths. With path-length factors the code falsifies feasibility (findings
C08-factors-lt1-bits, C08-factors-gt1-gamma-ub): the intended completeness statement
`kmpe_factors_complete_FullStatement` is refuted on a concrete witness (`factors_gt1_infeasible`).

**Cyclic class** (second part): `kmpecLP inp` is the LP of `kMinPathErrorCycles.__init__`
(`elements_to_ignore_percentile = None`, no path-length factors; K2 LP-dump equality). Vocabulary
(`FP/Spec/ErrWalks.lean`): `MPEC.SlackOK` — the slack inequality with traversal counts in place of
indicators; `klaecCap` — the repetition caps (shared with `kLeastAbsErrorsCycles`); `MpecWithinCaps` —
the families of `k` weighted walks with slacks the LP can represent (caps, `w_i·traversals_i(e) ≤ w_max`,
`slack_i·traversals_i(e) ≤ w_max`). Soundness holds for every input (`kmpec_sound`); completeness and
minimality of the total slack only *within* these bounds (`kmpec_complete_within_caps`,
`kmpec_opt_within_caps`) — the bound `w_max = k·max f` on the products cuts off solutions of smaller
total slack (`kmpec_wmax_cuts_optimum`, finding C08-mpecycles-wmax-cuts-optimum), and the repetition
caps make the model infeasible at `k = width` on some inputs (finding C08-mpecycles-repetition-cap), so
`kmpe_feasible_of_cover` / `kmpe_optimal` have no cyclic counterpart.

**Given weights** (`solution_weights_superset`, last part): LP and vocabulary are introduced there.
-/
namespace FP.Props.C08
open FP FP.Spec FP.Spec.MPE

/-- Without path-length factors every satisfying assignment decodes to `k` routes;
weights and slacks lie in `[0, w_max]` and have the requested type; `pi = x·w`, `gamma = x·slack`;
every non-ignored edge satisfies the slack inequality; the objective is `Σ_i slack_i`. -/
theorem kmpe_sound (inp : MpeInput) (a : Asg) (h : BaseWF inp.ei.fi.base) (hac : Acyclic inp.ei.fi.base)
    (hfac : inp.factors = []) (hsat : Sat a (kmpeLP inp)) :
    ∃ ps : List (List Node),
      decodePaths inp.ei.st (fun e i => a (edgeVar e i)) inp.ei.k = some ps ∧ ps.length = inp.ei.k ∧
      Bounded inp.ei (fun i => ps.getD i []) (fun i => a (weightsVar i)) (fun i => a (slackVar i)) ∧
      (∀ i, i < inp.ei.k → ∀ e ∈ inp.ei.st.g.edges, a (edgeVar e i) = trav inp.ei.st (ps.getD i []) e) ∧
      (∀ e ∈ inp.ei.basicEdges, ∀ i, i < inp.ei.k →
        a (piVar e i) = a (edgeVar e i) * a (weightsVar i) ∧
        a (gammaVar e i) = a (edgeVar e i) * a (slackVar i)) ∧
      evalTerms a (kmpeLP inp).obj = totalSlack inp.ei.k (fun i => a (slackVar i)) :=
  FP.kmpe_sound inp a h hac hfac hsat

/-- the decoded non-empty paths are routes of the *user's* graph (C01) -/
theorem kmpe_routes_valid (inp : MpeInput) (a : Asg) (h : BaseWF inp.ei.fi.base)
    (hac : Acyclic inp.ei.fi.base) (hsat : Sat a (kmpeLP inp)) (i : Nat) (hi : i < inp.ei.k) :
    ∃ p, decodeLayer inp.ei.st (fun e i => a (edgeVar e i)) i = some p ∧
      (p = [] → inp.ei.fi.cfg.allowEmpty = true) ∧
      (p ≠ [] → ValidRoute inp.ei.fi.base inp.ei.fi.starts inp.ei.fi.ends p ∧ p.Nodup) :=
  FP.dag_routes_valid inp.ei.fi.base inp.ei.fi.starts inp.ei.fi.ends inp.ei.fi.cfg a h hac
    ((kmpe_sat_iff inp a).1 hsat).1 i hi

/-- without path-length factors every bounded solution is represented, with objective `Σ slack_i` -/
theorem kmpe_complete (inp : MpeInput) (P : Nat → List Node) (w sl : Nat → Rat)
    (h : BaseWF inp.ei.fi.base) (hac : Acyclic inp.ei.fi.base) (hfac : inp.factors = [])
    (hcons : inp.ei.fi.cfg.constraints = []) (hlen : inp.ei.fi.cfg.lengths = none)
    (hscale : ∀ e ∈ inp.ei.basicEdges, 0 ≤ inp.ei.scale e)
    (hb : Bounded inp.ei P w sl) :
    ∃ a : Asg, Sat a (kmpeLP inp) ∧
      (∀ i, i < inp.ei.k → ∀ e ∈ inp.ei.st.g.edges, a (edgeVar e i) = trav inp.ei.st (P i) e) ∧
      (∀ i, i < inp.ei.k → a (weightsVar i) = w i ∧ a (slackVar i) = sl i) ∧
      evalTerms a (kmpeLP inp).obj = totalSlack inp.ei.k sl :=
  FP.kmpe_complete inp P w sl h hac hfac hcons hlen hscale hb

/-- Feasibility for every `k ≥ 1` admitting a path cover: if `k` routes cover every
non-ignored edge, weights `0` and slacks `fmax = weight_type(max f)` (≤ `w_max = k·fmax`) satisfy the
LP — so the model is feasible for every `k` at least the minimum number of routes covering the
non-ignored edges (its "width"). Needs flow values in `[0, fmax]` and scales in `[0, 1]`. -/
theorem kmpe_feasible_of_cover (inp : MpeInput) (P : Nat → List Node)
    (h : BaseWF inp.ei.fi.base) (hac : Acyclic inp.ei.fi.base) (hfac : inp.factors = [])
    (hcons : inp.ei.fi.cfg.constraints = []) (hlen : inp.ei.fi.cfg.lengths = none) (hk : 1 ≤ inp.ei.k)
    (hroutes : ∀ i, i < inp.ei.k → Route inp.ei.st inp.ei.fi.cfg.allowEmpty (P i))
    (hcov : Covers inp.ei P)
    (hf : ∀ e ∈ inp.ei.basicEdges, 0 ≤ inp.ei.fi.f e ∧ inp.ei.fi.f e ≤ inp.ei.fmax)
    (hscale : ∀ e ∈ inp.ei.basicEdges, 0 ≤ inp.ei.scale e ∧ inp.ei.scale e ≤ 1) :
    ∃ a : Asg, Sat a (kmpeLP inp) ∧
      (∀ i, i < inp.ei.k → ∀ e ∈ inp.ei.st.g.edges, a (edgeVar e i) = trav inp.ei.st (P i) e) ∧
      evalTerms a (kmpeLP inp).obj = (inp.ei.k : Rat) * inp.ei.fmax :=
  FP.kmpe_feasible_of_cover inp P h hac hfac hcons hlen hk hroutes hcov hf hscale

/-- the same with the cover given as routes of the user's graph -/
theorem kmpe_feasible_of_user_cover (inp : MpeInput) (P : Nat → List Node)
    (h : BaseWF inp.ei.fi.base) (hac : Acyclic inp.ei.fi.base) (hfac : inp.factors = [])
    (hcons : inp.ei.fi.cfg.constraints = []) (hlen : inp.ei.fi.cfg.lengths = none) (hk : 1 ≤ inp.ei.k)
    (hroutes : ∀ i, i < inp.ei.k → ValidRoute inp.ei.fi.base inp.ei.fi.starts inp.ei.fi.ends (P i))
    (hcov : Covers inp.ei P)
    (hf : ∀ e ∈ inp.ei.basicEdges, 0 ≤ inp.ei.fi.f e ∧ inp.ei.fi.f e ≤ inp.ei.fmax)
    (hscale : ∀ e ∈ inp.ei.basicEdges, 0 ≤ inp.ei.scale e ∧ inp.ei.scale e ≤ 1) :
    ∃ a : Asg, Sat a (kmpeLP inp) :=
  let ⟨a, hsat, _⟩ := FP.kmpe_feasible_of_cover inp P h hac hfac hcons hlen hk
    (fun i hi => route_of_validRoute _ _ h hac _ (hroutes i hi)) hcov hf hscale
  ⟨a, hsat⟩

/-- An optimal assignment decodes to a bounded solution whose total slack
is minimal among all bounded solutions, and the solver's objective is that total slack. -/
theorem kmpe_opt_transfer (inp : MpeInput) (a : Asg) (h : BaseWF inp.ei.fi.base) (hac : Acyclic inp.ei.fi.base)
    (hfac : inp.factors = [])
    (hcons : inp.ei.fi.cfg.constraints = []) (hlen : inp.ei.fi.cfg.lengths = none)
    (hscale : ∀ e ∈ inp.ei.basicEdges, 0 ≤ inp.ei.scale e)
    (hsat : Sat a (kmpeLP inp))
    (hopt : ∀ a', Sat a' (kmpeLP inp) → evalTerms a (kmpeLP inp).obj ≤ evalTerms a' (kmpeLP inp).obj) :
    ∃ ps : List (List Node),
      decodePaths inp.ei.st (fun e i => a (edgeVar e i)) inp.ei.k = some ps ∧
      Bounded inp.ei (fun i => ps.getD i []) (fun i => a (weightsVar i)) (fun i => a (slackVar i)) ∧
      (∀ P' w' sl', Bounded inp.ei P' w' sl' →
        totalSlack inp.ei.k (fun i => a (slackVar i)) ≤ totalSlack inp.ei.k sl') ∧
      evalTerms a (kmpeLP inp).obj = totalSlack inp.ei.k (fun i => a (slackVar i)) :=
  FP.kmpe_opt_transfer inp a h hac hfac hcons hlen hscale hsat hopt

/-- The bounds `w_max` lose no optimum once a cover exists: the total slack of the decoded optimum
is minimal among *all* solutions (weights and slacks unbounded) on routes of the user's graph. -/
theorem kmpe_optimal (inp : MpeInput) (a : Asg) (Pc : Nat → List Node)
    (h : BaseWF inp.ei.fi.base) (hac : Acyclic inp.ei.fi.base) (hfac : inp.factors = [])
    (hcons : inp.ei.fi.cfg.constraints = []) (hlen : inp.ei.fi.cfg.lengths = none) (hk : 1 ≤ inp.ei.k)
    (hroutes : ∀ i, i < inp.ei.k → Route inp.ei.st inp.ei.fi.cfg.allowEmpty (Pc i))
    (hcov : Covers inp.ei Pc)
    (hf : ∀ e ∈ inp.ei.basicEdges, 0 ≤ inp.ei.fi.f e ∧ inp.ei.fi.f e ≤ inp.ei.fmax)
    (hscale : ∀ e ∈ inp.ei.basicEdges, 0 ≤ inp.ei.scale e ∧ inp.ei.scale e ≤ 1)
    (hsat : Sat a (kmpeLP inp))
    (hopt : ∀ a', Sat a' (kmpeLP inp) → evalTerms a (kmpeLP inp).obj ≤ evalTerms a' (kmpeLP inp).obj) :
    ∀ P' w' sl', Solution inp.ei P' w' sl' →
      totalSlack inp.ei.k (fun i => a (slackVar i)) ≤ totalSlack inp.ei.k sl' := by
  have hscale0 := fun e he => (hscale e he).1
  obtain ⟨ps, _, _, hmin, _⟩ := kmpe_opt_transfer inp a h hac hfac hcons hlen hscale0 hsat hopt
  intro P' w' sl' hs'
  have hM0 := fmax_nonneg inp.ei hf
  have hcb := mpe_cover_solution_bounded inp.ei Pc hk hroutes hcov hf hscale
  by_cases hT : (inp.ei.k : Rat) * inp.ei.fmax ≤ totalSlack inp.ei.k sl'
  · -- the cover `Pc` with weights 0 and slacks `fmax` is bounded and already as good as the competitor
    have := hmin Pc _ _ hcb
    rw [totalSlack_const] at this
    exact Rat.le_trans this hT
  · -- every slack is below `w_max`; clamp the weights
    have hsl : ∀ i, i < inp.ei.k → sl' i ≤ inp.ei.wmax none := by
      intro i hi
      have := le_sum_of_mem sl' (fun j hj => (hs'.nonneg j (List.mem_range.1 hj)).2)
        (List.mem_range.2 hi)
      unfold totalSlack at hT
      rw [wmax_none_eq]
      grind
    have hlae : LAE.Solution inp.ei P' w' :=
      { routes := hs'.routes, nonneg := fun i hi => (hs'.nonneg i hi).1,
        integral := fun hint i hi => (hs'.integral hint i hi).1 }
    obtain ⟨hbw, herr⟩ := wmax_adequate inp.ei P' w' h hac hk hf hlae
    refine hmin P' (clampW inp.ei w') sl'
      { routes := hs'.routes, nonneg := fun i hi => ⟨hbw.nonneg i hi, (hs'.nonneg i hi).2⟩,
        integral := fun hint i hi => ⟨hbw.integral hint i hi, (hs'.integral hint i hi).2⟩,
        slackOK := ?_, wle := fun i hi => ⟨hbw.wle i hi, hsl i hi⟩ }
    intro e he
    have h1 := hs'.slackOK e he
    have h2 := Rat.mul_le_mul_of_nonneg_right (herr e he) (hscale0 e he)
    unfold SlackOK at h1 ⊢
    unfold LAE.absErr at h2
    exact Rat.le_trans h2 h1

/-- For every satisfying assignment of the LP with
`path_length_factors ≠ []` (ranges and factors of equal length, `L ≤ U`): every layer's path-length
column lies in some range `j` and `scaled_slack_i = slack_i · factors[j]` (piecewise-constant and
integer × continuous fragments, C12); `gamma(e,i) = x(e,i) · scaled_slack_i ≤ w_max`; every
non-ignored edge satisfies `|f(e) − Σ_i w_i[e ∈ p_i]| · scale(e) ≤ Σ_i scaled_slack_i[e ∈ p_i]`; the
objective is the sum of the *unscaled* slacks. `hfb`: the factor column `[min factors, max factors]`
lies inside the bound `[0, w_max·max factors]` given to the product helper (true when `w_max ≥ 1`). -/
theorem kmpe_factors_sound (inp : MpeInput) (a : Asg) (h : BaseWF inp.ei.fi.base) (hac : Acyclic inp.ei.fi.base)
    (hne : inp.factors ≠ []) (hlen : inp.ranges.length = inp.factors.length)
    (hLU : ∀ r ∈ inp.ranges, r.1 ≤ r.2)
    (hfb : 0 ≤ listMin inp.factors ∧ listMax inp.factors ≤ inp.ei.wmax none * listMax inp.factors)
    (hsat : Sat a (kmpeLP inp)) :
    ∃ ps : List (List Node),
      decodePaths inp.ei.st (fun e i => a (edgeVar e i)) inp.ei.k = some ps ∧ ps.length = inp.ei.k ∧
      (∀ i, i < inp.ei.k → Route inp.ei.st inp.ei.fi.cfg.allowEmpty (ps.getD i [])) ∧
      (∀ i, i < inp.ei.k → ∀ e ∈ inp.ei.st.g.edges, a (edgeVar e i) = trav inp.ei.st (ps.getD i []) e) ∧
      (∀ i, i < inp.ei.k → ∃ j, ∃ hj : j < inp.ranges.length,
        (inp.ranges[j]).1 ≤ a (lenVar i) ∧ a (lenVar i) ≤ (inp.ranges[j]).2 ∧
        a (scaledSlackVar i) = a (slackVar i) * inp.factors[j]'(hlen ▸ hj)) ∧
      (∀ e ∈ inp.ei.basicEdges, ∀ i, i < inp.ei.k →
        a (gammaVar e i) = a (edgeVar e i) * a (scaledSlackVar i) ∧ a (gammaVar e i) ≤ inp.ei.wmax none) ∧
      (∀ e ∈ inp.ei.basicEdges,
        (inp.ei.fi.f e - explained inp.ei.st inp.ei.k (fun i => ps.getD i []) (fun i => a (weightsVar i)) e).abs
            * inp.ei.scale e
          ≤ explained inp.ei.st inp.ei.k (fun i => ps.getD i []) (fun i => a (scaledSlackVar i)) e) ∧
      evalTerms a (kmpeLP inp).obj = totalSlack inp.ei.k (fun i => a (slackVar i)) :=
  FP.kmpe_factors_sound inp a h hac hne hlen hLU hfb hsat

/-- **the code falsifies feasibility with a factor above 1** (finding C08-factors-gt1-gamma-ub): on
`a → b → c`, `f = (1, 3)`, `k = 1 = width`, `path_length_ranges = [[0,1000]]`, `path_length_factors = [4]`
weight 2 and slack 1 (scaled slack 4) satisfy the slack inequality on both edges, whereas the LP is
infeasible (`factors_gt1_infeasible`) -/
theorem factors_gt1_problem_has_solution :
    ∀ e ∈ MpeFactors.inp3.ei.basicEdges,
      SlackOK MpeFactors.inp3.ei ErrExample.P (fun _ => 2) (fun _ => (1 : Rat) * 4) e :=
  MpeFactors.problem_has_solution

/-- the LP the constructor builds for the instance of `factors_gt1_problem_has_solution` has no satisfying
assignment (`gamma ≤ w_max = 3` forces `4·slack ≤ 3`, i.e. slack 0). Replayed on the real code by `harness/props/c08.py` (kInfeasible). -/
theorem factors_gt1_infeasible : ¬ ∃ a : Asg, Sat a (kmpeLP MpeFactors.inp3) :=
  MpeFactors.factors_gt1_infeasible

/-- the intended completeness statement with path-length factors (see `FP/Proofs/MpeFactorsWitness.lean`) is
therefore false for the code as it is -/
theorem kmpe_factors_complete_false : ¬ kmpe_factors_complete_FullStatement :=
  FP.kmpe_factors_complete_false

example : Bounded ErrExample.mpe.ei ErrExample.P ErrExample.w ErrExample.sl := ErrExample.mpe_bounded

/-- a satisfying assignment of a non-trivial instance (scaled edge, integral slack 2, positions encoded) -/
example : ∃ a, Sat a (kmpeLP ErrExample.mpe) ∧ evalTerms a (kmpeLP ErrExample.mpe).obj = 2 := by
  obtain ⟨a, hsat, _, _, hobj⟩ := FP.kmpe_complete ErrExample.mpe ErrExample.P ErrExample.w ErrExample.sl
    ErrExample.base_wf ErrExample.base_acyclic rfl rfl rfl
    (fun e he => (ErrExample.scale_nonneg e he).1) ErrExample.mpe_bounded
  refine ⟨a, hsat, ?_⟩
  rw [hobj]
  exact (totalSlack_const 1 2).trans (by decide +kernel)

/-- the cover hypothesis is satisfiable: feasibility of the instance from its one covering route -/
example : ∃ a, Sat a (kmpeLP ErrExample.mpe) :=
  let ⟨a, hsat, _⟩ := FP.kmpe_feasible_of_cover ErrExample.mpe ErrExample.P
    ErrExample.base_wf ErrExample.base_acyclic rfl rfl rfl (by decide)
    (fun _ _ => ErrExample.route _) ErrExample.covers ErrExample.flows_ok ErrExample.scale_nonneg
  ⟨a, hsat⟩

/-- For every satisfying assignment of the `kMinPathErrorCycles` LP on a
well-formed user digraph (cycles allowed): weights and slacks lie in `[0, w_max]` and are integral for
`weight_type = int`; every layer decodes to a route of the *user's* graph (empty only if empty walks are
allowed); the traversal counts of the decoded walk (synthetic endpoints put back) are the layer's edge
variables, natural numbers within the repetition caps; `pi(e,i) = w_i · traversals_i(e) ≤ w_max` and
`gamma(e,i) = slack_i · traversals_i(e) ≤ w_max` on every non-ignored edge; every non-ignored edge
satisfies `|f(e) − Σ_i w_i·traversals_i(e)| · scale(e) ≤ Σ_i slack_i·traversals_i(e)`; the solver's
objective is `Σ_i slack_i`. -/
theorem kmpec_sound (inp : WalkInput) (a : Asg) (h : BaseWF inp.base) (hsat : Sat a (kmpecLP inp)) :
    (∀ i, i < inp.k →
        (0 ≤ a (weightsVar i) ∧ a (weightsVar i) ≤ inp.wmax true ∧
          (inp.weightInt = true → IsInt (a (weightsVar i)))) ∧
        (0 ≤ a (slackVar i) ∧ a (slackVar i) ≤ inp.wmax true ∧
          (inp.weightInt = true → IsInt (a (slackVar i))))) ∧
    (∀ i, i < inp.k →
        (decodeWalkLayer inp.st a i = [] → inp.cfg.allowEmpty = true) ∧
        (decodeWalkLayer inp.st a i ≠ [] →
          ValidRoute inp.base inp.starts inp.ends (decodeWalkLayer inp.st a i))) ∧
    (∀ i, i < inp.k → ∀ e ∈ inp.st.g.edges,
        traversals (inp.st.source :: decodeWalkLayer inp.st a i ++ [inp.st.sink]) e = multOf a i e ∧
        a (edgeVar e i) = (multOf a i e : Rat) ∧ (multOf a i e : Rat) ≤ klaecCap inp e) ∧
    (∀ e ∈ inp.activeEdges true, ∀ i, i < inp.k →
        a (piVar e i) = a (weightsVar i) * (multOf a i e : Rat) ∧
        a (gammaVar e i) = a (slackVar i) * (multOf a i e : Rat) ∧
        a (piVar e i) ≤ inp.wmax true ∧ a (gammaVar e i) ≤ inp.wmax true) ∧
    (∀ e ∈ inp.activeEdges true,
        MPEC.SlackOK inp (decodeWalkLayer inp.st a) (fun i => a (weightsVar i))
          (fun i => a (slackVar i)) e) ∧
    evalTerms a (kmpecLP inp).obj = totalSlack inp.k (fun i => a (slackVar i)) :=
  have henc := kmpec_sat_enc hsat
  have ⟨_, hw, hs, _⟩ := (sat_kmpecLP_iff inp a).1 hsat
  ⟨fun i hi => ⟨hw.contBox i hi, hs.contBox i hi⟩, walk_routes_valid inp.base inp.starts inp.ends inp.cfg _ a h henc,
    walkcore_layer_mults inp.st _ a h.stwfc henc,
    fun e he i hi => ⟨(kmpec_pi_gamma hsat he hi).1, (kmpec_pi_gamma hsat he hi).2,
      (hw.prodBox i hi e (List.mem_filter.1 he).1).2.1, (hs.prodBox i hi e (List.mem_filter.1 he).1).2.1⟩,
    fun _ he => kmpec_slackOK h hsat he, kmpecLP_obj inp a⟩

/-- the solver's objective at an assignment is `Σ_i slack_i` -/
theorem kmpec_objective (inp : WalkInput) (a : Asg) :
    evalTerms a (kmpecLP inp).obj = totalSlack inp.k (fun i => a (slackVar i)) :=
  FP.kmpecLP_obj inp a

/-- in a satisfying assignment every multiplicity on a non-ignored edge fits into the
`klaecBits inp = ⌈log2(w_max + 1)⌉` bit columns of its product blocks -/
theorem kmpec_mult_bits (inp : WalkInput) (a : Asg) (hsat : Sat a (kmpecLP inp))
    (e : Edge) (he : e ∈ inp.activeEdges true) (i : Nat) (hi : i < inp.k) :
    multOf a i e < 2 ^ klaecBits inp :=
  FP.kmpec_mult_bits inp a hsat e he i hi

/-- `k ≥ 1` weighted source-to-sink walks of the augmented
graph with slacks that are *within the caps* (`MpecWithinCaps`: repetition caps, weights and slacks in
`[0, w_max]` of the requested type, traversal counts fitting the bits, **every product
`w_i · traversals_i(e) ≤ w_max` and `slack_i · traversals_i(e) ≤ w_max`** on the non-ignored edges, the
slack inequality on every non-ignored edge, subset constraints covered) extend to the satisfying
assignment `kmpecWalkAsg` of the whole LP (all auxiliary columns included) with these traversal counts,
weights and slacks and objective `Σ_i slack_i`. `KmpecNameInj`: the product blocks have pairwise
different names; scales non-negative. -/
theorem kmpec_complete_within_caps (inp : WalkInput) (walk : Nat → List Node) (w sl : Nat → Rat)
    (hb : BaseWF inp.base) (hk : 0 < inp.k) (hinj : KmpecNameInj inp)
    (hscale : ∀ e ∈ inp.activeEdges true, 0 ≤ inp.scale e)
    (h : MpecWithinCaps inp walk w sl) :
    Sat (kmpecWalkAsg inp walk w sl) (kmpecLP inp) ∧
      (∀ i e, multOf (kmpecWalkAsg inp walk w sl) i e
        = traversals (inp.st.source :: walk i ++ [inp.st.sink]) e) ∧
      (∀ i, kmpecWalkAsg inp walk w sl (weightsVar i) = w i ∧
        kmpecWalkAsg inp walk w sl (slackVar i) = sl i) ∧
      evalTerms (kmpecWalkAsg inp walk w sl) (kmpecLP inp).obj = totalSlack inp.k sl :=
  ⟨kmpecWalkAsg_sat inp walk w sl hb hinj hscale h, kmpecWalkAsg_mult inp walk w sl,
    fun i => ⟨(kmpecAsg_chan inp _ w sl _ _).weights i, (kmpecAsg_chan inp _ w sl _ _).slack i⟩, kmpecWalkAsg_obj inp walk w sl⟩

/-- conversely (no empty walks, no subset constraints) the decoded family of every satisfying
assignment is within the caps: `MpecWithinCaps` describes exactly what the LP can represent -/
theorem kmpec_decoded_within_caps (inp : WalkInput) (a : Asg) (hb : BaseWF inp.base)
    (hae : inp.cfg.allowEmpty = false) (hcons : inp.cfg.constraints = [])
    (hsat : Sat a (kmpecLP inp)) :
    MpecWithinCaps inp (decodeWalkLayer inp.st a) (fun i => a (weightsVar i)) (fun i => a (slackVar i)) :=
  FP.kmpec_decoded_within_caps inp a hb hae hcons hsat

/-- For an optimum `a` of the LP the solver's objective is the
total slack `Σ_i slack_i` of the returned solution, and it is at most the total slack of *every* family
of `k` weighted walks with slacks within the caps. -/
theorem kmpec_opt_within_caps (inp : WalkInput) (a : Asg) (hb : BaseWF inp.base) (hk : 0 < inp.k)
    (hinj : KmpecNameInj inp)
    (hscale : ∀ e ∈ inp.activeEdges true, 0 ≤ inp.scale e)
    (hopt : ∀ a', Sat a' (kmpecLP inp) → evalTerms a (kmpecLP inp).obj ≤ evalTerms a' (kmpecLP inp).obj) :
    evalTerms a (kmpecLP inp).obj = totalSlack inp.k (fun i => a (slackVar i)) ∧
    ∀ walk' w' sl', MpecWithinCaps inp walk' w' sl' →
      totalSlack inp.k (fun i => a (slackVar i)) ≤ totalSlack inp.k sl' :=
  ⟨kmpecLP_obj inp a, fun walk' w' sl' h' => by
    have := hopt _ (kmpecWalkAsg_sat inp walk' w' sl' hb hinj hscale h')
    rwa [kmpecWalkAsg_obj, kmpecLP_obj] at this⟩

/-- **what the bound cuts off — the code falsifies minimality of the slack on cyclic inputs** (finding
C08-mpecycles-wmax-cuts-optimum; instance `s → a ⇄ b`, additional end `b`, `f = (4, 0, 4)`,
`error_scaling = {(a,b): 1/4}`, `k = 1`, `weight_type = int`, hence `w_max = 4`):

* the LP the constructor builds has optimum `2`: the assignment of the walk `s a b a b` with weight `2`
  and slack `2` is satisfying with objective `2`, and *every* satisfying assignment has objective at
  least `2`;
* yet the same walk — a route of the user's graph within the repetition caps — with weight `4 ≤ w_max`
  and slack `1` satisfies the slack inequality on every non-ignored edge: total slack `1`;
* that family is not within the caps (`pi(a,b) = 4·2 = 8 > w_max`).

Replayed on the real code by `harness/props/c08.py` (returns slack 2, brute force 1). -/
theorem kmpec_wmax_cuts_optimum :
    (Sat (kmpecWalkAsg CycleWitness.inp CycleWitness.walk (fun _ => 2) (fun _ => 2))
        (kmpecLP CycleWitness.inp) ∧
      evalTerms (kmpecWalkAsg CycleWitness.inp CycleWitness.walk (fun _ => 2) (fun _ => 2))
        (kmpecLP CycleWitness.inp).obj = 2) ∧
    (∀ a, Sat a (kmpecLP CycleWitness.inp) → 2 ≤ evalTerms a (kmpecLP CycleWitness.inp).obj) ∧
    (ValidRoute CycleWitness.inp.base CycleWitness.inp.starts CycleWitness.inp.ends (CycleWitness.walk 0) ∧
      (∀ e ∈ CycleWitness.inp.st.g.edges,
        (traversals (CycleWitness.inp.st.source :: CycleWitness.walk 0 ++ [CycleWitness.inp.st.sink]) e : Rat)
          ≤ klaecCap CycleWitness.inp e) ∧
      (4 : Rat) ≤ CycleWitness.inp.wmax true ∧
      (∀ e ∈ CycleWitness.inp.activeEdges true,
        MPEC.SlackOK CycleWitness.inp CycleWitness.walk (fun _ => 4) (fun _ => 1) e) ∧
      totalSlack CycleWitness.inp.k (fun _ => 1) = 1) ∧
    ¬ MpecWithinCaps CycleWitness.inp CycleWitness.walk (fun _ => 4) (fun _ => 1) :=
  ⟨⟨CycleWitness.mpec_sat_checked, CycleWitness.mpec_obj⟩, CycleWitness.mpec_lp_lower_bound,
    ⟨CycleWitness.walk_valid, CycleWitness.laec_better_family.2.2, CycleWitness.laec_better_family.2.1,
      CycleWitness.mpec_better_family, by decide +kernel⟩,
    CycleWitness.mpec_cut_off⟩

/-- `kmpec_sound` applies to a concrete satisfying assignment of a cyclic instance (63 columns, 113 rows) -/
example := kmpec_sound CycleWitness.inp _ CycleWitness.base_wf CycleWitness.mpec_sat_checked

/-- it decodes to the walk `s a b a b` (once round the cycle `a ⇄ b`) and has objective `2` -/
example : decodeWalkLayer CycleWitness.inp.st
    (kmpecWalkAsg CycleWitness.inp CycleWitness.walk (fun _ => 2) (fun _ => 2)) 0
      = ["s", "a", "b", "a", "b"] :=
  CycleWitness.mpec_decode

/-- the hypotheses of `kmpec_complete_within_caps` hold for that family -/
example := kmpec_complete_within_caps CycleWitness.inp CycleWitness.walk _ _ CycleWitness.base_wf
  (by decide) CycleWitness.mpec_names CycleWitness.scale_nonneg CycleWitness.mpec_within

/-- `kmpec_opt_within_caps` applies to a true optimum of the instance (`CycleWitness.mpec_optimal`: objective `2`, minimal) -/
example := kmpec_opt_within_caps CycleWitness.inp _ CycleWitness.base_wf (by decide)
  CycleWitness.mpec_names CycleWitness.scale_nonneg CycleWitness.mpec_optimal

/-- the decoded family of the concrete satisfying assignment is within the caps -/
example := kmpec_decoded_within_caps CycleWitness.inp _ CycleWitness.base_wf rfl rfl
  CycleWitness.mpec_sat_checked

/-! `kmpeGivenLP inp ws original_k` is the LP that `kMinPathError.__init__` hands to the solver when
`solution_weights_superset = ws` is given (`_encode_minpatherror_decomposition_with_given_weights` +
`_encode_objective`; K2 LP-dump equality, with and without path-length factors). The constructor sets
`k = len(ws)` and allows empty paths (`inp.ei.forGiven ws`); the theorems hold for every `inp`.
Vocabulary (`FP/Spec/ErrGiven.lean`): `givenW ws i` — the `i`-th given number, the weight of layer `i`;
`usedCount k P` — the number of non-empty layers; `MPE.GivenSolution inp ws original_k P sl` — every layer
is the empty path or a route, at most `original_k` layers used, slacks `≥ 0` of the requested type, and
`|f(e) − Σ_{i used} ws[i][e ∈ P i]|·scale(e) ≤ Σ_i sl_i[e ∈ P i]` on every non-ignored edge;
`MPE.GivenBounded` — … and every slack `≤ w_max = max(k·weight_type(max f), max ws)`, the bound of the
slack columns. -/

/-- Without path-length factors every satisfying assignment decodes to a
bounded choice: every layer is the empty path or a route, at most `original_k` layers are non-empty (the
row `max_paths_original_k_paths`), the slacks lie in `[0, w_max]` and have the requested type, and every
non-ignored edge satisfies the slack inequality with layer `i` carrying the `i`-th given number; the
non-empty layers are routes of the *user's* graph; `gamma = x·slack`; the objective is `Σ_i slack_i`. -/
theorem kmpe_given_sound (inp : MpeInput) (ws : List Rat) (originalK : Nat) (a : Asg)
    (h : BaseWF inp.ei.fi.base) (hac : Acyclic inp.ei.fi.base) (hfac : inp.factors = [])
    (hsat : Sat a (kmpeGivenLP inp ws originalK)) :
    ∃ ps : List (List Node),
      decodePaths inp.ei.st (fun e i => a (edgeVar e i)) inp.ei.k = some ps ∧ ps.length = inp.ei.k ∧
      GivenBounded inp.ei ws originalK (fun i => ps.getD i []) (fun i => a (slackVar i)) ∧
      (∀ i, i < inp.ei.k → ps.getD i [] ≠ [] →
        ValidRoute inp.ei.fi.base inp.ei.fi.starts inp.ei.fi.ends (ps.getD i []) ∧ (ps.getD i []).Nodup) ∧
      (∀ i, i < inp.ei.k → ∀ e ∈ inp.ei.st.g.edges, a (edgeVar e i) = trav inp.ei.st (ps.getD i []) e) ∧
      (∀ e ∈ inp.ei.basicEdges, ∀ i, i < inp.ei.k →
        a (gammaVar e i) = a (edgeVar e i) * a (slackVar i)) ∧
      evalTerms a (kmpeGivenLP inp ws originalK).obj = totalSlack inp.ei.k (fun i => a (slackVar i)) :=
  FP.kmpe_given_sound inp ws originalK a h hac hfac hsat

/-- Rows 9aa / 9ab see the *length-scaled* slack. For every satisfying assignment of the given-weights LP
with `path_length_factors ≠ []` (ranges and factors of equal length, `L ≤ U`): every layer is the empty
path or a route of the user's graph, at most `original_k` are non-empty; every layer's path-length column
lies in some range `j` and `scaled_slack_i = slack_i · factors[j]`; `gamma(e,i) = x(e,i) · scaled_slack_i
≤ w_max`; every non-ignored edge satisfies
`|f(e) − Σ_{i used} ws[i][e ∈ p_i]| · scale(e) ≤ Σ_i scaled_slack_i[e ∈ p_i]`; the objective is the sum of
the *unscaled* slacks. `hfb` as in `kmpe_factors_sound`. -/
theorem kmpe_given_factors_sound (inp : MpeInput) (ws : List Rat) (originalK : Nat) (a : Asg)
    (h : BaseWF inp.ei.fi.base) (hac : Acyclic inp.ei.fi.base)
    (hne : inp.factors ≠ []) (hlen : inp.ranges.length = inp.factors.length)
    (hLU : ∀ r ∈ inp.ranges, r.1 ≤ r.2)
    (hfb : 0 ≤ listMin inp.factors ∧
      listMax inp.factors ≤ inp.ei.wmax (some ws) * listMax inp.factors)
    (hsat : Sat a (kmpeGivenLP inp ws originalK)) :
    ∃ ps : List (List Node),
      decodePaths inp.ei.st (fun e i => a (edgeVar e i)) inp.ei.k = some ps ∧ ps.length = inp.ei.k ∧
      (∀ i, i < inp.ei.k → Route inp.ei.st inp.ei.fi.cfg.allowEmpty (ps.getD i [])) ∧
      (∀ i, i < inp.ei.k → ps.getD i [] ≠ [] →
        ValidRoute inp.ei.fi.base inp.ei.fi.starts inp.ei.fi.ends (ps.getD i []) ∧ (ps.getD i []).Nodup) ∧
      usedCount inp.ei.k (fun i => ps.getD i []) ≤ originalK ∧
      (∀ i, i < inp.ei.k → ∀ e ∈ inp.ei.st.g.edges, a (edgeVar e i) = trav inp.ei.st (ps.getD i []) e) ∧
      (∀ i, i < inp.ei.k → 0 ≤ a (slackVar i) ∧ a (slackVar i) ≤ inp.ei.wmax (some ws) ∧
        (inp.ei.fi.weightInt = true → IsInt (a (slackVar i)))) ∧
      (∀ i, i < inp.ei.k → ∃ j, ∃ hj : j < inp.ranges.length,
        (inp.ranges[j]).1 ≤ a (lenVar i) ∧ a (lenVar i) ≤ (inp.ranges[j]).2 ∧
        a (scaledSlackVar i) = a (slackVar i) * inp.factors[j]'(hlen ▸ hj)) ∧
      (∀ e ∈ inp.ei.basicEdges, ∀ i, i < inp.ei.k →
        a (gammaVar e i) = a (edgeVar e i) * a (scaledSlackVar i) ∧
        a (gammaVar e i) ≤ inp.ei.wmax (some ws)) ∧
      (∀ e ∈ inp.ei.basicEdges,
        (inp.ei.fi.f e - explained inp.ei.st inp.ei.k (fun i => ps.getD i []) (givenW ws) e).abs
            * inp.ei.scale e
          ≤ explained inp.ei.st inp.ei.k (fun i => ps.getD i []) (fun i => a (scaledSlackVar i)) e) ∧
      evalTerms a (kmpeGivenLP inp ws originalK).obj = totalSlack inp.ei.k (fun i => a (slackVar i)) :=
  FP.kmpe_given_factors_sound inp ws originalK a h hac hne hlen hLU hfb hsat

/-- Without path-length factors (scope as for `kmpe_complete`) every bounded choice of
at most `original_k` of the given weights (by index) with routes and slacks is represented, with objective
`Σ slack_i` -/
theorem kmpe_given_complete (inp : MpeInput) (ws : List Rat) (originalK : Nat) (P : Nat → List Node)
    (sl : Nat → Rat) (h : BaseWF inp.ei.fi.base) (hac : Acyclic inp.ei.fi.base) (hfac : inp.factors = [])
    (hcons : inp.ei.fi.cfg.constraints = []) (hlen : inp.ei.fi.cfg.lengths = none)
    (hscale : ∀ e ∈ inp.ei.basicEdges, 0 ≤ inp.ei.scale e)
    (hb : GivenBounded inp.ei ws originalK P sl) :
    ∃ a : Asg, Sat a (kmpeGivenLP inp ws originalK) ∧
      (∀ i, i < inp.ei.k → ∀ e ∈ inp.ei.st.g.edges, a (edgeVar e i) = trav inp.ei.st (P i) e) ∧
      (∀ i, i < inp.ei.k → a (slackVar i) = sl i) ∧
      evalTerms a (kmpeGivenLP inp ws originalK).obj = totalSlack inp.ei.k sl :=
  FP.kmpe_given_complete inp ws originalK P sl h hac hfac hcons hlen hscale hb

/-- Without path-length factors an optimal assignment decodes to a bounded choice
whose total slack is minimal among all bounded choices of at most `original_k` of the given weights with
routes and slacks, and the solver's objective is that total slack. -/
theorem kmpe_given_opt_transfer (inp : MpeInput) (ws : List Rat) (originalK : Nat) (a : Asg)
    (h : BaseWF inp.ei.fi.base) (hac : Acyclic inp.ei.fi.base) (hfac : inp.factors = [])
    (hcons : inp.ei.fi.cfg.constraints = []) (hlen : inp.ei.fi.cfg.lengths = none)
    (hscale : ∀ e ∈ inp.ei.basicEdges, 0 ≤ inp.ei.scale e)
    (hsat : Sat a (kmpeGivenLP inp ws originalK))
    (hopt : ∀ a', Sat a' (kmpeGivenLP inp ws originalK) →
      evalTerms a (kmpeGivenLP inp ws originalK).obj ≤ evalTerms a' (kmpeGivenLP inp ws originalK).obj) :
    ∃ ps : List (List Node),
      decodePaths inp.ei.st (fun e i => a (edgeVar e i)) inp.ei.k = some ps ∧
      GivenBounded inp.ei ws originalK (fun i => ps.getD i []) (fun i => a (slackVar i)) ∧
      (∀ P' sl', GivenBounded inp.ei ws originalK P' sl' →
        totalSlack inp.ei.k (fun i => a (slackVar i)) ≤ totalSlack inp.ei.k sl') ∧
      evalTerms a (kmpeGivenLP inp ws originalK).obj = totalSlack inp.ei.k (fun i => a (slackVar i)) :=
  FP.kmpe_given_opt_transfer inp ws originalK a h hac hfac hcons hlen hscale hsat hopt

/-- **what the bound cuts off — the code falsifies minimality of the slack when the given weights exceed
the flow values** (finding C08-given-weights-wmax-cuts-optimum; instance `s0 → u`, `s1 → u`, `u → v`,
`v → t1`, `v → x`, `s2 → x`, `x → y`, `f = 1` except `f(u,v) = f(x,y) = 0`, `k = 3`, `weight_type = int`,
`solution_weights_superset = [15, 15, 15]`, hence `w_max = max(3·1, 15) = 15`):

* the LP the constructor builds has optimum `45`: a satisfying assignment with objective `45` exists
  (routes `s0 u v t1`, `s1 u v x y`, `s2 x y`, slacks `15, 15, 15`) and *every* satisfying assignment has
  objective at least `45`;
* yet the same routes — routes of the user's graph, `3 ≤ original_k` layers — with the integer slacks
  `14, 16, 14` satisfy the slack inequality on every non-ignored edge: total slack `44`;
* that choice is not bounded (`16 > w_max`): it is exactly what the bound on the slack columns excludes.

Replayed on the real code by `harness/props/c08.py` (returns slack 45, brute force 44). -/
theorem kmpe_given_wmax_cuts_optimum :
    (∃ a : Asg, Sat a (kmpeGivenLP GivenExampleMPE.inp GivenExampleMPE.ws 3) ∧
      evalTerms a (kmpeGivenLP GivenExampleMPE.inp GivenExampleMPE.ws 3).obj = 45) ∧
    (∀ a, Sat a (kmpeGivenLP GivenExampleMPE.inp GivenExampleMPE.ws 3) →
      45 ≤ evalTerms a (kmpeGivenLP GivenExampleMPE.inp GivenExampleMPE.ws 3).obj) ∧
    (GivenSolution GivenExampleMPE.inp.ei GivenExampleMPE.ws 3 GivenExampleMPE.P GivenExampleMPE.sl44 ∧
      (∀ i, i < 3 → ValidRoute GivenExampleMPE.inp.ei.fi.base GivenExampleMPE.inp.ei.fi.starts
        GivenExampleMPE.inp.ei.fi.ends (GivenExampleMPE.P i)) ∧
      totalSlack GivenExampleMPE.inp.ei.k GivenExampleMPE.sl44 = 44) ∧
    ¬ GivenBounded GivenExampleMPE.inp.ei GivenExampleMPE.ws 3 GivenExampleMPE.P GivenExampleMPE.sl44 :=
  ⟨GivenExampleMPE.sat45, GivenExampleMPE.lp_lower_bound,
    ⟨GivenExampleMPE.solution44, fun i _ => GivenExampleMPE.valid_P i, GivenExampleMPE.total44⟩,
    GivenExampleMPE.not_bounded44⟩

/-- the instance is what the constructor makes of the user's call (`k = len(ws)`, empty paths allowed,
positions encoded) -/
example : GivenExampleMPE.inp
    = { ei := ({ fi := GivenExampleMPE.fi0 } : ErrInput).forGiven GivenExampleMPE.ws } := rfl
example : GivenExampleMPE.inp.ei.k = 3 ∧ GivenExampleMPE.inp.ei.fi.cfg.allowEmpty = true ∧
    GivenExampleMPE.inp.ei.fi.cfg.encodePosition = true := ⟨rfl, rfl, rfl⟩

/-- the hypotheses of `kmpe_given_complete` hold for three routes with slacks `15, 15, 15`, total slack 45 -/
example : GivenBounded GivenExampleMPE.inp.ei GivenExampleMPE.ws 3 GivenExampleMPE.P GivenExampleMPE.sl15 :=
  GivenExampleMPE.bounded45

/-- a satisfying assignment of the given-weights LP of that instance (positions encoded), objective 45:
the hypotheses of `kmpe_given_sound` are satisfiable -/
example : ∃ a, Sat a (kmpeGivenLP GivenExampleMPE.inp GivenExampleMPE.ws 3) ∧
    evalTerms a (kmpeGivenLP GivenExampleMPE.inp GivenExampleMPE.ws 3).obj = 45 := GivenExampleMPE.sat45

/-- `kmpe_given_opt_transfer` applies to a true optimum of the instance (objective `45`, minimal by `lp_lower_bound`) -/
example : ∃ a, Sat a (kmpeGivenLP GivenExampleMPE.inp GivenExampleMPE.ws 3) ∧
    ∀ a', Sat a' (kmpeGivenLP GivenExampleMPE.inp GivenExampleMPE.ws 3) →
      evalTerms a (kmpeGivenLP GivenExampleMPE.inp GivenExampleMPE.ws 3).obj
        ≤ evalTerms a' (kmpeGivenLP GivenExampleMPE.inp GivenExampleMPE.ws 3).obj := by
  obtain ⟨a, hsat, hobj⟩ := GivenExampleMPE.sat45
  exact ⟨a, hsat, fun a' h' => by rw [hobj]; exact GivenExampleMPE.lp_lower_bound a' h'⟩

/-- `kmpe_given_factors_sound` applies to a concrete satisfying assignment of a given-weights instance *with* path-length
factors (`a → b → c`, `f = (4, 1)`, given weights `[2]`, one range with factor `2`; 25 columns and 45 rows,
checked column by column and row by row): slack `1`, scaled slack `2` -/
example := kmpe_given_factors_sound GivenExampleMPE.Factors.inp GivenExampleMPE.Factors.ws 1
  GivenExampleMPE.Factors.asg ErrExample.base_wf ErrExample.base_acyclic
  GivenExampleMPE.Factors.hyps.1 GivenExampleMPE.Factors.hyps.2.1 GivenExampleMPE.Factors.hyps.2.2.1
  GivenExampleMPE.Factors.hyps.2.2.2 GivenExampleMPE.Factors.sat

/-- it decodes to the route `a b c` -/
example : decodeLayer GivenExampleMPE.Factors.inp.ei.st
    (fun e i => GivenExampleMPE.Factors.asg (edgeVar e i)) 0 = some ["a", "b", "c"] :=
  GivenExampleMPE.Factors.decode

end FP.Props.C08
