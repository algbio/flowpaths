import FP.Proofs.SafetyFix
import FP.Proofs.SafetyExcess
import FP.Proofs.Antichain
import FP.Proofs.C06Incompat
import FP.Proofs.C06IncompatExample
/-!
# C06 — safe paths / sequences are truly safe, mutually incompatible, and prune soundly

Models: `FP/Model/Safety{Adj,Dom,Dag,Fix}.lean`; vocabulary: `FP/Spec/Safety.lean`.

Everything here holds for **all** graphs (acyclicity is never needed) and all trusted sets.

The labels of the docstrings: T1 `safe_paths`, T2 `find_all_bridges` / `find_idom`, T3 zero fixing, T4 flow-safe paths
(the two-pointer scan and the excess-flow lemma), T5 `maximal_safe_sequences_via_dominators`, T6
`get_longest_incompatible_sequences`.

The SCC numbering (`nx.condensation`) and the network simplex behind `compute_max_edge_antichain` stay oracle
parameters; their contracts are the hypotheses `SccLabelling` and `CondAntichain`, checked on every real run by
`harness/props/c06.py` (and the final result by the independent co-occurrence oracle).
-/
namespace FP.Props.C06
open FP FP.Spec FP.Safety

/-- hypotheses on an augmented graph: edges connect nodes, nothing enters the source, nothing leaves the sink
(`FP.aug_closed`, `FP.aug_srcNoIn`, `FP.aug_snkNoOut` show them for every `augment base starts ends`) -/
structure STShape (g : Graph) (s t : Node) : Prop where
  wf : GraphWF g
  noIn : g.pred s = []
  noOut : g.succ t = []

/-- **T1.** Every source-to-sink walk through `e` traverses the whole univocal extension that
`safe_paths` computes for `e` (in-degree-1 predecessors, `e`, out-degree-1 successors), contiguously. -/
theorem safe_paths_univocal (g : Graph) (s t : Node) (h : STShape g s t) (e : Edge) (p : List Edge)
    (hp : safePathOf g e = .ok p) :
    ∀ w, IsSTWalkG g s t w → e ∈ walkEdges w → OccursContiguously p w :=
  safePathOf_forced g s t h.noIn h.noOut e p hp

/-- **T1, property form.** Every path returned by `safe_paths(G, X)` is safe for `X`: it occurs in some
walk of every source-to-sink walk cover of `X`. -/
theorem safe_paths_safe (g : Graph) (s t : Node) (h : STShape g s t) (X : List Edge) (ps : List (List Edge))
    (hps : safePaths g X = .ok ps) : ∀ p ∈ ps, SafeFor g s t X p := by
  intro p hp
  obtain ⟨e, he, hpe⟩ := mapRes_mem _ _ _ hps p hp
  refine safeFor_of_forcedBy he ?_
  intro w hw ho
  exact (safe_paths_univocal g s t h e p hpe w hw (List.singleton_sublist.1 ho)).sublist

/-- **T2.** Every edge returned by `find_all_bridges(adj, s, t)` lies on every walk from `s` to `t` of the
graph given by the adjacency dict (any dict, cyclic or not). -/
theorem bridge_sound {V : Type} [DecidableEq V] (adj : Adj V) (s t : V) (bs : List (V × V)) (adj' : Adj V)
    (h : findAllBridges adj s t = .ok (bs, adj')) :
    ∀ e ∈ bs, ∀ w, IsWalkAdj adj s t w → e ∈ walkEdges w :=
  fun _ he w hw => (findAllBridges_ordered adj s h w hw.walk hw.first hw.last).subset he

/-- **T2, in order.** Every walk from `s` to `t` meets the returned bridges in the order of the list. -/
theorem bridges_in_order {V : Type} [DecidableEq V] (adj : Adj V) (s t : V) (bs : List (V × V)) (adj' : Adj V)
    (h : findAllBridges adj s t = .ok (bs, adj')) :
    ∀ w, IsWalkAdj adj s t w → bs.Sublist (walkEdges w) :=
  fun w hw => findAllBridges_ordered adj s h w hw.walk hw.first hw.last

/-- **T2 for `find_idom`.** The edge returned by `find_idom(adj, s, t)` lies on every walk from `s` to `t`. -/
theorem idom_sound {V : Type} [DecidableEq V] (adj : Adj V) (s t : V) (b : V × V) (adj' : Adj V)
    (h : findIdom adj s t = .ok (some b, adj')) :
    ∀ w, IsWalkAdj adj s t w → b ∈ walkEdges w :=
  fun w hw => List.singleton_sublist.1 (findIdom_sound adj s t b adj' h w hw.walk hw.first hw.last)

/-- graph form of T2: the bridges found from `u` to `v` in the successor dict dominate the walks of the graph from
`u` to `v`, and so do, re-reversed, those found from `v` back to `u` in the predecessor dict (the right and the left
extension that `safe_sequences` computes) -/
theorem bridge_sound_graph (g : Graph) (hg : GraphWF g) (u v : Node) (bs : List Edge) (adj' : Adj Node) :
    (findAllBridges (succAdj g) u v = .ok (bs, adj') → ∀ e ∈ bs, Dominates g u v e) ∧
    (findAllBridges (predAdj g) v u = .ok (bs, adj') → ∀ e ∈ bs, Dominates g u v (e.2, e.1)) := by
  refine ⟨fun h e he w hw => (thru_succAdj hg (findAllBridges_ordered _ _ h) w hw.walk hw.first hw.last).subset he,
    fun h e he w hw => (thru_predAdj hg (findAllBridges_ordered _ _ h) w hw.walk hw.first hw.last).subset ?_⟩
  exact List.mem_reverse.2 (List.mem_map.2 ⟨e, he, rfl⟩)

/-- **`safe_sequences` is safe.** Every sequence returned by `safe_sequences(G, items)` — left bridges,
the item, right bridges — occurs (in order, with multiplicity) in some walk of every source-to-sink walk
cover of the items; an item is an edge or a subpath constraint. -/
theorem safe_sequences_safe (g : Graph) (s t : Node) (hg : GraphWF g) (items : List (List Edge))
    (seqs : List (List Edge)) (h : safeSequences g s t items = .ok seqs) :
    ∀ q ∈ seqs, SafeForItems g s t items q := by
  intro q hq
  obtain ⟨it, hit, hqi⟩ := mapRes_mem _ _ _ h q hq
  exact safeForItems_of_forcedBy hit (safeSequenceOf_forced g hg s t it q hqi)

/-- **T3.** An edge that `_apply_safety_optimizations_fix_zero_edges` fixes to zero in slot `i` lies on no
walk of the graph that contains slot `i`'s sequence (so in particular on no source-to-sink walk). -/
theorem zero_fix_sound (g : Graph) (hg : GraphWF g) (walks : List (List Edge)) (k : Nat)
    (zs : List (Edge × Nat)) (h : zeroFix g walks k = .ok zs) :
    ∀ e i, (e, i) ∈ zs → ∀ w, IsWalkIn g w → Occurs (walks.getD i []) w → e ∉ walkEdges w :=
  fun e i hz w hw ho => zeroFix_sound g hg walks k zs h e i hz w hw fun _ hx => ho.subset hx

/-- **T5.** Every sequence returned by `maximal_safe_sequences_via_dominators(G, X)` is safe for `X`: it
occurs, in order and with multiplicity, in some walk of every source-to-sink walk cover of `X` — because it
occurs in *every* source-to-sink walk through its core, which is a member of `X`. (Any digraph, any `X`.) -/
theorem maximal_safe_sequences_safe (g : Graph) (hg : GraphWF g) (s t : Node) (X : List Edge)
    (seqs : List (List Edge)) (h : maxSafeSeqs g s t X = .ok seqs) : ∀ q ∈ seqs, SafeFor g s t X q := by
  intro q hq
  obtain ⟨c, hc, hf⟩ := maxSafeSeqs_safe g hg s t X seqs h q hq
  exact safeFor_of_forcedBy hc hf

/-- T5, sharper: every returned sequence is forced by a trusted edge (its core) -/
theorem maximal_safe_sequences_forced (g : Graph) (hg : GraphWF g) (s t : Node) (X : List Edge)
    (seqs : List (List Edge)) (h : maxSafeSeqs g s t X = .ok seqs) :
    ∀ q ∈ seqs, ∃ c ∈ X, ForcedBy g s t [c] q :=
  maxSafeSeqs_safe g hg s t X seqs h

/-- `find_idom` leaves every neighbour list with the same members (the edges of the found path move to the
end of their lists): the adjacency relation is restored -/
theorem idom_restores {V : Type} [DecidableEq V] (adj : Adj V) (s t : V) (b : Option (V × V)) (adj' : Adj V)
    (h : findIdom adj s t = .ok (b, adj')) : ∀ u v, v ∈ out adj' u ↔ v ∈ out adj u :=
  findIdom_sameOut adj s t b adj' h

/-- a flow decomposition of `f` on `g`: positively weighted walks of `g`, each ending in a node without
out-edges, whose superposition is `f` on every edge. (Every decomposition into source-to-sink paths is one;
where the walks start is irrelevant.) -/
def IsFlowDecomposition (g : Graph) (f : Edge → Rat) (D : List (List Node × Rat)) : Prop :=
  (∀ pw ∈ D, IsWalkIn g pw.1 ∧ 0 < pw.2 ∧ ∃ t, pw.1.getLast? = some t ∧ g.succ t = []) ∧
  ∀ e ∈ g.edges, f e = (D.map fun pw => ((walkEdges pw.1).count e : Rat) * pw.2).sum

/-- **T4.** Every path reported by `compute_inexact_flow_decomp_safe_paths` with `lb = ub = flow` (whatever
paths it is given to scan, as long as their edges carry positive flow — python raises otherwise) is
contained, contiguously, in some walk of **every** flow decomposition of the flow. `g` is the caller's graph,
`flow` its edge attribute. -/
theorem excess_flow_safe (g : Graph) (flow : List (Edge × Rat))
    (hkeys : ∀ e q, flow.lookup e = some q → e ∈ g.edges)
    (paths : List (List Node)) (out : List (List Edge)) (h : flowSafePaths g flow paths = .ok out)
    (D : List (List Node × Rat)) (hD : IsFlowDecomposition g (fun e => lookupD flow e 0) D) :
    ∀ P ∈ out, ∃ pw ∈ D, P <:+: walkEdges pw.1 :=
  flowSafe_in_decomposition g flow hkeys paths out h D (decomp_weaken hD.1) hD.2

/-- the excess-flow lemma behind T4: a window of positive excess flow is traversed in every decomposition -/
theorem excess_flow_lemma (g : Graph) (f : Edge → Rat) (D : List (List Node × Rat))
    (hD : IsFlowDecomposition g f D) (W : List Node) (hW : IsWalkIn g W) (hlen : 2 ≤ W.length)
    (hpos : 0 < excessOf f (fun v => ((g.outEdges v).map f).sum) W) :
    ∃ pw ∈ D, walkEdges W <:+: walkEdges pw.1 :=
  excess_positive_in_decomposition g f D (decomp_weaken hD.1) hD.2 W hW hlen hpos

/-- **T4, scan half.** The loop invariant of the two-pointer scan (`inexact_excess` is the excess flow of
`path[L..R]`, positive whenever the window is about to be reported) gives: every reported path is the edge
sequence of a window of a decomposition path with at least two nodes and **positive excess flow**
`f(v₁,v₂) − Σ_{1<i<k} (outflow(v_i) − f(v_i,v_{i+1}))`. -/
theorem excess_flow_safe_partial (g : Graph) (flow : List (Edge × Rat)) (paths : List (List Node))
    (out : List (List Edge)) (h : flowSafePaths g flow paths = .ok out) :
    ∀ P ∈ out, ∃ path ∈ paths, ∃ W : List Node, P = walkEdges W ∧ 2 ≤ W.length ∧ W <:+: path ∧
      0 < excessOf (fun e => lookupD flow e 0) (fun v => ((g.outEdges v).map fun e => lookupD flow e 0).sum) W :=
  flowSafePaths_windows g flow paths out h

/-- **T6, partial.** The sequences that `get_longest_incompatible_sequences` assembles for different slots
are pairwise never contained in one source-to-sink walk, provided (1) the members handed over by
`compute_max_edge_antichain` form an antichain (`AntichainHyp`: no source-to-sink walk traverses two graph
edges of two different members, nor two parallel graph edges of one inter-SCC member) and (2) no two input
sequences share a graph edge that lies on an inter-SCC member (`NoSharedParallel`). Hypothesis (2) cannot
be dropped: for `s→a, a⇄b, a→c, b→c, c→t` and the input `[[(a,c)], [(a,c),(c,t)]]` the real method returns
both sequences, which the walk `s a c t` contains (the library itself only passes maximal safe sequences). -/
theorem incompatible_sound_partial (c : Cond) (s t : Node) (seqs : List (List Edge))
    (anti : List (String × String)) (chosen : List (List Edge))
    (hanti : AntichainHyp c s t anti) (hshare : NoSharedParallel c seqs anti)
    (h : longestIncompatible c seqs anti = .ok chosen) :
    chosen.Pairwise fun p q => ¬ CoOccur c.g s t p q := by
  refine longestIncompatible_of_shared c s t seqs anti chosen hanti ?_ h
  intro a ha hns i j hij _ _ e he1 he2 hc _ _ _ _
  have := hshare i j hij e he1 he2 (by rw [hc]; exact ha)
  rw [hc, hns] at this; cases this

/-- the maximal safe sequences come with pairwise different cores: sequence `i` contains `core i`, occurs in
every source-to-sink walk through `core i`, and `core i ≠ core j` for `i ≠ j` (the cores are the distinct members
of `X` that `maximal_safe_sequences_via_dominators` selects) -/
theorem maximal_safe_sequences_core_family (g : Graph) (hg : GraphWF g) (s t : Node) (X : List Edge)
    (seqs : List (List Edge)) (h : maxSafeSeqs g s t X = .ok seqs) : CoreFamily g s t seqs :=
  maxSafeSeqs_coreFamily g hg s t X seqs h

/-- **contract of `compute_max_edge_antichain`, as used by T6.** If the list handed back is an edge antichain
(`IsEdgeAntichain`: pairwise, the head of none reaches the tail of another) of a graph `G` that contains the
expanded condensation, its members are pairwise unreachable in the expanded condensation. -/
theorem antichain_contract (c : Cond) (G : Graph) (anti : List (String × String))
    (hsub : ∀ e ∈ c.g.edges, c.expandedEdge e ∈ G.edges) (h : IsEdgeAntichain G anti) : CondAntichain c anti := by
  intro a ha b hb hab hr
  have hr' : Reach G.edges a.2 b.1 := Reach.mono (fun e he => by
    obtain ⟨e', he', rfl⟩ := List.mem_map.1 he
    exact hsub e' he') hr
  have hp := List.pairwise_iff_getElem.1 h.2
  obtain ⟨i, hi, rfl⟩ := List.mem_iff_getElem.1 ha
  obtain ⟨j, hj, rfl⟩ := List.mem_iff_getElem.1 hb
  rcases Nat.lt_trichotomy i j with hlt | heq | hgt
  · exact hp i j hi hj hlt (Or.inl hr')
  · subst heq; exact hab rfl
  · exact hp j i hj hi hgt (Or.inr hr')

/-- Whatever flow the solver returned, the list that the extraction modelled in C17
(`FP.Props.C17.antichain_sound`) takes from the (augmented) expanded condensation satisfies `CondAntichain`. -/
theorem antichain_contract_of_extraction (c : Cond) (a : ACInput) (A : List Edge)
    (hsub : ∀ e ∈ c.g.edges, c.expandedEdge e ∈ a.g.edges) (h : acExtract a = .ok (some A)) :
    CondAntichain c A :=
  antichain_contract c a.g A hsub (acExtract_sound a A h).choose_spec.2.2.2.2.2

/-- **projection to the expanded condensation.** A source-to-sink walk of the digraph that takes two different
graph edges takes their members of the expanded condensation in the same order; with an SCC numbering and
pairwise unreachable members, no walk traverses graph edges of two different members, nor two parallel graph
edges of one inter-SCC member (the first hypothesis of `incompatible_sound_partial`). -/
theorem antichain_hyp_of_contract (c : Cond) (s t : Node) (anti : List (String × String)) (hg : GraphWF c.g)
    (hscc : SccLabelling c) (hanti : CondAntichain c anti) : AntichainHyp c s t anti :=
  c06i_antichainHyp c s t anti hg hscc hanti

/-- **T6, for every family with pairwise different cores.** Hypotheses: edges join nodes and are distinct;
`mapping` numbers the strongly connected components (`SccLabelling`: same number iff mutually reachable, for
nodes of the graph); the input sequences are a `CoreFamily`; the members of the antichain are pairwise
unreachable in the expanded condensation (`CondAntichain`). -/
theorem incompatible_sound_family (c : Cond) (s t : Node) (seqs : List (List Edge))
    (anti : List (String × String)) (chosen : List (List Edge))
    (hg : GraphWF c.g) (hnd : c.g.edges.Nodup) (hscc : SccLabelling c) (hfam : CoreFamily c.g s t seqs)
    (hanti : CondAntichain c anti) (h : longestIncompatible c seqs anti = .ok chosen) :
    chosen.Pairwise fun p q => ¬ CoOccur c.g s t p q :=
  c06i_incompatible_family c s t seqs anti chosen hg hnd hscc hfam hanti h

/-- **T6.** The sequences that `get_longest_incompatible_sequences` assembles for different slots out of the
maximal safe sequences of the graph are pairwise never contained in one source-to-sink walk, whenever `mapping`
numbers the strongly connected components and the members obtained from `compute_max_edge_antichain` are pairwise
unreachable in the expanded condensation (`antichain_contract_of_extraction`). Any `s`, `t`, any `X`.

What replaces `NoSharedParallel` (which is false for the maximal safe sequences: every sequence of a graph with
a single source edge shares that edge, an inter-SCC member of multiplicity one that the antichain may well
contain — on the real code in about one run out of eight): a member of multiplicity one keeps one sequence
anyway; an inter-SCC edge `e` that has a parallel twin dominates nothing (`c06i_reroute`), so a sequence that
contains `e` and lies on a source-to-sink walk has the core `e` (`c06i_twin_core`), and different sequences have
different cores. Distinctness of the graph edges is needed: the multiplicity is a count over `G.edges`. -/
theorem incompatible_sound (c : Cond) (s t : Node) (X : List Edge) (seqs : List (List Edge))
    (anti : List (String × String)) (chosen : List (List Edge))
    (hg : GraphWF c.g) (hnd : c.g.edges.Nodup) (hscc : SccLabelling c)
    (hseqs : maxSafeSeqs c.g s t X = .ok seqs) (hanti : CondAntichain c anti)
    (h : longestIncompatible c seqs anti = .ok chosen) :
    chosen.Pairwise fun p q => ¬ CoOccur c.g s t p q :=
  incompatible_sound_family c s t seqs anti chosen hg hnd hscc
    (maximal_safe_sequences_core_family c.g hg s t X seqs hseqs) hanti h

/-- a DAG: the route `source → a → b` forks at `b` into `c → sink` and `d → sink` -/
def exG : Graph :=
  { nodes := ["a", "b", "c", "d", "source", "sink"],
    edges := [("a", "b"), ("b", "c"), ("b", "d"), ("c", "sink"), ("d", "sink"), ("source", "a")] }

example : safePathOf exG ("b", "c") = .ok [("source", "a"), ("a", "b"), ("b", "c"), ("c", "sink")] := by decide +kernel
example : STShape exG "source" "sink" := ⟨by unfold GraphWF; decide +kernel, by decide +kernel, by decide +kernel⟩
example : findAllBridges (succAdj exG) "a" "sink" =
    .ok ([("a", "b")], succAdj exG) := by decide +kernel
example : safeSequences exG "source" "sink" [[("b", "d")]] =
    .ok [[("source", "a"), ("a", "b"), ("b", "d"), ("d", "sink")]] := by decide +kernel

/-- a digraph with a cycle `b ⇄ c` and two exits -/
def exC : Graph :=
  { nodes := ["a", "b", "c", "d", "source", "sink"],
    edges := [("a", "b"), ("b", "c"), ("c", "b"), ("c", "d"), ("b", "sink"), ("d", "sink"), ("source", "a")] }

set_option maxRecDepth 20000 in
example : findIdom (succAdj exC) "a" "sink" =
    .ok (some ("a", "b"),
      [("a", ["b"]), ("b", ["sink", "c"]), ("c", ["b", "d"]), ("d", ["sink"]), ("source", ["a"]), ("sink", [])]) := by
  decide +kernel
set_option maxRecDepth 20000 in
example : zeroFix exC [[("c", "d")]] 1 = .ok [(("b", "sink"), 0)] := by decide +kernel
set_option maxRecDepth 100000 in
example : maxSafeSeqs exC "source" "sink" [("c", "d"), ("b", "sink")] =
    .ok [[("source", "a"), ("a", "b"), ("b", "c"), ("c", "d"), ("d", "sink")],
         [("source", "a"), ("a", "b"), ("b", "sink")]] := by decide +kernel

/-- a digraph with a cycle `x ⇄ y` that nothing enters (not reachable from the source) leading into the route
`s → a → t`: `find_idom` is run only for the edges on some source-to-sink walk (`onSomeWalk`), as the code does
(fix 4057fb6), and the others are dropped from `X` -/
def exU : Graph :=
  { nodes := ["s", "a", "t", "x", "y", "source", "sink"],
    edges := [("s", "a"), ("a", "t"), ("x", "y"), ("y", "x"), ("x", "a"), ("source", "s"), ("t", "sink")] }

set_option maxRecDepth 100000 in
example : onSomeWalk exU "source" "sink" = .ok [("s", "a"), ("a", "t"), ("source", "s"), ("t", "sink")] := by decide +kernel
set_option maxRecDepth 100000 in
example : maxSafeSeqs exU "source" "sink" exU.edges =
    .ok [[("source", "s"), ("s", "a"), ("a", "t"), ("t", "sink")]] := by decide +kernel
set_option maxRecDepth 100000 in
example : maxSafeSeqs exU "source" "sink" [("x", "y")] = .ok [] := by decide +kernel

/-- **T6 is not vacuous**: the digraph `exP` (`FP/Proofs/C06IncompatExample.lean`) has the cycle `a ⇄ b`, the two
parallel edges `a→c`, `b→c` between the components `{a,b}` and `{c}` and a second branch through `d`. With the SCC
numbering and the antichain of the real run all hypotheses of `incompatible_sound` hold, three sequences are
chosen — both sequences of the parallel edges among them, which share the inter-SCC edges `(source,a)` and
`(c,sink)` — and they pairwise share no walk. -/
example : GraphWF exP ∧ exP.edges.Nodup ∧ SccLabelling exPc ∧ CondAntichain exPc exPanti ∧
    maxSafeSeqs exPc.g "source" "sink" exP.edges = .ok exPseqs ∧
    longestIncompatible exPc exPseqs exPanti = .ok exPchosen ∧ exPchosen.length = 3 ∧
    exPchosen.Pairwise fun p q => ¬ CoOccur exP "source" "sink" p q :=
  ⟨exP_wf, exP_nodup, exP_scc, exP_anti, exP_maxSafeSeqs, exP_longest, rfl,
   incompatible_sound exPc "source" "sink" exP.edges exPseqs exPanti exPchosen exP_wf exP_nodup exP_scc
     exP_maxSafeSeqs exP_anti exP_longest⟩

/-- the second hypothesis of `incompatible_sound_partial` fails on a real run: for `exQ` (`u → v`, `u → sink`, loops
at `v` and `x`, `v → x`, `x → sink`) two maximal safe sequences share `(u, v)`, the only graph edge of a member of
the antichain that the real code obtained — while the hypotheses of `incompatible_sound` hold -/
example : maxSafeSeqs exQ "source" "sink" exQ.edges = .ok exQseqs ∧ SccLabelling exQc ∧
    CondAntichain exQc exQanti ∧ ¬ NoSharedParallel exQc exQseqs exQanti :=
  ⟨exQ_maxSafeSeqs, exQ_scc, exQ_anti, exQ_shared⟩

/-! No evaluated example for `flowSafePaths` here: `FP.Props.C05.diamond_externalOK` runs it on the diamond, and its
non-trivial runs are the K1 suite `K1.flow_safe_paths`. For `longestIncompatible` the kernel does not unfold
`mergeSort`, which is unfolded by hand in `FP/Proofs/C06IncompatExample.lean`. -/

end FP.Props.C06
