import FP.Proofs.LP
import FP.Proofs.Optimum
import FP.Proofs.C05Perm
import FP.Proofs.C05Slots
import FP.Proofs.C05Bounds
import FP.Proofs.C05Opt
import FP.Proofs.C05KCoverC
import FP.Proofs.C05KFDC
import FP.Proofs.C05DagFlowSafe
import FP.Proofs.C06IncompatExample
import FP.Proofs.DecompExample
import FP.Props.C03
import FP.Props.C04
import FP.Props.C06
import FP.Props.C09
/-!
# C05 — optimisation options never change solvability or the optimal objective

The options act in three ways: (1) they add rows / tighten bounds (`extra`) to the base LP of a
k-model, (2) they replace a row by a bound (fixing through variable bounds), (3) they let a search
accept a solution found by other means (greedy, given weights) at the `k` under test.

The safety options of the cyclic (walk) models (model `FP/Model/WalkSafetyRows.lean`, tied to the real constructors
by the K2 adapters `kcoverc_safety`, `kfdc_safety`): the LPs are invariant under permutations of the layers (T1),
every solution can be re-indexed so that slot `j` contains the safe sequence handed to it (T2), hence the rows of
the fragment change neither feasibility nor the minimum (T3), and safe sequences can be appended as subset
constraints (T4). For `kPathCoverCycles` (feasibility and minimum) and `kFlowDecompCycles` without given weights
(feasibility; the k-model has no objective) this covers every subset of the six flags, given what C06 proves about
the computed data (`SafetyData`). The `…_pipeline` forms speak of the fragment that `safetyPipeline` computes, under
the hypotheses of C06's `incompatible_sound_partial` (`AntichainHyp`, `NoSharedParallel`); the `…_full` forms under
the contracts of the two oracle parameters only (C06 `incompatible_sound`): `mapping` numbers the strongly connected
components (`SccLabelling`) and the captured antichain is pairwise unreachable in the expanded condensation
(`CondAntichain`, which C17 proves for the extraction).

The safety options of the DAG (path) models (model `FP/Model/PathSafetyRows.lean`, adapters `kfd_safety`,
`kcover_safety`, `klae_safety`, `kmpe_safety`): `AbstractPathModelDAG.create_solver_and_paths` never calls
`_apply_safety_optimizations`, so the six flags reach the LP in one way only: under
`optimize_with_safety_as_subpath_constraints` the safe lists assembled by `__init__` join the subpath constraints.
Every such list runs inside one layer of every solution whose layers use all trusted edges, so appending the lists
keeps the LP satisfiable and dropping them keeps the same assignment feasible; for `kPathCover` and `kFlowDecomp`
"every trusted edge is used by some path of every solution" is derived from the LP. `kFlowDecomp`'s flow-safe paths
(`external_safe_paths`) are handed over only when nothing is ignored (`kfdExternalOK`) and then lie in some path of
every solution.

Not covered by theorems (oracle only, see `harness/props/c05.py`): the error models' instances of the generic
theorems, `kFlowDecompCycles` with `given_weights` (the rows `weights_i = w_i` are not layer-symmetric; the library
uses that configuration only as a heuristic upper bound), the DAG models with given weights, lower-bound options.
-/
namespace FP.Props.C05
open FP FP.Spec

/-- `v` is the minimum of `obj` over the feasible set `P` (attained) -/
abbrev IsMin {α} (P : α → Prop) (obj : α → Rat) (v : Rat) : Prop := FP.Spec.IsMin P obj v

/-- Optimum preservation. If every base-feasible point can be mapped to a base-feasible point
with the same objective that also satisfies the extra constraints, then adding the extra
constraints changes neither feasibility nor the optimal value. -/
theorem opt_preserved {α} (Base Extra : α → Prop) (obj : α → Rat)
    (h : ∀ s, Base s → ∃ s', Base s' ∧ Extra s' ∧ obj s' = obj s) :
    ((∃ s, Base s) ↔ (∃ s, Base s ∧ Extra s)) ∧
    (∀ v, IsMin Base obj v ↔ IsMin (fun s => Base s ∧ Extra s) obj v) :=
  FP.c05_opt_transfer Base (fun s => Base s ∧ Extra s) obj obj
    (fun s hs => let ⟨s', h1, h2, h3⟩ := h s hs; ⟨s', ⟨h1, h2⟩, h3⟩) (fun s hs => ⟨s, hs.1, rfl⟩)

/-- the feasible set of `base ++ extra` is the intersection of the two feasible sets -/
theorem sat_append (a : Asg) (l1 l2 : LP) : Sat a (l1.append l2) ↔ Sat a l1 ∧ Sat a l2 :=
  FP.sat_append_iff a l1 l2

/-- raising the lower bound of a column to `m` (what `queue_set_var_lower_bound` + an exact batch
update does, C12) admits exactly the assignments that the row `x ≥ m` admits -/
theorem lowerBound_row_equiv (a : Asg) (c : Col) (m : Rat) (hm : c.lb ≤ m) :
    ({ c with lb := m } : Col).holds a ↔ (c.holds a ∧ (rowGe [(1, c.v)] m).holds a) :=
  FP.lowerBound_row_equiv a c m hm

/-- fixing a column to `v` through its bounds admits exactly what the row `x = v` admits
(for `v` inside the original bounds) -/
theorem fix_row_equiv (a : Asg) (c : Col) (v : Rat) (hl : c.lb ≤ v) (hu : ∀ u, c.ub = some u → v ≤ u) :
    ({ c with lb := v, ub := some v } : Col).holds a ↔ (c.holds a ∧ (rowEq [(1, c.v)] v).holds a) :=
  FP.fix_row_equiv a c v hl hu

open FP.Search

/-- A search that, at iteration `k`, may accept a ready-made solution (`shortcut k = true`)
instead of asking the solver. -/
def shortcutLoop (σ : Nat → Status) (shortcut : Nat → Bool) : Nat → Nat → Option Nat
  | 0, _ => none
  | n+1, k =>
    if shortcut k then some k else
    match σ k with
    | .optimal => some k
    | .infeasible => shortcutLoop σ shortcut n (k+1)
    | .other => none

/-- Shortcuts do not change the answer. If a shortcut is only ever offered at a `k` whose
k-model is feasible (the ready-made solution *is* a solution with exactly `k` routes — the code
checks `len(paths) == k`), the search with shortcuts returns what the plain search returns. -/
theorem shortcut_preserves_search (σ : Nat → Status) (shortcut : Nat → Bool)
    (h : ∀ k, shortcut k = true → σ k = .optimal) :
    ∀ n k, shortcutLoop σ shortcut n k = (stopLoop σ n k []).solved := by
  intro n k
  fun_induction shortcutLoop σ shortcut n k with
  | case1 => rfl
  | case2 n k hs => rw [stopLoop, h k hs]
  | case3 n k hs hk => rw [stopLoop, hk]
  | case4 n k hs hk ih =>
    rw [stopLoop, hk, ih]
    exact (stopLoop_solved σ n (k+1) _).trans (stopLoop_solved σ n (k+1) _).symm
  | case5 n k hs hk => rw [stopLoop, hk]

open FP.Safety

/-- C06 `incompatible_sound` as a property of the sequences handed to the slots: no source-to-sink walk contains two
of them -/
def PairwiseIncompatible (s : STGraph) (seqs : List (List Edge)) : Prop :=
  seqs.Pairwise fun p q => ¬ CoOccur s.g s.source s.sink p q

/-- T1. `create_solver_and_walks` without safety options: a satisfying assignment
stays one when the layers are permuted (what the rows and columns of a layer say reads the columns of that layer
only; the rows 7b sum over all layers). -/
theorem layer_perm_invariant (s : STGraph) (c : WalkCfg) (ub : Edge → Rat) (a : Asg) (π : LayerPerm c.k)
    (h : Sat a (walkCore s c ub)) : Sat (a ∘ permLayers π.fwd) (walkCore s c ub) :=
  FP.walkCore_perm s c ub a π _ (permLayers_isLayerRenaming π.fwd) h

/-- T1 for `kPathCoverCycles`: feasibility and the objective (total number of edge traversals) -/
theorem layer_perm_invariant_kcoverc (inp : WalkInput) (a : Asg) (π : LayerPerm inp.k)
    (h : Sat a (kcovercLP inp)) :
    Sat (a ∘ permLayers π.fwd) (kcovercLP inp) ∧
    evalTerms (a ∘ permLayers π.fwd) (kcovercLP inp).obj = evalTerms a (kcovercLP inp).obj :=
  FP.kcovercLP_perm inp a π _ (permLayers_isLayerRenaming π.fwd) h

/-- T1 for `kFlowDecompCycles` (no given weights; the k-model has no objective). The renaming `permLayersK` also
moves the weight columns and the bit / component columns of the product blocks, whose names contain the layer. -/
theorem layer_perm_invariant_kfdc (inp : WalkInput) (hinj : NameInj inp) (a : Asg) (π : LayerPerm inp.k)
    (h : Sat a (kfdcLP inp none)) :
    Sat (a ∘ permLayersK inp π.fwd) (kfdcLP inp none) ∧
    (∀ e i, (a ∘ permLayersK inp π.fwd) (edgeVar e i) = a (edgeVar e (π.fwd i))) ∧
    (∀ i, (a ∘ permLayersK inp π.fwd) (weightsVar i) = a (weightsVar (π.fwd i))) :=
  ⟨FP.kfdcLP_perm inp hinj a π h, fun _ _ => rfl, fun i => by
    show a (permLayersK inp π.fwd (weightsVar i)) = _
    rw [permLayersK_weights]⟩

/-- T2. `a` satisfies `_encode_walks` and traverses every trusted edge
in some layer (cover rows of `kPathCoverCycles`; positive flow for `kFlowDecompCycles`). The sequences are safe
for the trusted edges (C06 `maximal_safe_sequences_safe`), pairwise incompatible (C06 `incompatible_sound`), the
zero-fixed keys sound (C06 `zero_fix_sound`). Then some
permutation of the layers makes slot `j`'s walk contain `seqs[j]` with multiplicity (`x(e,j) ≥ m`), use every
edge of it outside the SCCs exactly once (`x(e,j) = 1`) and no zero-fixed edge (`x(e,j) = 0`) — all rows of the
fragment hold for the permuted assignment, whatever the flags. -/
theorem safety_rows_satisfiable_after_perm (s : STGraph) (c : WalkCfg) (ub : Edge → Rat) (a : Asg)
    (hwf : STWFc s) (hsat : Sat a (encodeWalks s c ub)) (X : List Edge) (hX : ∀ x ∈ X, x ∈ s.g.edges)
    (hcover : ∀ x ∈ X, ∃ i, i < c.k ∧ 1 ≤ a (edgeVar x i))
    (seqs : List (List Edge)) (hsafe : ∀ q ∈ seqs, SafeFor s.g s.source s.sink X q)
    (hinc : PairwiseIncompatible s seqs) (zs : List (Edge × Nat)) (hzs : ZeroSound s.g seqs c.k zs) :
    ∃ π : LayerPerm c.k, SlotsFit s a c.k seqs zs π ∧
      ∀ (safe : List (List Edge)) (o : SafetyOpts),
        ∀ r ∈ (safetyExtra s c.k safe seqs zs o).asRows, r.holds (a ∘ permLayers π.fwd) := by
  obtain ⟨π, hfit⟩ := FP.slotsFit_exists hwf hsat X hX hcover seqs hsafe hinc zs hzs
  exact ⟨π, hfit, fun safe o => FP.safetyRows_hold hfit _ (permLayers_isLayerRenaming π.fwd)
    (FP.safetyExtra_shape s c.k safe seqs zs o)⟩

/-- the zero-fixed keys computed by `_apply_safety_optimizations_fix_zero_edges` are sound (C06 `zero_fix_sound`) -/
theorem zero_fix_keys_sound (g : Graph) (hg : GraphWF g) (seqs : List (List Edge)) (k : Nat)
    (zs : List (Edge × Nat)) (h : zeroFix g seqs k = .ok zs) : ZeroSound g seqs k zs :=
  FP.zeroSound_of_zeroFix hg seqs h

/-- T3, generic. For every model on top of `_encode_walks` whose feasible
set `Base` and objective `obj` are invariant under permutations of the layers and whose solutions traverse
every edge of `X`: adding the rows of the safety fragment (any flags) changes neither feasibility nor the
minimum. (T1 + T2 + `opt_preserved`.) -/
theorem safety_options_preserve_optimum (s : STGraph) (c : WalkCfg) (ub : Edge → Rat) (hwf : STWFc s)
    (Base : Asg → Prop) (obj : Asg → Rat) (X : List Edge) (hX : ∀ x ∈ X, x ∈ s.g.edges)
    (hcore : ∀ a, Base a → Sat a (encodeWalks s c ub))
    (hcover : ∀ a, Base a → ∀ x ∈ X, ∃ i, i < c.k ∧ 1 ≤ a (edgeVar x i))
    (hsym : ∀ a (π : LayerPerm c.k), Base a →
      Base (a ∘ permLayers π.fwd) ∧ obj (a ∘ permLayers π.fwd) = obj a)
    (seqs : List (List Edge)) (hsafe : ∀ q ∈ seqs, SafeFor s.g s.source s.sink X q)
    (hinc : PairwiseIncompatible s seqs)
    (zs : List (Edge × Nat)) (hzs : ZeroSound s.g seqs c.k zs) (safe : List (List Edge)) (o : SafetyOpts) :
    ((∃ a, Base a) ↔ (∃ a, Base a ∧ ∀ r ∈ (safetyExtra s c.k safe seqs zs o).asRows, r.holds a)) ∧
    (∀ v, IsMin Base obj v ↔
      IsMin (fun a => Base a ∧ ∀ r ∈ (safetyExtra s c.k safe seqs zs o).asRows, r.holds a) obj v) := by
  apply opt_preserved
  intro a ha
  obtain ⟨π, _, hrows⟩ := safety_rows_satisfiable_after_perm s c ub a hwf (hcore a ha) X hX (hcover a ha) seqs hsafe
    hinc zs hzs
  obtain ⟨h1, h2⟩ := hsym a π ha
  exact ⟨a ∘ permLayers π.fwd, h1, hrows safe o, h2⟩

/-- `optimize_with_safe_sequences_fix_via_bounds`: the LP with the queued bound
changes flushed admits exactly the assignments of the LP with the corresponding rows. -/
theorem bounds_variant_equiv (s : STGraph) (c : WalkCfg) (ub : Edge → Rat) (safe seqs : List (List Edge))
    (zs : List (Edge × Nat)) (o : SafetyOpts)
    (hE : ∀ q ∈ seqs, ∀ e ∈ q, e ∈ s.g.edges)
    (hub1 : ∀ e ∈ s.g.edges, isSccEdge s.g e = false → 1 ≤ ub e) (a : Asg) :
    Sat a (walkCoreS s c ub (safetyExtra s c.k safe seqs zs o)) ↔
      Sat a (walkCoreS s c ub (SafetyFrag.rowVariant (safetyExtra s c.k safe seqs zs o))) :=
  FP.bounds_variant_equiv s c ub _ ((FP.safetyExtra_shape s c.k safe seqs zs o).boundsOK hE hub1) a

/-- what the LP with a fragment says: `_encode_walks`, the rows of the fragment (row variant), and the subset
block on the extended list of constraints -/
theorem sat_walkCoreS (s : STGraph) (c : WalkCfg) (ub : Edge → Rat) (fr : SafetyFrag)
    (hok : BoundsOK s c.k ub fr) (a : Asg) :
    Sat a (walkCoreS s c ub fr) ↔
      Sat a (encodeWalks s c ub) ∧ (∀ r ∈ fr.asRows, r.holds a) ∧
      Sat a (subsetBlock s (c.withSafety fr) ub) :=
  FP.sat_walkCoreS_iff s c ub fr hok a

/-- T4. `optimize_with_safety_as_subset_constraints` /
`optimize_with_max_safe_antichain_as_subset_constraints`: appending subset constraints each of which some layer
traverses completely (a safe sequence is contained in some walk of every solution, C06
`maximal_safe_sequences_safe`) keeps the LP satisfiable; only the `r` and `used_edge` columns get new values
(`subsetAsg`). This is the completeness of the subset block for appended constraints (C10's
`subset_constraint_complete` is the general form). -/
theorem subset_variants_extend (s : STGraph) (c : WalkCfg) (ub : Edge → Rat) (a : Asg) (E : List (List Edge))
    (hsat : Sat a (walkCore s c ub))
    (hcons : ∀ con ∈ c.constraints, ∀ e ∈ con, e ∈ s.g.edges)
    (hcov1 : c.coverage ≤ 1)
    (hE : ∀ q ∈ E, ∃ i, i < c.k ∧ ∀ e ∈ q, e ∈ s.g.edges ∧ 1 ≤ a (edgeVar e i)) :
    Sat (subsetAsg a (c.constraints ++ E) c.coverage)
      (walkCore s { c with constraints := c.constraints ++ E } ub) ∧
    (∀ e i, subsetAsg a (c.constraints ++ E) c.coverage (edgeVar e i) = a (edgeVar e i)) :=
  ⟨FP.subset_extend s c ub a E hsat hcons hcov1 hE, fun e i => FP.subsetAsg_edge a _ _ e i⟩

/-- dropping appended constraints keeps an assignment feasible -/
theorem subset_variants_drop (s : STGraph) (c : WalkCfg) (ub : Edge → Rat) (a : Asg) (E : List (List Edge))
    (h : Sat a (subsetBlock s { c with constraints := c.constraints ++ E } ub)) :
    Sat a (subsetBlock s c ub) :=
  FP.subsetBlock_drop s c ub a E h

/-- C05 for `kPathCoverCycles`, every subset of the six safety flags. With what C06 proves about the computed
data (`SafetyData`: safety of the maximal safe sequences and of those handed to the slots, their pairwise
incompatibility, soundness of the zero-fixed keys), the documented
requirements on subset constraints (edges of the graph, coverage `≤ 1`) and a well-formed input graph: the LP
built with the options (`kcovercLPS`, which K2 ties to the real constructor) is feasible iff the LP without
them is, and both have the same minimal objective. -/
theorem kcoverc_safety_options_preserve_optimum (inp : WalkInput) (hb : BaseWF inp.base)
    (safe seqs : List (List Edge)) (zs : List (Edge × Nat))
    (D : SafetyData inp.st inp.k (kcovercTrusted inp) safe seqs zs) (o : SafetyOpts)
    (hcons : ∀ con ∈ inp.cfg.constraints, ∀ e ∈ con, e ∈ inp.st.g.edges)
    (hcov1 : inp.cfg.coverage ≤ 1) :
    ((∃ a, Sat a (kcovercLP inp)) ↔ (∃ a, Sat a (kcovercLPS inp (safetyExtra inp.st inp.k safe seqs zs o)))) ∧
    (∀ v, IsMin (fun a => Sat a (kcovercLP inp)) (fun a => evalTerms a (kcovercLP inp).obj) v ↔
      IsMin (fun a => Sat a (kcovercLPS inp (safetyExtra inp.st inp.k safe seqs zs o)))
        (fun a => evalTerms a (kcovercLPS inp (safetyExtra inp.st inp.k safe seqs zs o)).obj) v) :=
  c05w_generic_preserves (c := inp.cfg) (ub := kcovercCap inp) hb.stwfc (kcovercTrusted inp)
    (fun x hx => (List.mem_filter.1 hx).1) safe seqs zs D _ (safetyExtra_shape inp.st inp.k safe seqs zs o) hcons hcov1
    (fun e he h => by rw [kcovercCap_nonScc inp e he h]; exact Rat.le_refl) _ _ (kcoverc_walkRest inp _)

/-- the computed data satisfies `SafetyData` (C06 `maximal_safe_sequences_safe`, `incompatible_sound_partial`
under its hypotheses, `zero_fix_sound`) -/
theorem pipeline_data_sound (s : STGraph) (hg : GraphWF s.g) (k : Nat) (X T : List Edge)
    (hXT : ∀ x ∈ X, x ∈ T) (mapping : List (Node × Nat)) (anti : List (String × String)) (o : SafetyOpts)
    (fr : SafetyFrag) (h : safetyPipeline s k X mapping anti o = .ok fr)
    (hanti : AntichainHyp ⟨s.g, mapping⟩ s.source s.sink anti)
    (hshare : ∀ safe, maxSafeSeqs s.g s.source s.sink X = .ok safe → NoSharedParallel ⟨s.g, mapping⟩ safe anti) :
    ∃ safe seqs zs, fr = safetyExtra s k safe seqs zs o ∧ SafetyData s k T safe seqs zs :=
  FP.safetyData_of_pipeline_of s hg k X T hXT mapping anti o fr h fun safe walks hsafe hwalks =>
    C06.incompatible_sound_partial ⟨s.g, mapping⟩ s.source s.sink safe anti walks hanti (hshare safe hsafe) hwalks

/-- the same for the fragment that `_apply_safety_optimizations` computes (`safetyPipeline`: maximal safe
sequences, longest incompatible sequences with the captured SCC numbering and antichain, zero-fixing), under
the two hypotheses of C06's `incompatible_sound_partial` -/
theorem kcoverc_safety_pipeline_preserves_optimum (inp : WalkInput) (hb : BaseWF inp.base) (X : List Edge)
    (hX : ∀ x ∈ X, x ∈ kcovercTrusted inp) (mapping : List (Node × Nat)) (anti : List (String × String))
    (o : SafetyOpts) (fr : SafetyFrag) (h : safetyPipeline inp.st inp.k X mapping anti o = .ok fr)
    (hanti : AntichainHyp ⟨inp.st.g, mapping⟩ inp.st.source inp.st.sink anti)
    (hshare : ∀ safe, maxSafeSeqs inp.st.g inp.st.source inp.st.sink X = .ok safe →
      NoSharedParallel ⟨inp.st.g, mapping⟩ safe anti)
    (hcons : ∀ con ∈ inp.cfg.constraints, ∀ e ∈ con, e ∈ inp.st.g.edges)
    (hcov1 : inp.cfg.coverage ≤ 1) :
    ((∃ a, Sat a (kcovercLP inp)) ↔ (∃ a, Sat a (kcovercLPS inp fr))) ∧
    (∀ v, IsMin (fun a => Sat a (kcovercLP inp)) (fun a => evalTerms a (kcovercLP inp).obj) v ↔
      IsMin (fun a => Sat a (kcovercLPS inp fr)) (fun a => evalTerms a (kcovercLPS inp fr).obj) v) := by
  obtain ⟨safe, seqs, zs, rfl, D⟩ := pipeline_data_sound inp.st hb.stwfc.closed inp.k X (kcovercTrusted inp) hX
    mapping anti o fr h hanti hshare
  exact kcoverc_safety_options_preserve_optimum inp hb safe seqs zs D o hcons hcov1

/-- C05 for `kFlowDecompCycles` (no given weights), every subset of the six safety flags. The k-model has no
objective; the model with the options — bound changes, extra rows, appended subset constraints and the
simplified product rows `pi = 0` / `pi = weight` for the keys of `edges_set_to_zero` / `edges_set_to_one` — is
feasible iff the model without them is. `NameInj`: the product blocks have different names (as in C04);
`hwm`: `w_max > 0` as soon as some non-ignored edge carries flow. -/
theorem kfdc_safety_options_preserve_feasibility (inp : WalkInput) (hb : BaseWF inp.base) (hinj : NameInj inp)
    (safe seqs : List (List Edge)) (zs : List (Edge × Nat))
    (D : SafetyData inp.st inp.k (kfdcTrusted inp) safe seqs zs) (o : SafetyOpts)
    (hcons : ∀ con ∈ inp.cfg.constraints, ∀ e ∈ con, e ∈ inp.st.g.edges)
    (hcov1 : inp.cfg.coverage ≤ 1)
    (hwm : kfdcTrusted inp ≠ [] → 0 < inp.wmax false) :
    (∃ a, Sat a (kfdcLP inp none)) ↔
      (∃ a, Sat a (kfdcLPS inp none (safetyExtra inp.st inp.k safe seqs zs o))) := by
  -- a slot's sequence is safe for the trusted edges, so there is a trusted edge: the empty family covers the empty
  -- `X`, and no member of it contains the sequence
  have hT : seqs ≠ [] → kfdcTrusted inp ≠ [] := by
    intro hs hnil
    obtain ⟨q, hq⟩ := List.exists_mem_of_ne_nil _ hs
    have hsf := D.seqsOK q hq
    rw [hnil] at hsf
    obtain ⟨w, hw, _⟩ := hsf [] (fun _ h => nomatch h) (fun _ h => nomatch h)
    cases hw
  rw [kfdcLP_none, kfdcLPS_none]
  exact (c05w_generic_preserves (c := inp.cfg) (ub := kfdcCap inp) hb.stwfc
    (kfdcTrusted inp) (fun x hx => (List.mem_filter.1 (List.mem_filter.1 hx).1).1) safe seqs zs D _
    (safetyExtra_shape inp.st inp.k safe seqs zs o) hcons hcov1
    (kfdcCap_one_le inp) _ _
    (kfdc_walkRest inp hinj (safetyExtra_shape inp.st inp.k safe seqs zs o) fun hs => hwm (hT hs))).1

/-- the same for the fragment that `safetyPipeline` computes, under the two hypotheses of C06's
`incompatible_sound_partial` -/
theorem kfdc_safety_pipeline_preserves_feasibility (inp : WalkInput) (hb : BaseWF inp.base)
    (hinj : NameInj inp) (X : List Edge) (hX : ∀ x ∈ X, x ∈ kfdcTrusted inp) (mapping : List (Node × Nat))
    (anti : List (String × String)) (o : SafetyOpts) (fr : SafetyFrag)
    (h : safetyPipeline inp.st inp.k X mapping anti o = .ok fr)
    (hanti : AntichainHyp ⟨inp.st.g, mapping⟩ inp.st.source inp.st.sink anti)
    (hshare : ∀ safe, maxSafeSeqs inp.st.g inp.st.source inp.st.sink X = .ok safe →
      NoSharedParallel ⟨inp.st.g, mapping⟩ safe anti)
    (hcons : ∀ con ∈ inp.cfg.constraints, ∀ e ∈ con, e ∈ inp.st.g.edges)
    (hcov1 : inp.cfg.coverage ≤ 1)
    (hwm : kfdcTrusted inp ≠ [] → 0 < inp.wmax false) :
    (∃ a, Sat a (kfdcLP inp none)) ↔ (∃ a, Sat a (kfdcLPS inp none fr)) := by
  obtain ⟨safe, seqs, zs, rfl, D⟩ := pipeline_data_sound inp.st hb.stwfc.closed inp.k X (kfdcTrusted inp) hX
    mapping anti o fr h hanti hshare
  exact kfdc_safety_options_preserve_feasibility inp hb hinj safe seqs zs D o hcons hcov1 hwm

/-! ### the pipeline under the contracts of its two oracle parameters (C06 `incompatible_sound`)

`NoSharedParallel` is not a property of the maximal safe sequences (C06, `exQ_shared`). The hypotheses here are
those that the harness checks on every real run: `mapping` is an SCC numbering and the captured antichain is pairwise
unreachable in the expanded condensation. The sequences handed to `get_longest_incompatible_sequences` are the ones
`safetyPipeline` computes itself. -/

/-- the computed data satisfies `SafetyData` (C06 `maximal_safe_sequences_safe`, `incompatible_sound`,
`zero_fix_sound`); `hnd`: the graph edges are distinct -/
theorem pipeline_data_sound_full (s : STGraph) (hg : GraphWF s.g) (hnd : s.g.edges.Nodup) (k : Nat)
    (X T : List Edge) (hXT : ∀ x ∈ X, x ∈ T) (mapping : List (Node × Nat)) (anti : List (String × String))
    (o : SafetyOpts) (fr : SafetyFrag) (h : safetyPipeline s k X mapping anti o = .ok fr)
    (hscc : SccLabelling ⟨s.g, mapping⟩) (hanti : CondAntichain ⟨s.g, mapping⟩ anti) :
    ∃ safe seqs zs, fr = safetyExtra s k safe seqs zs o ∧ SafetyData s k T safe seqs zs :=
  FP.safetyData_of_pipeline_of s hg k X T hXT mapping anti o fr h fun safe walks hsafe hwalks =>
    C06.incompatible_sound ⟨s.g, mapping⟩ s.source s.sink X safe anti walks hg hnd hscc hsafe hanti hwalks

/-- `kcoverc_safety_pipeline_preserves_optimum` with `SccLabelling` and `CondAntichain` in place of `AntichainHyp`
and `NoSharedParallel` -/
theorem kcoverc_safety_pipeline_preserves_optimum_full (inp : WalkInput) (hb : BaseWF inp.base) (X : List Edge)
    (hX : ∀ x ∈ X, x ∈ kcovercTrusted inp) (mapping : List (Node × Nat)) (anti : List (String × String))
    (o : SafetyOpts) (fr : SafetyFrag) (h : safetyPipeline inp.st inp.k X mapping anti o = .ok fr)
    (hscc : SccLabelling ⟨inp.st.g, mapping⟩) (hanti : CondAntichain ⟨inp.st.g, mapping⟩ anti)
    (hcons : ∀ con ∈ inp.cfg.constraints, ∀ e ∈ con, e ∈ inp.st.g.edges)
    (hcov1 : inp.cfg.coverage ≤ 1) :
    ((∃ a, Sat a (kcovercLP inp)) ↔ (∃ a, Sat a (kcovercLPS inp fr))) ∧
    (∀ v, IsMin (fun a => Sat a (kcovercLP inp)) (fun a => evalTerms a (kcovercLP inp).obj) v ↔
      IsMin (fun a => Sat a (kcovercLPS inp fr)) (fun a => evalTerms a (kcovercLPS inp fr).obj) v) := by
  have hwf : STWFc inp.st := hb.stwfc
  obtain ⟨safe, seqs, zs, rfl, D⟩ := pipeline_data_sound_full inp.st hwf.closed hwf.edgesNodup inp.k X
    (kcovercTrusted inp) hX mapping anti o fr h hscc hanti
  exact kcoverc_safety_options_preserve_optimum inp hb safe seqs zs D o hcons hcov1

/-- `kfdc_safety_pipeline_preserves_feasibility` with `SccLabelling` and `CondAntichain` in place of `AntichainHyp`
and `NoSharedParallel` -/
theorem kfdc_safety_pipeline_preserves_feasibility_full (inp : WalkInput) (hb : BaseWF inp.base)
    (hinj : NameInj inp) (X : List Edge) (hX : ∀ x ∈ X, x ∈ kfdcTrusted inp) (mapping : List (Node × Nat))
    (anti : List (String × String)) (o : SafetyOpts) (fr : SafetyFrag)
    (h : safetyPipeline inp.st inp.k X mapping anti o = .ok fr)
    (hscc : SccLabelling ⟨inp.st.g, mapping⟩) (hanti : CondAntichain ⟨inp.st.g, mapping⟩ anti)
    (hcons : ∀ con ∈ inp.cfg.constraints, ∀ e ∈ con, e ∈ inp.st.g.edges)
    (hcov1 : inp.cfg.coverage ≤ 1)
    (hwm : kfdcTrusted inp ≠ [] → 0 < inp.wmax false) :
    (∃ a, Sat a (kfdcLP inp none)) ↔ (∃ a, Sat a (kfdcLPS inp none fr)) := by
  have hwf : STWFc inp.st := hb.stwfc
  obtain ⟨safe, seqs, zs, rfl, D⟩ := pipeline_data_sound_full inp.st hwf.closed hwf.edgesNodup inp.k X
    (kfdcTrusted inp) hX mapping anti o fr h hscc hanti
  exact kfdc_safety_options_preserve_feasibility inp hb hinj safe seqs zs D o hcons hcov1 hwm

/-- the `…_full` forms are not vacuous: on the digraph `exP` of C06 (cycle `a ⇄ b`, parallel edges `a→c`, `b→c`,
second branch through `d`; SCC numbering and antichain of the real run, `k = 3`, all row-producing flags on) the
pipeline runs through — three sequences are handed to the slots, twelve edge variables are fixed to zero — both
contracts hold, and the computed data satisfies `SafetyData` -/
example : safetyPipeline exPst 3 exP.edges exPc.mapping exPanti exPopts =
      .ok (safetyExtra exPst 3 exPseqs exPchosen exPzero exPopts) ∧
    SccLabelling ⟨exPst.g, exPc.mapping⟩ ∧ CondAntichain ⟨exPst.g, exPc.mapping⟩ exPanti ∧
    ∃ safe seqs zs, safetyExtra exPst 3 exPseqs exPchosen exPzero exPopts = safetyExtra exPst 3 safe seqs zs exPopts ∧
      SafetyData exPst 3 exP.edges safe seqs zs :=
  ⟨exP_pipeline, exP_scc, exP_anti,
   pipeline_data_sound_full exPst exP_wf exP_nodup 3 exP.edges exP.edges (fun _ h => h) exPc.mapping exPanti exPopts _
     exP_pipeline exP_scc exP_anti⟩

/-! Non-vacuity: the README graph `s→a, a⇄b, a→t` (flows 1, 2, 2, 1; `k = 1`) -/

/-- its maximal safe sequence: the whole walk once round the cycle -/
def readmeSeq : List (List Edge) :=
  [[("source", "s"), ("s", "a"), ("a", "b"), ("b", "a"), ("a", "t"), ("t", "sink")]]

/-- all row-producing flags on -/
def readmeOpts : SafetyOpts := { safeSequences := true, allowGeq := true, fixZero := true }

/-- what the safety code computes on the README instance, in one kernel evaluation (the augmented graph and its
dominator data are built once) -/
theorem readme_table :
    maxSafeSeqs FP.Props.C04.readmeInp.st.g "source" "sink" (kfdcTrusted FP.Props.C04.readmeInp) = .ok readmeSeq ∧
    zeroFix FP.Props.C04.readmeInp.st.g readmeSeq 1 = .ok [] ∧
    (safetyExtra FP.Props.C04.readmeInp.st 1 readmeSeq readmeSeq [] readmeOpts).one
      = [(("source", "s"), 0), (("s", "a"), 0), (("a", "t"), 0), (("t", "sink"), 0)] ∧
    (geqEntries FP.Props.C04.readmeInp.st.g 1 readmeSeq).map (fun p => (p.1, p.2.1, p.2.2))
      = [(("a", "b"), 0, 1), (("b", "a"), 0, 1)] := by decide +kernel

theorem readme_maxSafeSeqs :
    maxSafeSeqs FP.Props.C04.readmeInp.st.g "source" "sink" (kfdcTrusted FP.Props.C04.readmeInp) = .ok readmeSeq :=
  readme_table.1

theorem readme_zeroFix : zeroFix FP.Props.C04.readmeInp.st.g readmeSeq 1 = .ok [] := readme_table.2.1

theorem readme_data :
    SafetyData FP.Props.C04.readmeInp.st FP.Props.C04.readmeInp.k (kfdcTrusted FP.Props.C04.readmeInp)
      readmeSeq readmeSeq [] := by
  have hwf : STWFc FP.Props.C04.readmeInp.st := FP.Props.C04.readme_wf.stwfc
  have hsafe := FP.Props.C06.maximal_safe_sequences_safe _ hwf.closed "source" "sink" _ _ readme_maxSafeSeqs
  exact ⟨hsafe, hsafe, by decide +kernel, List.pairwise_singleton _ _,
    FP.zeroSound_of_zeroFix hwf.closed _ readme_zeroFix⟩

/-- the fragment has six rows: `x = 1` on the four edges outside the cycle, `x ≥ 1` on `a→b`, `b→a` -/
example : (safetyExtra FP.Props.C04.readmeInp.st 1 readmeSeq readmeSeq [] readmeOpts).one
    = [(("source", "s"), 0), (("s", "a"), 0), (("a", "t"), 0), (("t", "sink"), 0)] := readme_table.2.2.1
example : (geqEntries FP.Props.C04.readmeInp.st.g 1 readmeSeq).map (fun p => (p.1, p.2.1, p.2.2))
    = [(("a", "b"), 0, 1), (("b", "a"), 0, 1)] := readme_table.2.2.2

/-- the README instance is feasible without the options (C04), hence — by the theorem — with them -/
example : ∃ a, Sat a (kfdcLPS FP.Props.C04.readmeInp none
    (safetyExtra FP.Props.C04.readmeInp.st 1 readmeSeq readmeSeq [] readmeOpts)) := by
  have hbase : ∃ a, Sat a (kfdcLP FP.Props.C04.readmeInp none) := FP.Props.C04.readme_feasible1
  exact (kfdc_safety_options_preserve_feasibility FP.Props.C04.readmeInp FP.Props.C04.readme_wf
    FP.Props.C04.readme_names readmeSeq readmeSeq [] readme_data readmeOpts
    (fun _ h => nomatch h) (by decide +kernel) (fun _ => by decide +kernel)).1 hbase

/-- Whatever safe lists were computed and whatever the other five flags say:
without `optimize_with_safety_as_subpath_constraints` the LP that the constructor of each of the four DAG classes
builds (K2: `kfdLPS` … are the real LPs) is the LP built without any option. -/
theorem dag_safety_flags_lp_identical (lists : List (List Edge)) (o : PathSafetyOpts) (h : o.asSubpath = false) :
    (∀ inp : FlowInput, kfdLPS inp (pathSafetyExtra lists o) = kfdLP inp) ∧
    (∀ inp : FlowInput, kcoverLPS inp (pathSafetyExtra lists o) = kcoverLP inp) ∧
    (∀ inp : ErrInput, klaeLPS inp (pathSafetyExtra lists o) = klaeLP inp) ∧
    (∀ inp : MpeInput, kmpeLPS inp (pathSafetyExtra lists o) = kmpeLP inp) :=
  ⟨fun inp => by rw [FP.c05d_kfdLPS_eq, FP.c05d_flowInput_withSafety_off inp lists o h],
   fun inp => by rw [FP.c05d_kcoverLPS_eq, FP.c05d_flowInput_withSafety_off inp lists o h],
   fun inp => by
     rw [FP.c05d_klaeLPS_eq]
     simp [ErrInput.withSafety, FP.c05d_flowInput_withSafety_off inp.fi lists o h],
   fun inp => by
     rw [FP.c05d_kmpeLPS_eq]
     simp [MpeInput.withSafety, ErrInput.withSafety, FP.c05d_flowInput_withSafety_off inp.ei.fi lists o h]⟩

/-- what `__init__` + `create_solver_and_paths` leave behind, for every subset of the flags: no row, no key of
`edges_set_to_zero` / `edges_set_to_one`; the safe lists as additional subpath constraints iff
`optimize_with_safety_as_subpath_constraints` -/
theorem dag_safety_fragment_shape (s : STGraph) (c : PathCfg) (X : List Edge)
    (external : Option (List (List Edge))) (o : PathSafetyOpts) (fr : PathSafetyFrag)
    (h : pathSafetyPipeline s c X external o = .ok fr) :
    fr.rows = [] ∧ fr.zero = [] ∧ fr.one = [] ∧
    ∃ lists, pathSafeLists s c X external o = .ok lists ∧
      fr.constraints = if o.asSubpath then lists else [] := by
  obtain ⟨lists, hl, rfl⟩ := (FP.pathSafetyPipeline_ok_iff s c X external o fr).1 h
  exact ⟨rfl, rfl, rfl, lists, hl, rfl⟩

/-- with the flag on, the LP is the option-free LP of the input whose subpath constraints are extended -/
theorem dag_safety_lp_is_extended_input (lists : List (List Edge)) (o : PathSafetyOpts) :
    (∀ inp : FlowInput, kfdLPS inp (pathSafetyExtra lists o) = kfdLP (inp.withSafety (pathSafetyExtra lists o))) ∧
    (∀ inp : FlowInput,
      kcoverLPS inp (pathSafetyExtra lists o) = kcoverLP (inp.withSafety (pathSafetyExtra lists o))) ∧
    (∀ inp : ErrInput, klaeLPS inp (pathSafetyExtra lists o) = klaeLP (inp.withSafety (pathSafetyExtra lists o))) ∧
    (∀ inp : MpeInput, kmpeLPS inp (pathSafetyExtra lists o) = kmpeLP (inp.withSafety (pathSafetyExtra lists o))) :=
  ⟨fun inp => FP.c05d_kfdLPS_eq inp lists o, fun inp => FP.c05d_kcoverLPS_eq inp lists o,
   fun inp => FP.c05d_klaeLPS_eq inp lists o, fun inp => FP.c05d_kmpeLPS_eq inp lists o⟩

/-- `a` satisfies `_encode_paths` on a well-formed s-t DAG and every trusted edge is used by some layer. Then every
list that `__init__` assembles — the univocal extensions of the trusted edges (`safe_paths`, C06
`safe_paths_univocal`), the bridge extensions of the trusted edges and of the subpath constraints of full coverage
(`safe_sequences`, C06 `bridge_sound_graph`; a constraint of full coverage lies completely in the layer responsible
for it, C10) — lies completely in one layer: `x(e,i) = 1` for all its edges. Lists supplied from outside are assumed
to do so (`hext`); `hpos`: positive lengths on the constraints when they are covered by length. -/
theorem dag_safe_lists_in_layers (s : STGraph) (c : PathCfg) (a : Asg) (hwf : STWF s)
    (hsat : Sat a (encodePaths s c)) (X : List Edge) (hX : ∀ x ∈ X, x ∈ s.g.edges)
    (hcover : ∀ x ∈ X, ∃ i, i < c.k ∧ a (edgeVar x i) = 1)
    (external : Option (List (List Edge)))
    (hext : ∀ l, external = some l → ∀ q ∈ l, SomeLayerHas s a c.k q)
    (hcons : ∀ con ∈ c.constraints, ∀ e ∈ con, e ∈ s.g.edges)
    (hpos : c.coverageLength = some 1 → ∀ con ∈ c.constraints, ∀ e ∈ con, 0 < c.len e)
    (o : PathSafetyOpts) (lists : List (List Edge)) (h : pathSafeLists s c X external o = .ok lists) :
    ∀ q ∈ lists, ∃ i, i < c.k ∧ ∀ e ∈ q, e ∈ s.g.edges ∧ a (edgeVar e i) = 1 :=
  FP.c05d_safeLists_in_layers s c a hwf hsat X hX hcover external hext hcons hpos o lists h

/-- Appending lists each of which lies completely in some layer keeps the LP of
`_encode_paths` satisfiable; only the `r` columns get new values (C10 `constraint_complete`). The appended lists
share the user's coverage fraction: with a fraction below 1 they are weaker than containment, so nothing is lost;
a "fraction" above 1 (never checked when the user passes no constraint) is excluded by `hcov` / `hcl`. -/
theorem dag_append_constraints (s : STGraph) (c : PathCfg) (a : Asg) (hwf : STWF s)
    (hsat : Sat a (encodePaths s c)) (hcons : ∀ con ∈ c.constraints, ∀ e ∈ con, e ∈ s.g.edges)
    (E : List (List Edge)) (hE : ∀ q ∈ E, ∃ i, i < c.k ∧ ∀ e ∈ q, e ∈ s.g.edges ∧ a (edgeVar e i) = 1)
    (hcov : c.coverageLength = none → c.coverage ≤ 1) (hcl : ∀ cl, c.coverageLength = some cl → cl ≤ 1)
    (hlen : ∀ e ∈ s.g.edges, 0 ≤ c.len e) :
    ∃ a', Sat a' (encodePaths s { c with constraints := c.constraints ++ E }) ∧
      ∀ v, v.isR = false → a' v = a v :=
  FP.c05d_append_constraints hwf hsat hcons E hE hcov hcl hlen

/-- dropping appended constraints keeps an assignment feasible -/
theorem dag_drop_constraints (s : STGraph) (c : PathCfg) (a : Asg) (E : List (List Edge))
    (h : Sat a (encodePaths s { c with constraints := c.constraints ++ E })) : Sat a (encodePaths s c) :=
  FP.c05d_drop_constraints E h

/-- generic C05 for the DAG models, every subset of the six flags. A DAG model = `_encode_paths` followed by
class-specific columns / rows / objective `rest` that do not mention the `r` columns (`RestNoR`). If every
solution uses every trusted edge in some layer and contains the externally supplied lists, the LP with the
options (`pathCoreS … fr` for the fragment `fr` the constructor computes) is feasible iff the LP without them is,
and both have the same minimum. `ConstraintDomain`: constraints made of graph edges, coverage fraction `≤ 1`,
lengths `≥ 0`, and `> 0` on the constraints when they are covered completely by length. -/
theorem dag_safety_options_preserve_optimum (s : STGraph) (c : PathCfg) (hwf : STWF s)
    (D : ConstraintDomain s c) (rest : LP) (hR : RestNoR rest) (X : List Edge) (hX : ∀ x ∈ X, x ∈ s.g.edges)
    (hcover : ∀ a, Sat a ((encodePaths s c).append rest) → ∀ x ∈ X, ∃ i, i < c.k ∧ a (edgeVar x i) = 1)
    (external : Option (List (List Edge)))
    (hext : ∀ a, Sat a ((encodePaths s c).append rest) → ∀ l, external = some l → ∀ q ∈ l, SomeLayerHas s a c.k q)
    (o : PathSafetyOpts) (fr : PathSafetyFrag) (h : pathSafetyPipeline s c X external o = .ok fr) :
    ((∃ a, Sat a ((encodePaths s c).append rest)) ↔ (∃ a, Sat a ((pathCoreS s c fr).append rest))) ∧
    (∀ v, IsMin (fun a => Sat a ((encodePaths s c).append rest)) (fun a => evalTerms a rest.obj) v ↔
      IsMin (fun a => Sat a ((pathCoreS s c fr).append rest)) (fun a => evalTerms a rest.obj) v) :=
  FP.c05d_generic_preserves hwf D rest hR X hX hcover external hext o fr h

/-- T1 for the DAG models. `_encode_paths`: a satisfying assignment stays one when
the layers are permuted (`permLayersD` renames `edge(u,v,i)`, `position(u,v,i)`, `r(i,j)`, `path_length<i>`, …).
No row that the safety options add distinguishes a layer, so the option theorems above do not need
this; it is the symmetry a per-layer fixing routine would rest on. -/
theorem layer_perm_invariant_dag (s : STGraph) (c : PathCfg) (a : Asg) (π : LayerPerm c.k)
    (h : Sat a (encodePaths s c)) : Sat (a ∘ permLayersD π.fwd) (encodePaths s c) :=
  FP.encodePaths_perm s c a π (permLayersD_isLayerRenaming π.fwd) h

/-- T1 for `kPathCover` (the class sets no objective: the objective equation is `0 = 0`) -/
theorem layer_perm_invariant_kcover (inp : FlowInput) (a : Asg) (π : LayerPerm inp.cfg.k)
    (h : Sat a (kcoverLP inp)) :
    Sat (a ∘ permLayersD π.fwd) (kcoverLP inp) ∧
    evalTerms (a ∘ permLayersD π.fwd) (kcoverLP inp).obj = evalTerms a (kcoverLP inp).obj :=
  FP.kcoverLP_perm inp a π _ (permLayersD_isLayerRenaming π.fwd) h

/-- T1 for `kFlowDecomp` (no given weights): the weights and products move with their layers -/
theorem layer_perm_invariant_kfd (inp : FlowInput) (a : Asg) (π : LayerPerm inp.cfg.k)
    (h : Sat a (kfdLP inp)) :
    Sat (a ∘ permLayersD π.fwd) (kfdLP inp) ∧
    (∀ e i, (a ∘ permLayersD π.fwd) (edgeVar e i) = a (edgeVar e (π.fwd i))) ∧
    (∀ i, (a ∘ permLayersD π.fwd) (wVar i) = a (wVar (π.fwd i))) :=
  ⟨FP.kfdLP_perm inp a π _ (permLayersD_isLayerRenaming π.fwd) h, fun _ _ => rfl, fun _ => rfl⟩

/-- every edge that is not ignored is used by some path of every solution of the `kPathCover` LP -/
theorem kcover_uses_trusted (inp : FlowInput) (a : Asg) (hsat : Sat a (kcoverLP inp)) :
    ∀ x ∈ kcoverTrusted inp, ∃ i, i < inp.cfg.k ∧ a (edgeVar x i) = 1 :=
  FP.kcover_uses inp a hsat

/-- every non-ignored edge of non-zero flow is used by some path of every solution of the `kFlowDecomp` LP -/
theorem kfd_uses_trusted (inp : FlowInput) (a : Asg) (hsat : Sat a (kfdLP inp)) :
    ∀ x ∈ kfdTrusted inp, ∃ i, i < inp.cfg.k ∧ a (edgeVar x i) = 1 :=
  FP.c05d_kfd_uses inp a hsat

/-- C05 for `kPathCover`, every subset of the six safety flags. On a well-formed user DAG, for the fragment
`fr` that the constructor computes (`pathSafetyPipeline`; `X` any enumeration of trusted edges — the class passes
the non-ignored edges — and no external lists): the LP built with the options (`kcoverLPS`, tied to the real
constructor by K2) is feasible iff the LP without them is, and both have the same minimal objective (the class
sets no objective: both minima are 0). -/
theorem kcover_safety_options_preserve_optimum (inp : FlowInput) (hb : BaseWF inp.base) (hac : Acyclic inp.base)
    (D : ConstraintDomain inp.st inp.cfg) (X : List Edge) (hX : ∀ x ∈ X, x ∈ kcoverTrusted inp)
    (o : PathSafetyOpts) (fr : PathSafetyFrag) (h : pathSafetyPipeline inp.st inp.cfg X none o = .ok fr) :
    ((∃ a, Sat a (kcoverLP inp)) ↔ (∃ a, Sat a (kcoverLPS inp fr))) ∧
    (∀ v, IsMin (fun a => Sat a (kcoverLP inp)) (fun a => evalTerms a (kcoverLP inp).obj) v ↔
      IsMin (fun a => Sat a (kcoverLPS inp fr)) (fun a => evalTerms a (kcoverLPS inp fr).obj) v) := by
  exact dag_safety_options_preserve_optimum _ _ (hb.stwf hac) D (kcoverRest inp) (FP.c05d_kcoverRest_noR inp) X
    (fun x hx => (active_mem (hX x hx)).1)
    (fun a hsat x hx => kcover_uses_trusted inp a hsat x (hX x hx)) none
    (fun _ _ l hl => by cases hl) o fr h

/-- `kFlowDecomp`'s flow-safe paths lie in some path of every solution — when nothing is ignored. With no
ignored edge (and flow attributes on graph edges only) every satisfying assignment of the k-model is a flow
decomposition of the whole flow of the user's graph (C02 `kfd_exact`), so every path that the scan
`flowSafePaths` reports — for whatever decomposition paths — lies completely in one layer (C06
`excess_flow_safe`). With ignored edges this is false, which is why the class hands the paths over only when
nothing is ignored (fix 3d0fcdd; `harness/props/c05.py`, suite `K5.flow_safe_paths_with_ignored_edges`). -/
theorem kfd_flow_safe_paths_in_layers (inp : FlowInput) (hb : BaseWF inp.base) (hac : Acyclic inp.base)
    (hign : inp.ignore = []) (hends : inp.ends = [])
    (hkeys : ∀ e q, inp.flow.lookup e = some q → e ∈ inp.base.edges)
    (paths : List (List Node)) (out : List (List Edge)) (hout : flowSafePaths inp.base inp.flow paths = .ok out)
    (a : Asg) (hsat : Sat a (kfdLP inp)) :
    ∀ q ∈ out, ∃ i, i < inp.cfg.k ∧ ∀ e ∈ q, e ∈ inp.st.g.edges ∧ a (edgeVar e i) = 1 :=
  FP.c05d_flowSafe_in_layers inp hb hac hign hends hkeys paths out hout a hsat

/-- C05 for `kFlowDecomp` (no given weights), every subset of the six safety flags, with or without flow-safe
paths. The k-model has no objective; the model with the options is feasible iff the model without them is.
`external` is the option `external_safe_paths`: `none`, or the flow-safe paths that the class computes under
`optimize_with_flow_safe_paths`; `kfdExternalOK` says where they come from — nothing is ignored and each of them
is reported by the modelled scan for the captured decomposition paths (`lp.kfd.safety` refuses a request that
violates it). `hends`: the class has no additional ends; `hkeys`: the flow attribute sits on graph edges. -/
theorem kfd_safety_options_preserve_feasibility (inp : FlowInput) (hb : BaseWF inp.base) (hac : Acyclic inp.base)
    (D : ConstraintDomain inp.st inp.cfg) (hends : inp.ends = [])
    (hkeys : ∀ p ∈ inp.flow, p.1 ∈ inp.base.edges)
    (X : List Edge) (hX : ∀ x ∈ X, x ∈ kfdTrusted inp)
    (external : Option (List (List Edge))) (decompPaths : List (List Node))
    (hext : kfdExternalOK inp external decompPaths = true)
    (o : PathSafetyOpts) (fr : PathSafetyFrag)
    (h : pathSafetyPipeline inp.st inp.cfg X external o = .ok fr) :
    (∃ a, Sat a (kfdLP inp)) ↔ (∃ a, Sat a (kfdLPS inp fr)) :=
  FP.c05d_kfd_preserves inp hb hac D X hX external
    (FP.c05d_externalInLayers_of_ok inp hb hac hends
      (fun e q hl => hkeys (e, q) (mem_of_lookup_eq_some hl)) external decompPaths hext) o fr h

/-! Non-vacuity: the diamond `a→b→d`, `a→c→d` (flows 3, 2; constraint `[(a,b),(b,d)]`; `k = 2`) -/

/-- safe sequences of the trusted edges and of the constraint, appended as subpath constraints -/
def diamondOpts : PathSafetyOpts :=
  { safeSequences := true, constraintSequences := true, asSubpath := true, zeroEdges := true, largestAntichain := true }

/-- the five lists `__init__` assembles: one per trusted edge (bridges to the source and to the sink), one for
the constraint -/
def diamondLists : List (List Edge) :=
  [[("source", "a"), ("a", "b"), ("b", "d"), ("d", "sink")],
   [("source", "a"), ("a", "c"), ("c", "d"), ("d", "sink")],
   [("source", "a"), ("a", "b"), ("b", "d"), ("d", "sink")],
   [("source", "a"), ("a", "c"), ("c", "d"), ("d", "sink")],
   [("source", "a"), ("a", "b"), ("b", "d"), ("d", "sink")]]

theorem diamond_safeLists :
    pathSafeLists FP.DecompExample.inp.st FP.DecompExample.inp.cfg (kfdTrusted FP.DecompExample.inp) none
      diamondOpts = .ok diamondLists := by decide +kernel

theorem diamond_pipeline :
    pathSafetyPipeline FP.DecompExample.inp.st FP.DecompExample.inp.cfg (kfdTrusted FP.DecompExample.inp) none
      diamondOpts = .ok (pathSafetyExtra diamondLists diamondOpts) :=
  (FP.pathSafetyPipeline_ok_iff ..).2 ⟨_, diamond_safeLists, rfl⟩

theorem diamond_domain : ConstraintDomain FP.DecompExample.inp.st FP.DecompExample.inp.cfg :=
  .of_default (by decide) rfl rfl (by decide +kernel)

/-- the two-path decomposition of the diamond (C03) -/
theorem diamond_base : ∃ a, Sat a (kfdLP FP.DecompExample.inp) :=
  ⟨_, FP.Props.C03.kfd_complete FP.DecompExample.inp 2 FP.DecompExample.base_wf FP.DecompExample.base_acyclic
    FP.DecompExample.plain FP.DecompExample.P FP.DecompExample.w FP.DecompExample.isDecomp (by
      intro i hi
      rw [FP.DecompExample.wmax_eq]
      have : i = 0 ∨ i = 1 := by omega
      rcases this with rfl | rfl <;> decide +kernel)⟩

/-- the diamond instance is feasible without the options (C03), hence — by the theorem — with the five safe lists
appended to its subpath constraints -/
example : ∃ a, Sat a (kfdLPS FP.DecompExample.inp (pathSafetyExtra diamondLists diamondOpts)) := by
  exact (kfd_safety_options_preserve_feasibility FP.DecompExample.inp FP.DecompExample.base_wf
    FP.DecompExample.base_acyclic diamond_domain rfl (by decide) _ (fun _ h => h) none [] rfl diamondOpts _
    diamond_pipeline).1 diamond_base

/-- the class defaults on the diamond: flow-safe paths (what the scan reports for the greedy decomposition
`a b d`, `a c d`), the constraint's safe sequence, everything appended as subpath constraints -/
def diamondFlowSafe : List (List Edge) := [[("a", "b"), ("b", "d")], [("a", "c"), ("c", "d")]]
def diamondOptsFS : PathSafetyOpts := { constraintSequences := true, asSubpath := true, zeroEdges := true }

theorem diamond_externalOK :
    kfdExternalOK FP.DecompExample.inp (some diamondFlowSafe) [["a", "b", "d"], ["a", "c", "d"]] = true := by
  decide +kernel

theorem diamond_safeLists_fs :
    pathSafeLists FP.DecompExample.inp.st FP.DecompExample.inp.cfg (kfdTrusted FP.DecompExample.inp)
      (some diamondFlowSafe) diamondOptsFS =
    .ok (diamondFlowSafe ++ [[("source", "a"), ("a", "b"), ("b", "d"), ("d", "sink")]]) := by decide +kernel

example : ∃ a, Sat a (kfdLPS FP.DecompExample.inp (pathSafetyExtra
    (diamondFlowSafe ++ [[("source", "a"), ("a", "b"), ("b", "d"), ("d", "sink")]]) diamondOptsFS)) := by
  exact (kfd_safety_options_preserve_feasibility FP.DecompExample.inp FP.DecompExample.base_wf
    FP.DecompExample.base_acyclic diamond_domain rfl (by decide) _ (fun _ h => h) _ _ diamond_externalOK
    diamondOptsFS _ ((FP.pathSafetyPipeline_ok_iff ..).2 ⟨_, diamond_safeLists_fs, rfl⟩)).1 diamond_base

/-- the same flags without `optimize_with_safety_as_subpath_constraints`: the LP does not change at all -/
example : kfdLPS FP.DecompExample.inp (pathSafetyExtra diamondLists { diamondOpts with asSubpath := false })
    = kfdLP FP.DecompExample.inp :=
  (dag_safety_flags_lp_identical diamondLists _ rfl).1 _

/-- the configuration of C09's example `a→b→c`, `a→c` is inside the documented domain -/
theorem inp2_domain : ConstraintDomain FP.Props.C09.inp2.st FP.Props.C09.inp2.cfg :=
  .of_default (by decide) rfl rfl (by decide +kernel)

/-- `kPathCover` on `a→b→c`, `a→c` (`k = 2`, C09): safe paths appended as constraints keep the LP feasible -/
example : ∀ fr, pathSafetyPipeline FP.Props.C09.inp2.st FP.Props.C09.inp2.cfg (kcoverTrusted FP.Props.C09.inp2) none
      { safePaths := true, asSubpath := true } = .ok fr → ∃ a, Sat a (kcoverLPS FP.Props.C09.inp2 fr) := by
  intro fr h
  exact ((kcover_safety_options_preserve_optimum FP.Props.C09.inp2 FP.PathCoreExample.base_wf
    FP.PathCoreExample.base_acyclic inp2_domain _ (fun _ h => h) _ fr h).1).1 ⟨_, FP.Props.C09.sat2⟩

/-- `__init__` does assemble lists on `inp2`: the three univocal extensions -/
theorem inp2_safeLists :
    pathSafeLists FP.Props.C09.inp2.st FP.Props.C09.inp2.cfg (kcoverTrusted FP.Props.C09.inp2) none
      { safePaths := true, asSubpath := true } =
    .ok [[("source", "a"), ("a", "b"), ("b", "c"), ("c", "sink")],
         [("source", "a"), ("a", "c"), ("c", "sink")],
         [("source", "a"), ("a", "b"), ("b", "c"), ("c", "sink")]] := by decide +kernel

end FP.Props.C05
