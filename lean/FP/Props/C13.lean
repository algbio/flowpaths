import FP.Proofs.Search
/-!
# C13 — solved means proven optimal; inconclusive solver runs never yield an answer

`σ` ranges over *all* status scripts (every position at which the solver may give up),
`lo`/`hi` over all search ranges; nothing is bounded.
-/
namespace FP.Props.C13
open FP.Search

/-! ### a single k-model -/

/-- `get_model_status`: the custom-timeout flag overrides whatever the backend reports -/
def modelStatus (didTimeout : Bool) (native : Status) : Status :=
  if didTimeout then .other else native

/-- `solve()` of the abstract models sets `_is_solved` iff the status is `kOptimal` -/
def isSolvedAfter (didTimeout : Bool) (native : Status) : Bool :=
  decide (modelStatus didTimeout native = .optimal)

/-- `get_solution` / `get_objective_value` go through `check_is_solved` -/
def getter {α} (solved : Bool) (data : α) : Except String α :=
  if solved then .ok data else .error "Model not solved"

theorem solved_iff_optimal (didTimeout : Bool) (native : Status) :
    isSolvedAfter didTimeout native = true ↔ (didTimeout = false ∧ native = .optimal) := by
  cases didTimeout <;> cases native <;> simp [isSolvedAfter, modelStatus]

theorem getter_only_when_optimal {α} (didTimeout : Bool) (native : Status) (d x : α)
    (h : getter (isSolvedAfter didTimeout native) d = .ok x) :
    didTimeout = false ∧ native = .optimal := by
  unfold getter at h
  split at h
  · rename_i hs; exact (solved_iff_optimal _ _).1 hs
  · cases h

/-! ### one model object solved several times

`solve()` of the abstract k-models ends with `self._is_solved = True` in the optimal branch and `self._is_solved = False`
in every other branch, so the flag always reflects the LAST run (without the second assignment the flag would be
sticky). -/

/-- the solved flag of one model object after a sequence of `solve()` calls, each with its custom-timeout flag and the
status the backend reported; `false` before the first call -/
def flagAfter (runs : List (Bool × Status)) : Bool :=
  runs.foldl (fun _ r => isSolvedAfter r.1 r.2) false

theorem flag_reflects_last_run (runs : List (Bool × Status)) (dt : Bool) (st : Status) :
    flagAfter (runs ++ [(dt, st)]) = isSolvedAfter dt st := by
  simp [flagAfter, List.foldl_append]

/-- after any history of runs the getters hand out data only if the last run was proven optimal -/
theorem resolve_getter_only_when_last_optimal {α} (runs : List (Bool × Status)) (dt : Bool) (st : Status) (d x : α)
    (h : getter (flagAfter (runs ++ [(dt, st)])) d = .ok x) : dt = false ∧ st = .optimal := by
  rw [flag_reflects_last_run] at h
  exact getter_only_when_optimal dt st d x h

/-- an earlier optimal run does not survive a later inconclusive one -/
example : flagAfter [(false, .optimal), (false, .other)] = false := by decide

theorem never_solved_before_first_run : flagAfter [] = false := rfl

/-! ### minimum searches (`MinFlowDecomp`, `MinPathCover`, `MinPathCoverCycles`, `MinGenSet`) -/

/-- a returned `k` was proven optimal, lies in the searched range and every smaller tried value was
proven infeasible -/
theorem search_sound (σ : Nat → Status) (lo hi k : Nat) (h : (stopSearch σ lo hi).solved = some k) :
    σ k = .optimal ∧ lo ≤ k ∧ k < hi ∧ ∀ j, lo ≤ j → j < k → σ j = .infeasible := by
  obtain ⟨h1, h2, h3, h4⟩ := (stopLoop_solved_iff σ _ _ _ _).1 h
  exact ⟨h3, h1, by omega, h4⟩

/-- conversely the first feasible `k` of the range is found -/
theorem search_complete (σ : Nat → Status) (lo hi k : Nat) (h1 : lo ≤ k) (h2 : k < hi)
    (h3 : σ k = .optimal) (h4 : ∀ j, lo ≤ j → j < k → σ j = .infeasible) :
    (stopSearch σ lo hi).solved = some k :=
  (stopLoop_solved_iff σ _ _ _ _).2 ⟨h1, by omega, h3, h4⟩

/-- **C13, searches.** If the solver gives up (any status other than optimal/infeasible) at some
position `j` of the search and no earlier `k` was already proven optimal, the search ends
not-solved — it never skips `j` to return a larger answer. -/
theorem no_answer_after_inconclusive (σ : Nat → Status) (lo hi j : Nat) (hj1 : lo ≤ j)
    (hj : σ j = .other) (hbefore : ∀ i, lo ≤ i → i < j → σ i ≠ .optimal) :
    (stopSearch σ lo hi).solved = none := by
  rw [stopSearch, stopLoop_solved]
  exact firstLoop_eq_none_of_stuck _ _ _ _ j hj1 (by simp [hj]) (by simp [hj]) hbefore

/-- the trace handed to the correspondence check is exactly `σ` on consecutive values from `lo` -/
theorem search_trace (σ : Nat → Status) (lo hi : Nat) :
    ∃ m, m ≤ hi - lo ∧ (stopSearch σ lo hi).tried = (List.range m).map (fun i => (lo + i, σ (lo + i))) := by
  obtain ⟨m, hm, h⟩ := stopLoop_trace σ (hi - lo) lo []
  exact ⟨m, hm, by simpa [stopSearch] using h⟩

/-! ### searches with a ready-made (guessed-weights) decomposition -/

/-- with `optimize_with_guessed_weights` a ready-made decomposition with `g` routes may be taken at
`k = g`; still, an answer `r` means: `r` is that decomposition's size or was proven optimal, and every
smaller tried `k` was proven infeasible (and was not the ready-made size) -/
theorem given_sound (σ : Nat → Status) (given : Option Nat) (lo hi r : Nat)
    (h : (givenSearch σ given lo hi).solved = some r) :
    (given = some r ∨ σ r = .optimal) ∧ lo ≤ r ∧ r < hi ∧
      ∀ j, lo ≤ j → j < r → σ j = .infeasible ∧ given ≠ some j := by
  obtain ⟨h1, h2, h3, h4⟩ := (givenLoop_solved_iff σ given _ _ _ _).1 h
  exact ⟨h3, h1, by omega, h4⟩

/-- an inconclusive status before any accepted `k` ends the search unsolved — the ready-made
decomposition is never used as a fallback -/
theorem given_no_answer_after_inconclusive (σ : Nat → Status) (given : Option Nat) (lo hi j : Nat)
    (hj1 : lo ≤ j) (hj : σ j = .other) (hg : ∀ g, given = some g → j < g)
    (hbefore : ∀ i, lo ≤ i → i < j → σ i ≠ .optimal) :
    (givenSearch σ given lo hi).solved = none := by
  rw [givenSearch, givenLoop_solved]
  refine firstLoop_eq_none_of_stuck _ _ _ _ j hj1 ?_ (by simp [hj]) ?_
  · rintro (h | h)
    · exact Nat.lt_irrefl _ (hg j h)
    · rw [hj] at h; cases h
  · rintro i hi1 hi2 (h | h)
    · exact Nat.lt_asymm hi2 (hg i h)
    · exact hbefore i hi1 hi2 h

/-! ### `MinFlowDecompCycles` (elapsed-time check after every k) -/

/-- `search_sound` with the clock: the returned `k` was also solved in time -/
theorem timed_sound (σ : Nat → Status) (late : Nat → Bool) (lo hi k : Nat)
    (h : (stopSearchTimed σ late lo hi).solved = some k) :
    σ k = .optimal ∧ late k = false ∧ lo ≤ k ∧ k < hi ∧ ∀ j, lo ≤ j → j < k → σ j = .infeasible := by
  obtain ⟨h1, h2, hl, ho, h4⟩ := (timedLoop_solved_iff σ late _ _ _ _).1 h
  exact ⟨ho, hl, h1, by omega, fun j a b => (h4 j a b).2⟩

/-- conversely the first feasible `k` is found if it and every smaller tried value were decided in time -/
theorem timed_complete (σ : Nat → Status) (late : Nat → Bool) (lo hi k : Nat) (h1 : lo ≤ k)
    (h2 : k < hi) (h3 : σ k = .optimal) (hl : late k = false)
    (h4 : ∀ j, lo ≤ j → j < k → σ j = .infeasible ∧ late j = false) :
    (stopSearchTimed σ late lo hi).solved = some k :=
  (timedLoop_solved_iff σ late _ _ _ _).2 ⟨h1, by omega, hl, h3, fun j a b => (h4 j a b).symm⟩

/-- an inconclusive status or an elapsed time limit at `j`, with no earlier `k` proven optimal, ends the search unsolved -/
theorem timed_no_answer_after_inconclusive (σ : Nat → Status) (late : Nat → Bool) (lo hi j : Nat)
    (hj1 : lo ≤ j) (hj : σ j = .other ∨ late j = true)
    (hbefore : ∀ i, lo ≤ i → i < j → σ i ≠ .optimal) :
    (stopSearchTimed σ late lo hi).solved = none := by
  rw [stopSearchTimed, timedLoop_solved]
  refine firstLoop_eq_none_of_stuck _ _ _ _ j hj1 ?_ ?_ (fun i a b h => hbefore i a b h.2)
  all_goals
    rintro ⟨hl, h⟩
    rcases hj with hj | hj
    · rw [hj] at h; cases h
    · rw [hj] at hl; cases hl

/-! ### a loop that skips inconclusive runs -/

/-- skipping non-optimal statuses returns a larger answer after an inconclusive run: the loop shape
`if optimal: return … else: continue` violates the property; `MinGenSet.solve` has the shape of
`stopSearch`. -/
theorem skip_violates :
    (skipSearch (fun k => if k = 1 then .other else .optimal) 1 3).solved = some 2 := by decide

/-! ### `NumPathsOptimization` -/

/-- **C13, generic optimiser.** Whatever the stopping rules, objective values, status script and
clock: when `solve()` returns `True` the model it hands out was itself proven optimal for its `k`. -/
theorem npo_returns_only_optimal (cfg : NpoCfg) (σ : Nat → Status) (obj : Nat → Rat)
    (late : Nat → Bool) (lo hi k : Nat) (h : (npo cfg σ obj late lo hi).answer = some k) :
    σ k = .optimal ∧ lo ≤ k ∧ k ≤ hi := by
  obtain ⟨h1, h2, h3⟩ := npoLoop_answer cfg σ obj late _ _ _ _ _ _ h
  exact ⟨h1, h2, by omega⟩

/-! ### non-vacuity -/

example : (stopSearch (fun k => if k < 3 then .infeasible else .optimal) 1 6).solved = some 3 := by decide
example : (stopSearch (fun k => if k = 2 then .other else if k < 2 then .infeasible else .optimal) 1 6).solved = none := by
  decide
example : (stopSearchTimed (fun _ => .optimal) (fun k => k == 2) 2 6).solved = none := by decide
example : (npo ⟨false, some 1, none⟩ (fun _ => .optimal) (fun k => 10 - k) (fun _ => false) 1 5).answer = some 2 := by
  decide +kernel

end FP.Props.C13
