import FP.Proofs.KLAE
import FP.Proofs.KLAEGiven
import FP.Proofs.KLAEC
import FP.Proofs.KLAECComplete
import FP.Proofs.Augment
import FP.Proofs.Optimum
import FP.Proofs.ErrExample
import FP.Proofs.KLAECExample
import FP.Proofs.KLAEGivenExample
/-!
# C07 — k-Least-Absolute-Errors returns a true optimum with a consistent objective  (DAG model)

`klaeLP inp` is the LP that `kLeastAbsErrors.__init__` hands to the solver (tied to the code by the
K2 LP-dump suite). Vocabulary (`FP/Spec/Routes.lean`, `FP/Spec/ErrModels.lean`): `Route`, `trav`, `explained`,
`LAE.absErr = |f(e) − Σ_i w_i[e ∈ p_i]|`, `LAE.totalErr = Σ_e scale(e)·absErr(e)` over the non-ignored
edges, `LAE.Solution` (k routes, weights ≥ 0 of the requested type), `LAE.Bounded` (… and weights,
errors ≤ `w_max`).

Scope of the completeness / optimality theorems: no subpath constraints, unit lengths
(`constraints = []`, `lengths = none`); with `weight_type = int` the flow values are integers
(otherwise the integer error columns cannot take the value `|f − Σ|`).

**Cyclic class** (second part): `klaecLP inp` is the LP of `kLeastAbsErrorsCycles.__init__` (K2 LP-dump
equality). Vocabulary (`FP/Spec/ErrWalks.lean`): `LAEC.absErr = |f(e) − Σ_i w_i·traversals_i(e)|`,
`LAEC.totalErr`; `klaecCap` — the repetition caps; `LaecWithinCaps` — the families of `k` weighted walks
the LP can represent (caps, `w_i·traversals_i(e) ≤ w_max`, errors `≤ w_max`). Soundness holds for every
input (`klaec_sound`); completeness and optimality only *within* these bounds
(`klaec_complete_within_caps`, `klaec_opt_within_caps`, `klaec_opt_tight`) — the bound `w_max = k·max f`
on the products cuts off better solutions (`klaec_wmax_cuts_optimum`, finding
C07-laecycles-wmax-cuts-optimum), so the DAG theorem `klae_optimal` has no cyclic counterpart.

**Given weights** (`solution_weights_superset`, last part): LP and vocabulary are introduced there.
-/
namespace FP.Props.C07
open FP FP.Spec FP.Spec.LAE

/-- Every satisfying assignment of the LP on a well-formed user DAG decodes to `k`
routes; with `w_i` the weight columns: weights lie in `[0, w_max]` and are integral for
`weight_type = int`, the edge columns are the route indicators, `pi(e,i) = x(e,i)·w_i`, and on every
non-ignored edge `|f(e) − Σ_i w_i[e ∈ p_i]| ≤ ee(e) ≤ w_max`. -/
theorem klae_sound (inp : ErrInput) (a : Asg) (h : BaseWF inp.fi.base) (hac : Acyclic inp.fi.base)
    (hsat : Sat a (klaeLP inp)) :
    ∃ ps : List (List Node),
      decodePaths inp.st (fun e i => a (edgeVar e i)) inp.k = some ps ∧ ps.length = inp.k ∧
      Solution inp (fun i => ps.getD i []) (fun i => a (weightsVar i)) ∧
      (∀ i, i < inp.k → a (weightsVar i) ≤ inp.wmax none) ∧
      (∀ i, i < inp.k → ∀ e ∈ inp.st.g.edges, a (edgeVar e i) = trav inp.st (ps.getD i []) e) ∧
      (∀ e ∈ inp.basicEdges, ∀ i, i < inp.k → a (piVar e i) = a (edgeVar e i) * a (weightsVar i)) ∧
      (∀ e ∈ inp.basicEdges,
        absErr inp (fun i => ps.getD i []) (fun i => a (weightsVar i)) e ≤ a (eeVar e) ∧
        a (eeVar e) ≤ inp.wmax none ∧ (inp.fi.weightInt = true → IsInt (a (eeVar e)))) :=
  FP.klae_sound inp a h hac hsat

/-- the decoded non-empty paths are routes of the *user's* graph (C01) -/
theorem klae_routes_valid (inp : ErrInput) (a : Asg) (h : BaseWF inp.fi.base) (hac : Acyclic inp.fi.base)
    (hsat : Sat a (klaeLP inp)) (i : Nat) (hi : i < inp.k) :
    ∃ p, decodeLayer inp.st (fun e i => a (edgeVar e i)) i = some p ∧
      (p = [] → inp.fi.cfg.allowEmpty = true) ∧
      (p ≠ [] → ValidRoute inp.fi.base inp.fi.starts inp.fi.ends p ∧ p.Nodup) :=
  FP.dag_routes_valid inp.fi.base inp.fi.starts inp.fi.ends inp.fi.cfg a h hac
    (sat_append_left hsat) i hi

/-- the solver's objective at an assignment is `Σ_e scale(e)·ee(e)` over the non-ignored edges -/
theorem klae_objective (inp : ErrInput) (a : Asg) :
    evalTerms a (klaeLP inp).obj = (inp.basicEdges.map fun e => inp.scale e * a (eeVar e)).sum :=
  FP.klaeObj_eval inp a

/-- Every choice of `k` routes and weights in `[0, w_max]` of the requested type
whose errors are at most `w_max` (the `ee` column bound; automatic after clamping, see
`wmax_adequate`) extends to a satisfying assignment with `ee(e) = |f(e) − Σ…|` and objective
`Σ scale(e)·|f(e) − Σ…|`. -/
theorem klae_complete (inp : ErrInput) (P : Nat → List Node) (w : Nat → Rat)
    (h : BaseWF inp.fi.base) (hac : Acyclic inp.fi.base)
    (hcons : inp.fi.cfg.constraints = []) (hlen : inp.fi.cfg.lengths = none)
    (hfint : inp.fi.weightInt = true → ∀ e ∈ inp.basicEdges, IsInt (inp.fi.f e))
    (hb : Bounded inp P w) :
    ∃ a : Asg, Sat a (klaeLP inp) ∧
      (∀ i, i < inp.k → ∀ e ∈ inp.st.g.edges, a (edgeVar e i) = trav inp.st (P i) e) ∧
      (∀ i, i < inp.k → a (weightsVar i) = w i) ∧
      (∀ e ∈ inp.basicEdges, a (eeVar e) = absErr inp P w e) ∧
      evalTerms a (klaeLP inp).obj = totalErr inp P w :=
  FP.klae_complete inp P w h hac hcons hlen hfint hb

/-- An assignment that is optimal for the LP decodes to a solution
minimising the total scaled absolute error among all bounded k-route solutions; at the optimum the
error columns are tight (`ee(e) = |f(e) − Σ…|`) on every edge of positive scale, and the solver's
objective *is* the total scaled error of the returned solution. -/
theorem klae_opt_transfer (inp : ErrInput) (a : Asg) (h : BaseWF inp.fi.base) (hac : Acyclic inp.fi.base)
    (hcons : inp.fi.cfg.constraints = []) (hlen : inp.fi.cfg.lengths = none)
    (hfint : inp.fi.weightInt = true → ∀ e ∈ inp.basicEdges, IsInt (inp.fi.f e))
    (hscale : ∀ e ∈ inp.basicEdges, 0 ≤ inp.scale e)
    (hsat : Sat a (klaeLP inp))
    (hopt : ∀ a', Sat a' (klaeLP inp) → evalTerms a (klaeLP inp).obj ≤ evalTerms a' (klaeLP inp).obj) :
    ∃ ps : List (List Node),
      decodePaths inp.st (fun e i => a (edgeVar e i)) inp.k = some ps ∧
      Bounded inp (fun i => ps.getD i []) (fun i => a (weightsVar i)) ∧
      (∀ P' w', Bounded inp P' w' →
        totalErr inp (fun i => ps.getD i []) (fun i => a (weightsVar i)) ≤ totalErr inp P' w') ∧
      (∀ e ∈ inp.basicEdges, 0 < inp.scale e →
        a (eeVar e) = absErr inp (fun i => ps.getD i []) (fun i => a (weightsVar i)) e) ∧
      evalTerms a (klaeLP inp).obj = totalErr inp (fun i => ps.getD i []) (fun i => a (weightsVar i)) :=
  FP.klae_opt_transfer inp a h hac hcons hlen hfint hscale hsat hopt

/-- The bound `w_max = k·max f` loses no optimum (DAG): for `k ≥ 1`, flow values in
`[0, fmax]` (`fmax = weight_type(max f)`; automatic for float and for integral values): clamping the
weights of any k-route solution to `fmax` gives a *bounded* solution of the same type whose error is
no larger on any non-ignored edge. -/
theorem wmax_adequate (inp : ErrInput) (P : Nat → List Node) (w : Nat → Rat)
    (h : BaseWF inp.fi.base) (hac : Acyclic inp.fi.base) (hk : 1 ≤ inp.k)
    (hf : ∀ e ∈ inp.basicEdges, 0 ≤ inp.fi.f e ∧ inp.fi.f e ≤ inp.fmax)
    (hsol : Solution inp P w) :
    Bounded inp P (clampW inp w) ∧
      ∀ e ∈ inp.basicEdges, absErr inp P (clampW inp w) e ≤ absErr inp P w e :=
  FP.wmax_adequate inp P w h hac hk hf hsol

/-- The returned solution is optimal among all k-tuples of routes of the user's graph and all non-negative
weights of the requested type. -/
theorem klae_optimal (inp : ErrInput) (a : Asg) (h : BaseWF inp.fi.base) (hac : Acyclic inp.fi.base)
    (hcons : inp.fi.cfg.constraints = []) (hlen : inp.fi.cfg.lengths = none) (hk : 1 ≤ inp.k)
    (hfint : inp.fi.weightInt = true → ∀ e ∈ inp.basicEdges, IsInt (inp.fi.f e))
    (hf : ∀ e ∈ inp.basicEdges, 0 ≤ inp.fi.f e ∧ inp.fi.f e ≤ inp.fmax)
    (hscale : ∀ e ∈ inp.basicEdges, 0 ≤ inp.scale e)
    (hsat : Sat a (klaeLP inp))
    (hopt : ∀ a', Sat a' (klaeLP inp) → evalTerms a (klaeLP inp).obj ≤ evalTerms a' (klaeLP inp).obj) :
    ∃ ps : List (List Node),
      decodePaths inp.st (fun e i => a (edgeVar e i)) inp.k = some ps ∧
      ∀ (P' : Nat → List Node) (w' : Nat → Rat),
        (∀ i, i < inp.k → ValidRoute inp.fi.base inp.fi.starts inp.fi.ends (P' i)) →
        (∀ i, i < inp.k → 0 ≤ w' i) → (inp.fi.weightInt = true → ∀ i, i < inp.k → IsInt (w' i)) →
        totalErr inp (fun i => ps.getD i []) (fun i => a (weightsVar i)) ≤ totalErr inp P' w' := by
  obtain ⟨ps, hps, _, hmin, _, _⟩ := FP.klae_opt_transfer inp a h hac hcons hlen hfint hscale hsat hopt
  refine ⟨ps, hps, fun P' w' hr h0 hint => ?_⟩
  -- the competitor with its weights clamped to `fmax` is bounded and has no larger error on any edge
  obtain ⟨hb', hle⟩ := FP.wmax_adequate inp P' w' h hac hk hf
    ⟨fun i hi => route_of_validRoute inp.fi.starts inp.fi.ends h hac _ (hr i hi), h0, hint⟩
  exact Rat.le_trans (hmin P' _ hb')
    (sum_map_le fun e he => Rat.mul_le_mul_of_nonneg_left (hle e he) (hscale e he))

/-! `reportedObjective` models `get_objective_value()` (fix 1c464ac):
`sum(err * error_scaling.get(e, 1) for e, err in edge_errors.items())`, the error columns read back
from the solver times their scale factors. The unscaled sum agrees with the solver's objective only if
every edge has scale 1 or a zero error column (`FP.unscaledErrorSum_eq_objective_iff`); returning it would
make `is_valid_solution()` reject the model's own optimum under `error_scaling`. -/

/-- the reported objective equals the solver's objective `Σ scale(e)·ee(e)` for every assignment of the
columns, in particular for whatever solution the solver returns -/
theorem objective_consistent (inp : ErrInput) (a : Asg) :
    reportedObjective inp a = evalTerms a (klaeLP inp).obj :=
  FP.objective_consistent inp a

/-- hence the objective clause of `is_valid_solution(tolerance)` —
`abs(get_objective_value() − solver objective) > tolerance · original_k` rejects — never rejects, for
any tolerance ≥ 0 -/
theorem objective_check_passes (inp : ErrInput) (a : Asg) (tol : Rat) (htol : 0 ≤ tol) (originalK : Nat) :
    objectiveCheckPasses inp a tol originalK :=
  FP.objective_check_passes inp a tol htol originalK

/-- at an optimum the reported objective is the total scaled absolute error recomputed from the
returned paths and weights (objective consistency + tightness of the error columns), and the
per-edge errors `ee(e)` are the recomputed `|f(e) − Σ_i w_i[e ∈ p_i]|` on every edge of positive scale -/
theorem reported_objective_at_optimum (inp : ErrInput) (a : Asg) (h : BaseWF inp.fi.base)
    (hac : Acyclic inp.fi.base)
    (hcons : inp.fi.cfg.constraints = []) (hlen : inp.fi.cfg.lengths = none)
    (hfint : inp.fi.weightInt = true → ∀ e ∈ inp.basicEdges, IsInt (inp.fi.f e))
    (hscale : ∀ e ∈ inp.basicEdges, 0 ≤ inp.scale e)
    (hsat : Sat a (klaeLP inp))
    (hopt : ∀ a', Sat a' (klaeLP inp) → evalTerms a (klaeLP inp).obj ≤ evalTerms a' (klaeLP inp).obj) :
    ∃ ps : List (List Node),
      decodePaths inp.st (fun e i => a (edgeVar e i)) inp.k = some ps ∧
      reportedObjective inp a = totalErr inp (fun i => ps.getD i []) (fun i => a (weightsVar i)) ∧
      ∀ e ∈ inp.basicEdges, 0 < inp.scale e →
        a (eeVar e) = absErr inp (fun i => ps.getD i []) (fun i => a (weightsVar i)) e := by
  obtain ⟨ps, hps, _, _, htight, hobj⟩ :=
    FP.klae_opt_transfer inp a h hac hcons hlen hfint hscale hsat hopt
  exact ⟨ps, hps, by rw [FP.objective_consistent, hobj], htight⟩

/-- on `a → b → c`, `f = (4, 1)`, `error_scaling = {(a,b): 1/2}`, `k = 1`, `weight_type = int` the path
`a,b,c` with weight 1 and errors `3, 0` is a satisfying assignment with solver objective `3/2` and
reported objective `3/2`; the unscaled sum of the error columns is `3` -/
theorem objective_regression_example :
    ∃ a : Asg, Sat a (klaeLP ErrExample.inp) ∧ evalTerms a (klaeLP ErrExample.inp).obj = 3/2 ∧
      reportedObjective ErrExample.inp a = 3/2 ∧ unscaledErrorSum ErrExample.inp a = 3 := by
  obtain ⟨a, hsat, _, _, hee, hobj⟩ := FP.klae_complete ErrExample.inp ErrExample.P ErrExample.w
    ErrExample.base_wf ErrExample.base_acyclic rfl rfl ErrExample.flows_int ErrExample.bounded
  refine ⟨a, hsat, by rw [hobj, ErrExample.totalErr_val],
    by rw [FP.objective_consistent, hobj, ErrExample.totalErr_val], ?_⟩
  unfold unscaledErrorSum
  rw [← ErrExample.sumErr_val]
  exact congrArg List.sum (List.map_congr_left hee)

/-- *every* optimum of the instance of `objective_regression_example` has error columns `3` and `0`,
solver objective `3/2` and reported objective `3/2` -/
theorem every_optimum_consistent (a : Asg) (hsat : Sat a (klaeLP ErrExample.inp))
    (hopt : ∀ a', Sat a' (klaeLP ErrExample.inp) →
      evalTerms a (klaeLP ErrExample.inp).obj ≤ evalTerms a' (klaeLP ErrExample.inp).obj) :
    a (eeVar ("a", "b")) = 3 ∧ a (eeVar ("b", "c")) = 0 ∧
      evalTerms a (klaeLP ErrExample.inp).obj = 3/2 ∧ reportedObjective ErrExample.inp a = 3/2 ∧
      unscaledErrorSum ErrExample.inp a = 3 :=
  ErrExample.every_optimum_consistent a hsat hopt

/-- the hypotheses of `klae_sound` are satisfiable on a non-trivial instance -/
example : ∃ a, Sat a (klaeLP ErrExample.inp) := by
  obtain ⟨a, h, _⟩ := objective_regression_example
  exact ⟨a, h⟩

/-- so are those of `klae_complete` and `wmax_adequate` -/
example : Bounded ErrExample.inp ErrExample.P ErrExample.w := ErrExample.bounded
example : ∀ e ∈ ErrExample.inp.basicEdges,
    0 ≤ ErrExample.inp.fi.f e ∧ ErrExample.inp.fi.f e ≤ ErrExample.inp.fmax := ErrExample.flows_ok

/-- the repetition cap of an edge of the augmented graph: inside an SCC the floor, as the code takes it (fix fcfd0b0), of
the largest flow value (`0` where the attribute is missing) among the edge, the edges leaving a vertex
reachable from its head and the edges entering a vertex reaching its tail; `1` outside the SCCs -/
theorem klaec_cap (inp : WalkInput) (e : Edge) (he : e ∈ inp.st.g.edges) :
    klaecCap inp e = if isSccEdge inp.st.g e
      then (((lookupD (edgeMaxReachable inp.st.g fun e => (inp.fOpt e).getD 0) e 0).floor : Int) : Rat)
      else 1 :=
  FP.lookupD_capBounds _ _ e he

/-- the cap is an integer in every case -/
theorem klaec_cap_int (inp : WalkInput) (e : Edge) : ∃ z : Int, klaecCap inp e = (z : Rat) :=
  FP.lookupD_capBounds_int _ _ e

/-- For every satisfying assignment of the `kLeastAbsErrorsCycles` LP
on a well-formed user digraph (cycles allowed): the weights lie in `[0, w_max]` and are integral for
`weight_type = int`; every layer decodes to a route of the *user's* graph (empty only if empty walks are
allowed); the traversal counts of the decoded walk (synthetic endpoints put back) are the layer's edge
variables, natural numbers within the repetition caps; `pi(e,i) = w_i · traversals_i(e) ≤ w_max` and
`|f(e) − Σ_i w_i · traversals_i(e)| ≤ ee(e) ≤ w_max` on every non-ignored edge (`ee` integral for
`weight_type = int`); the solver's objective is `Σ_e scale(e)·ee(e)`. -/
theorem klaec_sound (inp : WalkInput) (a : Asg) (h : BaseWF inp.base) (hsat : Sat a (klaecLP inp)) :
    (∀ i, i < inp.k → 0 ≤ a (weightsVar i) ∧ a (weightsVar i) ≤ inp.wmax true ∧
        (inp.weightInt = true → IsInt (a (weightsVar i)))) ∧
    (∀ i, i < inp.k →
        (decodeWalkLayer inp.st a i = [] → inp.cfg.allowEmpty = true) ∧
        (decodeWalkLayer inp.st a i ≠ [] →
          ValidRoute inp.base inp.starts inp.ends (decodeWalkLayer inp.st a i))) ∧
    (∀ i, i < inp.k → ∀ e ∈ inp.st.g.edges,
        traversals (inp.st.source :: decodeWalkLayer inp.st a i ++ [inp.st.sink]) e = multOf a i e ∧
        a (edgeVar e i) = (multOf a i e : Rat) ∧ (multOf a i e : Rat) ≤ klaecCap inp e) ∧
    (∀ e ∈ inp.activeEdges true, ∀ i, i < inp.k →
        a (piVar e i) = a (weightsVar i) * (multOf a i e : Rat) ∧ a (piVar e i) ≤ inp.wmax true) ∧
    (∀ e ∈ inp.activeEdges true,
        LAEC.absErr inp (decodeWalkLayer inp.st a) (fun i => a (weightsVar i)) e ≤ a (eeVar e) ∧
        a (eeVar e) ≤ inp.wmax true ∧ (inp.weightInt = true → IsInt (a (eeVar e)))) ∧
    evalTerms a (klaecLP inp).obj
      = ((inp.activeEdges true).map fun e => inp.scale e * a (eeVar e)).sum :=
  have henc := klaec_sat_enc hsat
  have ⟨_, hc, heec, _⟩ := (sat_klaecLP_iff inp a).1 hsat
  ⟨hc.contBox, walk_routes_valid inp.base inp.starts inp.ends inp.cfg _ a h henc,
    walkcore_layer_mults inp.st _ a h.stwfc henc,
    fun e he i hi => ⟨klaec_pi hsat he hi, (hc.prodBox i hi e (List.mem_filter.1 he).1).2.1⟩,
    fun e he => ⟨klaec_err_le h hsat he, (heec e he).2⟩, klaecLP_obj inp a⟩

/-- the solver's objective at an assignment is `Σ_e scale(e)·ee(e)` over the non-ignored edges -/
theorem klaec_objective (inp : WalkInput) (a : Asg) :
    evalTerms a (klaecLP inp).obj = ((inp.activeEdges true).map fun e => inp.scale e * a (eeVar e)).sum :=
  FP.klaecLP_obj inp a

/-- in a satisfying assignment every multiplicity on a non-ignored edge fits into the
`klaecBits inp = ⌈log2(w_max + 1)⌉` bit columns of its product block -/
theorem klaec_mult_bits (inp : WalkInput) (a : Asg) (hsat : Sat a (klaecLP inp))
    (e : Edge) (he : e ∈ inp.activeEdges true) (i : Nat) (hi : i < inp.k) :
    multOf a i e < 2 ^ klaecBits inp :=
  FP.klaec_mult_bits inp a hsat e he i hi

/-- a traversal count of at most `w_max` fits into the bits (convenience for `LaecWithinCaps.multBits`) -/
theorem klaec_bits_of_le (inp : WalkInput) (n : Nat) (h : (n : Rat) ≤ inp.wmax true) :
    n < 2 ^ klaecBits inp :=
  FP.lt_two_pow_klaecBitsOf _ n h

/-- `k ≥ 1` weighted source-to-sink walks of the augmented
graph that are *within the caps* (`LaecWithinCaps`: repetition caps, weights in `[0, w_max]` of the
requested type, traversal counts fitting the bits, **every product `w_i · traversals_i(e) ≤ w_max` and
every error `|f(e) − Σ…| ≤ w_max`** on the non-ignored edges, subset constraints covered) extend to the
satisfying assignment `klaecWalkAsg` of the whole LP (all auxiliary columns included) with these
traversal counts and weights, tight error columns and objective `Σ scale(e)·|f(e) − Σ…|`.
`KlaecNameInj`: the product blocks have pairwise different names (the model identifies a column with
its name); `hfint`: integral flow values for `weight_type = int` (integer error columns). -/
theorem klaec_complete_within_caps (inp : WalkInput) (walk : Nat → List Node) (w : Nat → Rat)
    (hb : BaseWF inp.base) (hk : 0 < inp.k) (hinj : KlaecNameInj inp)
    (hfint : inp.weightInt = true → ∀ e ∈ inp.activeEdges true, IsInt (inp.f e))
    (h : LaecWithinCaps inp walk w) :
    Sat (klaecWalkAsg inp walk w) (klaecLP inp) ∧
      (∀ i e, multOf (klaecWalkAsg inp walk w) i e
        = traversals (inp.st.source :: walk i ++ [inp.st.sink]) e) ∧
      (∀ i, klaecWalkAsg inp walk w (weightsVar i) = w i) ∧
      (∀ e, klaecWalkAsg inp walk w (eeVar e) = LAEC.absErr inp walk w e) ∧
      evalTerms (klaecWalkAsg inp walk w) (klaecLP inp).obj = LAEC.totalErr inp walk w :=
  ⟨klaecWalkAsg_sat inp walk w hb hinj hfint h, klaecWalkAsg_mult inp walk w,
    (klaecAsg_chan inp _ w _ _ _).weights, (klaecAsg_chan inp _ w _ _ _).ee, klaecWalkAsg_obj inp walk w⟩

/-- conversely (no empty walks, no subset constraints) the decoded family of every satisfying
assignment is within the caps: `LaecWithinCaps` describes exactly what the LP can represent -/
theorem klaec_decoded_within_caps (inp : WalkInput) (a : Asg) (hb : BaseWF inp.base)
    (hae : inp.cfg.allowEmpty = false) (hcons : inp.cfg.constraints = [])
    (hsat : Sat a (klaecLP inp)) :
    LaecWithinCaps inp (decodeWalkLayer inp.st a) (fun i => a (weightsVar i)) :=
  FP.klaec_decoded_within_caps inp a hb hae hcons hsat

/-- For an optimum `a` of the LP (non-negative scales): the total
scaled absolute error of the decoded walks is at most the solver's objective, which is at most the total
scaled absolute error of *every* family of `k` weighted walks within the caps — the returned solution is
optimal among all bounded families. -/
theorem klaec_opt_within_caps (inp : WalkInput) (a : Asg) (hb : BaseWF inp.base) (hk : 0 < inp.k)
    (hinj : KlaecNameInj inp)
    (hfint : inp.weightInt = true → ∀ e ∈ inp.activeEdges true, IsInt (inp.f e))
    (hscale : ∀ e ∈ inp.activeEdges true, 0 ≤ inp.scale e)
    (hsat : Sat a (klaecLP inp))
    (hopt : ∀ a', Sat a' (klaecLP inp) → evalTerms a (klaecLP inp).obj ≤ evalTerms a' (klaecLP inp).obj) :
    LAEC.totalErr inp (decodeWalkLayer inp.st a) (fun i => a (weightsVar i))
        ≤ evalTerms a (klaecLP inp).obj ∧
    ∀ walk' w', LaecWithinCaps inp walk' w' →
      evalTerms a (klaecLP inp).obj ≤ LAEC.totalErr inp walk' w' ∧
      LAEC.totalErr inp (decodeWalkLayer inp.st a) (fun i => a (weightsVar i))
        ≤ LAEC.totalErr inp walk' w' :=
  have hge := klaec_obj_ge inp a hb hscale hsat
  ⟨hge, fun walk' w' h' =>
    have hle : evalTerms a (klaecLP inp).obj ≤ LAEC.totalErr inp walk' w' := by
      have := hopt _ (klaecWalkAsg_sat inp walk' w' hb hinj hfint h')
      rwa [klaecWalkAsg_obj] at this
    ⟨hle, Rat.le_trans hge hle⟩⟩

/-- With no empty walks and no subset constraints the decoded family of an optimum is itself
within the caps, the solver's objective *is* its total scaled absolute error, and the error columns are
tight (`ee(e) = |f(e) − Σ…|`) on every edge of positive scale. -/
theorem klaec_opt_tight (inp : WalkInput) (a : Asg) (hb : BaseWF inp.base) (hk : 0 < inp.k)
    (hinj : KlaecNameInj inp)
    (hae : inp.cfg.allowEmpty = false) (hcons : inp.cfg.constraints = [])
    (hfint : inp.weightInt = true → ∀ e ∈ inp.activeEdges true, IsInt (inp.f e))
    (hscale : ∀ e ∈ inp.activeEdges true, 0 ≤ inp.scale e)
    (hsat : Sat a (klaecLP inp))
    (hopt : ∀ a', Sat a' (klaecLP inp) → evalTerms a (klaecLP inp).obj ≤ evalTerms a' (klaecLP inp).obj) :
    LaecWithinCaps inp (decodeWalkLayer inp.st a) (fun i => a (weightsVar i)) ∧
    evalTerms a (klaecLP inp).obj
      = LAEC.totalErr inp (decodeWalkLayer inp.st a) (fun i => a (weightsVar i)) ∧
    (∀ e ∈ inp.activeEdges true, 0 < inp.scale e →
      a (eeVar e) = LAEC.absErr inp (decodeWalkLayer inp.st a) (fun i => a (weightsVar i)) e) := by
  have hwithin := FP.klaec_decoded_within_caps inp a hb hae hcons hsat
  obtain ⟨hge, hall⟩ := klaec_opt_within_caps inp a hb hk hinj hfint hscale hsat hopt
  have heq := Rat.le_antisymm (hall _ _ hwithin).1 hge
  refine ⟨hwithin, heq, ?_⟩
  -- Σ scale·ee = Σ scale·|err| with ee ≥ |err| termwise: equality wherever the scale is positive
  refine tight_of_sum_le (inp.activeEdges true) inp.scale _ (fun e => a (eeVar e)) hscale
    (fun e he => klaec_err_le hb hsat he) ?_
  rw [← FP.klaecLP_obj, heq]
  exact Rat.le_refl

/-- **what the bound cuts off — the code falsifies optimality on cyclic inputs** (finding
C07-laecycles-wmax-cuts-optimum; instance `s → a ⇄ b`, additional end `b`, `f = (4, 0, 4)`,
`error_scaling = {(a,b): 1/4}`, `k = 1`, `weight_type = int`, hence `w_max = 4`):

* the LP the constructor builds has optimum `5`: the assignment of the walk `s a b a b` with weight `2`
  is satisfying with objective `5`, and *every* satisfying assignment has objective at least `5`;
* yet the same walk — a route of the user's graph within the repetition caps — with the integer weight
  `4 ≤ w_max` has total scaled absolute error `2`;
* that family is not within the caps (`pi(a,b) = 4·2 = 8 > w_max`): it is exactly what the bound on the
  products excludes.

Replayed on the real code by `harness/props/c07.py` (returns error 5, brute force 2). -/
theorem klaec_wmax_cuts_optimum :
    (Sat (klaecWalkAsg CycleWitness.inp CycleWitness.walk (fun _ => 2)) (klaecLP CycleWitness.inp) ∧
      evalTerms (klaecWalkAsg CycleWitness.inp CycleWitness.walk (fun _ => 2))
        (klaecLP CycleWitness.inp).obj = 5) ∧
    (∀ a, Sat a (klaecLP CycleWitness.inp) → 5 ≤ evalTerms a (klaecLP CycleWitness.inp).obj) ∧
    (ValidRoute CycleWitness.inp.base CycleWitness.inp.starts CycleWitness.inp.ends (CycleWitness.walk 0) ∧
      (∀ e ∈ CycleWitness.inp.st.g.edges,
        (traversals (CycleWitness.inp.st.source :: CycleWitness.walk 0 ++ [CycleWitness.inp.st.sink]) e : Rat)
          ≤ klaecCap CycleWitness.inp e) ∧
      (4 : Rat) ≤ CycleWitness.inp.wmax true ∧
      LAEC.totalErr CycleWitness.inp CycleWitness.walk (fun _ => 4) = 2) ∧
    ¬ LaecWithinCaps CycleWitness.inp CycleWitness.walk (fun _ => 4) :=
  ⟨⟨CycleWitness.laec_sat, CycleWitness.laec_obj⟩, CycleWitness.laec_lp_lower_bound,
    ⟨CycleWitness.walk_valid, CycleWitness.laec_better_family.2.2, CycleWitness.laec_better_family.2.1,
      CycleWitness.laec_better_family.1⟩,
    CycleWitness.laec_cut_off⟩

/-- `klaec_sound` applies to a concrete satisfying assignment of a cyclic instance (42 columns, 71 rows) -/
example := klaec_sound CycleWitness.inp _ CycleWitness.base_wf CycleWitness.laec_sat

/-- it decodes to the walk `s a b a b` (once round the cycle `a ⇄ b`) and has objective `5` -/
example : decodeWalkLayer CycleWitness.inp.st
    (klaecWalkAsg CycleWitness.inp CycleWitness.walk (fun _ => 2)) 0 = ["s", "a", "b", "a", "b"] :=
  CycleWitness.laec_decode

example : evalTerms (klaecWalkAsg CycleWitness.inp CycleWitness.walk (fun _ => 2))
    (klaecLP CycleWitness.inp).obj = 5 :=
  CycleWitness.laec_obj

/-- the hypotheses of `klaec_complete_within_caps` hold for that family -/
example := klaec_complete_within_caps CycleWitness.inp CycleWitness.walk _ CycleWitness.base_wf
  (by decide) CycleWitness.laec_names CycleWitness.flows_int CycleWitness.laec_within

/-- `klaec_opt_within_caps` and `klaec_opt_tight` apply to a true optimum of the instance
(`CycleWitness.laec_optimal`: objective `5`, minimal) -/
example := klaec_opt_within_caps CycleWitness.inp _ CycleWitness.base_wf (by decide)
  CycleWitness.laec_names CycleWitness.flows_int CycleWitness.scale_nonneg CycleWitness.laec_sat
  CycleWitness.laec_optimal

example := klaec_opt_tight CycleWitness.inp _ CycleWitness.base_wf (by decide)
  CycleWitness.laec_names rfl rfl CycleWitness.flows_int CycleWitness.scale_nonneg CycleWitness.laec_sat
  CycleWitness.laec_optimal

/-- the decoded family of the concrete satisfying assignment is within the caps -/
example := klaec_decoded_within_caps CycleWitness.inp _ CycleWitness.base_wf rfl rfl
  CycleWitness.laec_sat

/-! `klaeGivenLP inp ws original_k` is the LP that `kLeastAbsErrors.__init__` hands to the solver when
`solution_weights_superset = ws` is given (`_encode_leastabserrors_decomposition_with_given_weights` +
`_encode_objective`; K2 LP-dump equality). The constructor sets `k = len(ws)` and allows empty paths:
`inp.forGiven ws`; the theorems hold for every `inp` (for `inp.forGiven ws` in particular).
Vocabulary (`FP/Spec/ErrGiven.lean`): `givenW ws i` — the `i`-th given number, the weight of layer `i`;
`usedCount k P` — the number of non-empty layers; a *choice* `P` of the given weights by index
(`P i = []`: the `i`-th number is not used); `LAE.GivenChoice inp original_k P` — every layer is the empty
path or a route, at most `original_k` layers used; `LAE.GivenBounded inp ws original_k P` — … and every
per-edge error `|f(e) − Σ_{i used} ws[i][e ∈ P i]| ≤ w_max = max(k·weight_type(max f), max ws)`, the bound of
the error columns. -/

/-- For every satisfying assignment of the given-weights LP on a
well-formed user DAG: every layer decodes to the empty path or a route (`GivenChoice.routes`), at most
`original_k` layers are non-empty (`GivenChoice.cap`, the row `max_paths_original_k_paths`); the non-empty
ones are routes of the *user's* graph; the edge columns are the route indicators; with layer `i` carrying
the `i`-th given number, `|f(e) − Σ_{i used} ws[i][e ∈ p_i]| ≤ ee(e) ≤ w_max` on every non-ignored edge
(`ee` integral for `weight_type = int`); the solver's objective is `Σ_e scale(e)·ee(e)`. -/
theorem klae_given_sound (inp : ErrInput) (ws : List Rat) (originalK : Nat) (a : Asg)
    (h : BaseWF inp.fi.base) (hac : Acyclic inp.fi.base)
    (hsat : Sat a (klaeGivenLP inp ws originalK)) :
    ∃ ps : List (List Node),
      decodePaths inp.st (fun e i => a (edgeVar e i)) inp.k = some ps ∧ ps.length = inp.k ∧
      GivenChoice inp originalK (fun i => ps.getD i []) ∧
      (∀ i, i < inp.k → ps.getD i [] ≠ [] →
        ValidRoute inp.fi.base inp.fi.starts inp.fi.ends (ps.getD i []) ∧ (ps.getD i []).Nodup) ∧
      (∀ i, i < inp.k → ∀ e ∈ inp.st.g.edges, a (edgeVar e i) = trav inp.st (ps.getD i []) e) ∧
      (∀ e ∈ inp.basicEdges,
        absErr inp (fun i => ps.getD i []) (givenW ws) e ≤ a (eeVar e) ∧
        a (eeVar e) ≤ inp.wmax (some ws) ∧ (inp.fi.weightInt = true → IsInt (a (eeVar e)))) ∧
      evalTerms a (klaeGivenLP inp ws originalK).obj
        = (inp.basicEdges.map fun e => inp.scale e * a (eeVar e)).sum :=
  FP.klae_given_sound inp ws originalK a h hac hsat

/-- Every choice of at most `original_k` of the given weights (by
index) with routes whose errors are at most `w_max` (the `ee` column bound) extends to a satisfying
assignment with `ee(e) = |f(e) − Σ…|` and objective `Σ scale(e)·|f(e) − Σ…|`. Scope as for `klae_complete`
(no subpath constraints, unit lengths); `hfint`: with `weight_type = int` the error columns are integer
columns, so the flow values and the given numbers have to be integers. -/
theorem klae_given_complete (inp : ErrInput) (ws : List Rat) (originalK : Nat) (P : Nat → List Node)
    (h : BaseWF inp.fi.base) (hac : Acyclic inp.fi.base)
    (hcons : inp.fi.cfg.constraints = []) (hlen : inp.fi.cfg.lengths = none)
    (hfint : inp.fi.weightInt = true →
      (∀ e ∈ inp.basicEdges, IsInt (inp.fi.f e)) ∧ ∀ i, i < inp.k → IsInt (givenW ws i))
    (hb : GivenBounded inp ws originalK P) :
    ∃ a : Asg, Sat a (klaeGivenLP inp ws originalK) ∧
      (∀ i, i < inp.k → ∀ e ∈ inp.st.g.edges, a (edgeVar e i) = trav inp.st (P i) e) ∧
      (∀ e ∈ inp.basicEdges, a (eeVar e) = absErr inp P (givenW ws) e) ∧
      evalTerms a (klaeGivenLP inp ws originalK).obj = totalErr inp P (givenW ws) :=
  FP.klae_given_complete inp ws originalK P h hac hcons hlen hfint hb

/-- An assignment that is optimal for the LP decodes to a bounded
choice minimising the total scaled absolute error among all bounded choices of at most `original_k` of the
given weights with routes; the error columns are tight on every edge of positive scale, and the solver's
objective *is* the total scaled error of the returned choice. -/
theorem klae_given_opt_transfer (inp : ErrInput) (ws : List Rat) (originalK : Nat) (a : Asg)
    (h : BaseWF inp.fi.base) (hac : Acyclic inp.fi.base)
    (hcons : inp.fi.cfg.constraints = []) (hlen : inp.fi.cfg.lengths = none)
    (hfint : inp.fi.weightInt = true →
      (∀ e ∈ inp.basicEdges, IsInt (inp.fi.f e)) ∧ ∀ i, i < inp.k → IsInt (givenW ws i))
    (hscale : ∀ e ∈ inp.basicEdges, 0 ≤ inp.scale e)
    (hsat : Sat a (klaeGivenLP inp ws originalK))
    (hopt : ∀ a', Sat a' (klaeGivenLP inp ws originalK) →
      evalTerms a (klaeGivenLP inp ws originalK).obj ≤ evalTerms a' (klaeGivenLP inp ws originalK).obj) :
    ∃ ps : List (List Node),
      decodePaths inp.st (fun e i => a (edgeVar e i)) inp.k = some ps ∧
      GivenBounded inp ws originalK (fun i => ps.getD i []) ∧
      (∀ P', GivenBounded inp ws originalK P' →
        totalErr inp (fun i => ps.getD i []) (givenW ws) ≤ totalErr inp P' (givenW ws)) ∧
      (∀ e ∈ inp.basicEdges, 0 < inp.scale e →
        a (eeVar e) = absErr inp (fun i => ps.getD i []) (givenW ws) e) ∧
      evalTerms a (klaeGivenLP inp ws originalK).obj
        = totalErr inp (fun i => ps.getD i []) (givenW ws) :=
  FP.klae_given_opt_transfer inp ws originalK a h hac hcons hlen hfint hscale hsat hopt

/-- When the bound `w_max` loses nothing: if the given numbers are non-negative and *sum to at most
`w_max`* (e.g. none of the `len(ws)` numbers exceeds the largest flow value) and the flow values lie in
`[0, w_max]`, every choice is bounded. -/
theorem klae_given_adequate (inp : ErrInput) (ws : List Rat) (originalK : Nat) (P : Nat → List Node)
    (h : BaseWF inp.fi.base) (hac : Acyclic inp.fi.base)
    (hw0 : ∀ i, i < inp.k → 0 ≤ givenW ws i)
    (hsum : ((List.range inp.k).map (givenW ws)).sum ≤ inp.wmax (some ws))
    (hf : ∀ e ∈ inp.basicEdges, 0 ≤ inp.fi.f e ∧ inp.fi.f e ≤ inp.wmax (some ws))
    (hch : GivenChoice inp originalK P) : GivenBounded inp ws originalK P :=
  FP.klae_given_adequate inp ws originalK P h hac hw0 hsum hf hch

/-- Under the hypotheses of `klae_given_adequate` the returned choice is optimal among all choices of at most
`original_k` of the given weights (by index) with routes of the user's graph. The hypothesis
`allowEmpty = true` under `∀ P'` speaks of `inp` only (the constructor sets it), not of the competitor; it
is used for the layers with `P' i = []`. -/
theorem klae_given_optimal (inp : ErrInput) (ws : List Rat) (originalK : Nat) (a : Asg)
    (h : BaseWF inp.fi.base) (hac : Acyclic inp.fi.base)
    (hcons : inp.fi.cfg.constraints = []) (hlen : inp.fi.cfg.lengths = none)
    (hfint : inp.fi.weightInt = true →
      (∀ e ∈ inp.basicEdges, IsInt (inp.fi.f e)) ∧ ∀ i, i < inp.k → IsInt (givenW ws i))
    (hscale : ∀ e ∈ inp.basicEdges, 0 ≤ inp.scale e)
    (hw0 : ∀ i, i < inp.k → 0 ≤ givenW ws i)
    (hsum : ((List.range inp.k).map (givenW ws)).sum ≤ inp.wmax (some ws))
    (hf : ∀ e ∈ inp.basicEdges, 0 ≤ inp.fi.f e ∧ inp.fi.f e ≤ inp.wmax (some ws))
    (hsat : Sat a (klaeGivenLP inp ws originalK))
    (hopt : ∀ a', Sat a' (klaeGivenLP inp ws originalK) →
      evalTerms a (klaeGivenLP inp ws originalK).obj ≤ evalTerms a' (klaeGivenLP inp ws originalK).obj) :
    ∃ ps : List (List Node),
      decodePaths inp.st (fun e i => a (edgeVar e i)) inp.k = some ps ∧
      usedCount inp.k (fun i => ps.getD i []) ≤ originalK ∧
      ∀ P' : Nat → List Node,
        (∀ i, i < inp.k → P' i = [] ∨ ValidRoute inp.fi.base inp.fi.starts inp.fi.ends (P' i)) →
        usedCount inp.k P' ≤ originalK → inp.fi.cfg.allowEmpty = true →
        totalErr inp (fun i => ps.getD i []) (givenW ws) ≤ totalErr inp P' (givenW ws) :=
  FP.klae_given_optimal inp ws originalK a h hac hcons hlen hfint hscale hw0 hsum hf hsat hopt

/-- **what the bound cuts off — the code falsifies optimality when the given weights exceed the flow
values** (finding C07-given-weights-wmax-cuts-optimum; instance `a → b`, `b → c → c2`, `b → d → d2`,
`f(a,b) = 0`, `f = 10` elsewhere, `k = 2`, `weight_type = int`, `solution_weights_superset = [12, 12]`,
hence `w_max = max(2·10, 12) = 20`):

* the LP the constructor builds has optimum `36`: a satisfying assignment with objective `36` exists (one
  route, weight 12) and *every* satisfying assignment has objective at least `36`;
* yet the choice using both given weights on the routes `a b c c2` and `a b d d2` — routes of the user's
  graph, `2 ≤ original_k` layers used — has total absolute error `32`;
* that choice is not bounded (`|0 − 24| = 24 > w_max`): it is exactly what the bound on the error column
  of `(a,b)` excludes.

Replayed on the real code by `harness/props/c07.py` (returns error 36, brute force 32). -/
theorem klae_given_wmax_cuts_optimum :
    (∃ a : Asg, Sat a (klaeGivenLP GivenExample.inp GivenExample.ws 2) ∧
      evalTerms a (klaeGivenLP GivenExample.inp GivenExample.ws 2).obj = 36) ∧
    (∀ a, Sat a (klaeGivenLP GivenExample.inp GivenExample.ws 2) →
      36 ≤ evalTerms a (klaeGivenLP GivenExample.inp GivenExample.ws 2).obj) ∧
    (GivenChoice GivenExample.inp 2 GivenExample.P2 ∧
      ValidRoute GivenExample.inp.fi.base GivenExample.inp.fi.starts GivenExample.inp.fi.ends
        (GivenExample.P2 0) ∧
      ValidRoute GivenExample.inp.fi.base GivenExample.inp.fi.starts GivenExample.inp.fi.ends
        (GivenExample.P2 1) ∧
      totalErr GivenExample.inp GivenExample.P2 (givenW GivenExample.ws) = 32) ∧
    ¬ GivenBounded GivenExample.inp GivenExample.ws 2 GivenExample.P2 :=
  ⟨GivenExample.sat36, GivenExample.lp_lower_bound,
    ⟨GivenExample.choice2, GivenExample.valid_pc, GivenExample.valid_pd, GivenExample.total2⟩,
    GivenExample.not_bounded2⟩

/-- `forGiven` is the constructor's treatment of `solution_weights_superset`: `k = len(ws)` (so `givenW ws i` is
the `i`-th given number for every layer `i < k`) and empty paths allowed -/
example (inp : ErrInput) (ws : List Rat) :
    (inp.forGiven ws).k = ws.length ∧ (inp.forGiven ws).fi.cfg.allowEmpty = true := ⟨rfl, rfl⟩

/-- the instance is what the constructor makes of the user's call (`k = len(ws)`, empty paths allowed) -/
example : GivenExample.inp = ({ fi := GivenExample.fi0 } : ErrInput).forGiven GivenExample.ws := rfl
example : GivenExample.inp.k = 2 ∧ GivenExample.inp.fi.cfg.allowEmpty = true := ⟨rfl, rfl⟩

/-- the hypotheses of `klae_given_complete` hold for the one-route choice (layer 0 = `a b c c2`, layer 1 unused), total error 36 -/
example : LAE.GivenBounded GivenExample.inp GivenExample.ws 2 GivenExample.P1 := GivenExample.bounded1
example : LAE.totalErr GivenExample.inp GivenExample.P1 (givenW GivenExample.ws) = 36 := GivenExample.total1

/-- a satisfying assignment of the given-weights LP of that instance (21 columns, 25 rows), objective 36:
the hypotheses of `klae_given_sound` are satisfiable -/
example : ∃ a, Sat a (klaeGivenLP GivenExample.inp GivenExample.ws 2) ∧
    evalTerms a (klaeGivenLP GivenExample.inp GivenExample.ws 2).obj = 36 := GivenExample.sat36

/-- `klae_given_opt_transfer` applies to a true optimum of the instance (objective `36`, minimal by `lp_lower_bound`) -/
example : ∃ a, Sat a (klaeGivenLP GivenExample.inp GivenExample.ws 2) ∧
    ∀ a', Sat a' (klaeGivenLP GivenExample.inp GivenExample.ws 2) →
      evalTerms a (klaeGivenLP GivenExample.inp GivenExample.ws 2).obj
        ≤ evalTerms a' (klaeGivenLP GivenExample.inp GivenExample.ws 2).obj := by
  obtain ⟨a, hsat, hobj⟩ := GivenExample.sat36
  exact ⟨a, hsat, fun a' h' => by rw [hobj]; exact GivenExample.lp_lower_bound a' h'⟩

/-- the hypotheses of `klae_given_adequate` are satisfiable: with the given numbers `[4, 6]` on the same graph
`Σ ws = 10 ≤ w_max = 20` -/
example : ((List.range GivenExample.inp.k).map (givenW [4, 6])).sum ≤ GivenExample.inp.wmax (some [4, 6]) := by
  decide +kernel

end FP.Props.C07
