import FP.Proofs.Tables
import FP.Model.Generated.Aliasing
/-!
# C18 — a model's result depends only on its own arguments; caller data is never mutated

Stated over `FP.Generated.aliasTable`, the aliasing table that `harness/extract.py` reads off the current
source of flowpaths (regenerated on every run; the kernel re-checks the table theorems each time).
`store_unchanged` and `history_independent` read the table through the object-store semantics of
`FP.Model.Store`.
-/
namespace FP.Props.C18
open FP.Tables FP.Store FP.Generated

def allWrites : List WriteSite := aliasTable.flatMap (·.writes)
def allDefaults : List MutableDefault := aliasTable.flatMap (·.defaults)

/-- parameters documented as *output* parameters ("Dictionary to store solve statistics"): writing into
the caller's object is their purpose -/
def outParams : List String := ["solve_statistics"]

/-- (class, parameter): the class writes into the object the caller passed — one entry per root cause
in `known_findings.json`. Empty: every write through an alias of a caller object that
appears in the regenerated table breaks `no_write_through_alias`, and the second alternative in the
conclusion of `dirty_confined` never holds. -/
def knownBad : List (String × String) := []

/-- (class, function, parameter): a shared default object (`= {}`) is written. Empty. -/
def knownBadDefaults : List (String × String × String) := []

/-- classes whose `get_solution` computing path does not end in `return`. Empty, so
`getters_idempotent` speaks of every class of the table. -/
def knownFallsOff : List String := []

/-- every write through a reference that may be the caller's object is one of the literal exceptions
`knownBad`; a new write through an alias in /repo makes this theorem fail -/
theorem no_write_through_alias :
    ∀ w ∈ allWrites, w.viaCaller = true → w.param ∉ outParams → (w.cls, w.param) ∈ knownBad := by
  decide +kernel

/-- likewise for the shared default objects of the signatures' own `= {}` / `= []` parameters -/
theorem no_mutable_default_written :
    ∀ d ∈ allDefaults, d.written = true → (d.cls, d.func, d.param) ∈ knownBadDefaults := by
  decide +kernel

/-- no class reaches, through an inner call that omits an argument, the default object of another
signature -/
theorem no_inner_default_written : ∀ w ∈ allWrites, w.viaDefault = false := by
  decide +kernel

/-- the remaining writes through an alias concern one internal list (`NodeExpandedDiGraph._edges_to_ignore`,
extended with `+=` by the node branches of the constructors) — not caller data, recorded as latent -/
theorem internal_alias_writes :
    ∀ w ∈ allWrites, w.viaCaller = false → w.viaDefault = false →
      w.param = "NodeExpandedDiGraph._edges_to_ignore" := by
  decide +kernel

/-- the classes of the current table without any caller-visible write -/
def cleanClasses : List String := (aliasTable.filter cleanRow).map (·.cls)

theorem cleanClasses_isClean : ∀ c ∈ cleanClasses, isClean aliasTable c = true := by
  have : ∀ c ∈ cleanClasses, c ∉ (aliasTable.filter (fun r => !cleanRow r)).map (·.cls) := by decide +kernel
  exact fun c hc => isClean_of_not_dirty aliasTable c hc (this c hc)

/-- any history of constructions / solves of clean classes,
sharing graphs, option dictionaries, constraint and ignore lists in any way, leaves every caller-visible
object as it was — whatever the code does within its may-write set (`eff`) -/
theorem store_unchanged {V} (eff : Construction → Ref → V → V) (h : List Construction) (s : Store V)
    (hc : ∀ c ∈ h, c.cls ∈ cleanClasses) : ∀ r, run aliasTable eff s h r = s r :=
  FP.Store.store_unchanged aliasTable eff h s (fun c hm => cleanClasses_isClean c.cls (hc c hm))

/-- results are pure functions of the argument values, so a model built after
such a history returns what it returns when built first -/
theorem history_independent {V R} (eff : Construction → Ref → V → V) (f : String → List (String × V) → R)
    (h : List Construction) (s : Store V) (c : Construction) (hc : ∀ c' ∈ h, c'.cls ∈ cleanClasses) :
    resultOf f (run aliasTable eff s h) c = resultOf f s c :=
  result_history_independent_clean aliasTable eff f h s c
    (fun c' hm => cleanClasses_isClean c'.cls (hc c' hm))

/-- for the classes that are *not* clean the damage is confined: a reference only changes if it was
bound to a parameter listed in `knownBad` (or an output parameter) -/
theorem dirty_confined (c : Construction) (r : Ref) (hw : mayWrite aliasTable c r = true)
    (hk : c.cls ∈ aliasTable.map (·.cls)) :
    ∃ a ∈ c.args, a.2 = r ∧ (a.1 ∈ outParams ∨ (c.cls, a.1) ∈ knownBad) := by
  -- `no_write_through_alias` row by row, under the row's own class name: what `mayWrite` reads
  have hrow : ∀ ca ∈ aliasTable, ∀ w ∈ ca.writes, w.viaCaller = true → w.param ∉ outParams →
      (ca.cls, w.param) ∈ knownBad := by decide +kernel
  unfold mayWrite at hw
  cases hl : lookup aliasTable c.cls with
  | none =>
    obtain ⟨ca, hca, hcls⟩ := List.mem_map.1 hk
    exact absurd hcls (by simpa using List.find?_eq_none.1 hl ca hca)
  | some ca =>
    simp only [hl] at hw
    obtain ⟨a, ha, hcond⟩ := List.any_eq_true.1 hw
    simp only [Bool.and_eq_true, decide_eq_true_eq, List.contains_iff_mem, writtenParams, List.mem_map,
      List.mem_filter] at hcond
    obtain ⟨hr, w, ⟨hwin, hvia⟩, hwp⟩ := hcond
    have hcls : ca.cls = c.cls := by simpa using List.find?_some hl
    refine ⟨a, ha, hr, ?_⟩
    rw [← hwp, ← hcls]
    exact Classical.or_iff_not_imp_left.2 (hrow ca (List.mem_of_find?_eq_some hl) w hwin hvia)

/-- the classes whose computing path falls off the end are the literal list `knownFallsOff` -/
theorem getters_fallsOff_known : ∀ ca ∈ aliasTable, ca.getter.fallsOff = true → ca.cls ∈ knownFallsOff := by
  decide +kernel

/-- for every class of the table outside `knownFallsOff`, calling `get_solution()` again returns what the
previous call returned (from any cache state, for any computed value) -/
theorem getters_idempotent {α} (ca : ClassAlias) (hca : ca ∈ aliasTable) (hk : ca.cls ∉ knownFallsOff)
    (compute : α) (st : GetterState α) :
    (getSolution ca.getter compute (getSolution ca.getter compute st).2).1
      = (getSolution ca.getter compute st).1 := by
  apply getter_idempotent
  cases h : ca.getter.fallsOff with
  | false => rfl
  | true => exact absurd (getters_fallsOff_known ca hca h) hk

example : "kFlowDecomp" ∈ cleanClasses ∧ "kPathCover" ∈ cleanClasses ∧ "MinFlowDecomp" ∈ cleanClasses := by
  decide +kernel
example : allWrites.length ≥ 10 ∧ allDefaults.length ≥ 60 := by decide +kernel
/-- a history sharing one options dict (ref 0) and one graph (ref 1) between two clean classes -/
example (eff : Construction → Ref → Nat → Nat) (s : Store Nat) :
    run aliasTable eff s [⟨"kFlowDecomp", [("optimization_options", 0), ("G", 1)]⟩,
                           ⟨"kPathCover", [("optimization_options", 0), ("G", 1)]⟩] 0 = s 0 :=
  store_unchanged eff _ s (by decide +kernel) 0

/-- What the store model says about a class *with* a write through the caller's object, on a literal
fixture: a class that keeps `optimization_options or {}` and writes a key, with a getter without
`return` on its computing path. -/
def fixture : List ClassAlias :=
  [{ cls := "Fixture",
     stores := [⟨"Fixture", "optimization_options", "optimization_options", .aliasOrEmpty⟩],
     writes := [⟨"Fixture", "Fixture.__init__", "self.optimization_options", "optimization_options",
                 "[trusted_edges_for_safety]", "[]=", true, false, true⟩],
     defaults := [], delegates := [], getter := ⟨"Fixture", true, true, true⟩ }]

/-- the table predicts the damage: the shared dict (ref 0) may change, the graph (ref 1) cannot -/
example : mayWrite fixture ⟨"Fixture", [("optimization_options", 0), ("G", 1)]⟩ 0 = true ∧
          mayWrite fixture ⟨"Fixture", [("optimization_options", 0), ("G", 1)]⟩ 1 = false := by decide +kernel
/-- and with an effect that adds one key the heap really differs after the construction -/
example : run fixture (fun _ _ v => v + 1) (fun _ => 0) [⟨"Fixture", [("optimization_options", 0), ("G", 1)]⟩] 0 = 1 := by
  decide +kernel
example : isClean fixture "Fixture" = false := by decide +kernel
/-- the getter defect: `None` on the computing call, the data on the next one -/
example : (getSolution (⟨"Fixture", true, true, true⟩ : GetterFact) 7 ⟨none⟩).1 = none ∧
    (getSolution (⟨"Fixture", true, true, true⟩ : GetterFact) 7
      (getSolution (⟨"Fixture", true, true, true⟩ : GetterFact) 7 ⟨none⟩).2).1 = some 7 :=
  getter_first_call_none _ 7 rfl rfl

end FP.Props.C18
