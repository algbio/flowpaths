import FP.Proofs.WalkResidual
import FP.Proofs.EulerClosed
import FP.Proofs.FlowPeel
/-!
A family of weighted source-to-sink walks can be replaced by at most `|E|` walks (`kfdcr_few_walks`): on the shape `augment` produces without additional starts/ends (`Thin`), every family of
source-to-sink walks with positive integer weights, each through an edge of the user's graph, has the same
weighted traversal counts on every edge of the augmented graph as a family of at most
`#edges of the user's graph` such walks. No LP occurs in this file.

The weighted traversal counts of the family are a flow (`kfdcr_flowOn`), integral, hence a sum of at most
`#inner edges` source-to-sink paths and simple closed walks with positive integer weights (`flow_pieces`,
FlowPeel). A closed walk meets a walk that starts at the source (`kfdcr_touch`); that walk, of weight `μ`, is
split into weight `1` and weight `μ - 1`, and the part of weight `1` runs `ν` times round the closed walk of
weight `ν`: one closed walk less, at most one walk more (`kfdcr_merge`).
-/
namespace FP
open FP.Spec FP.Euler

def kfdcr_tot (D : List (List Node × Nat)) (e : Edge) : Nat := (D.map fun d => d.2 * traversals d.1 e).sum

theorem kfdcr_tot_cons (d : List Node × Nat) (D : List (List Node × Nat)) (e : Edge) :
    kfdcr_tot (d :: D) e = d.2 * traversals d.1 e + kfdcr_tot D e := by
  simp [kfdcr_tot]

theorem kfdcr_tot_append (D1 D2 : List (List Node × Nat)) (e : Edge) :
    kfdcr_tot (D1 ++ D2) e = kfdcr_tot D1 e + kfdcr_tot D2 e := by
  simp [kfdcr_tot]

theorem kfdcr_tot_perm {D1 D2 : List (List Node × Nat)} (h : D1.Perm D2) (e : Edge) :
    kfdcr_tot D1 e = kfdcr_tot D2 e :=
  (h.map _).sum_nat

theorem kfdcr_tot_pos {D : List (List Node × Nat)} {e : Edge} (h : 0 < kfdcr_tot D e) :
    ∃ d ∈ D, 0 < d.2 ∧ e ∈ walkEdges d.1 := by
  obtain ⟨y, hy, hpos⟩ := List.sum_pos_iff_exists_pos_nat.1 h
  obtain ⟨d, hd, rfl⟩ := List.mem_map.1 hy
  exact ⟨d, hd, Nat.pos_of_mul_pos_right hpos, List.count_pos_iff.1 (Nat.pos_of_mul_pos_left hpos)⟩

theorem kfdcr_weight_le_tot {D : List (List Node × Nat)} {d : List Node × Nat} (hd : d ∈ D) {e : Edge}
    (he : e ∈ walkEdges d.1) : d.2 ≤ kfdcr_tot D e :=
  Nat.le_trans (Nat.le_mul_of_pos_right _ (List.count_pos_iff.2 he))
    (nat_le_sum_of_mem (fun d => d.2 * traversals d.1 e) hd)

theorem closed_rotate (x : Node) (b : List Node) (y : Node) (hy : y ∈ x :: b) :
    ∃ b', (walkEdges (y :: b' ++ [y])).Perm (walkEdges (x :: b ++ [x])) := by
  rcases List.mem_cons.1 hy with rfl | hyb
  · exact ⟨b, List.Perm.refl _⟩
  · obtain ⟨b1, b2, rfl⟩ := List.append_of_mem hyb
    refine ⟨b2 ++ x :: b1, ?_⟩
    have e1 : x :: (b1 ++ y :: b2) ++ [x] = (x :: b1) ++ y :: (b2 ++ [x]) := by simp
    have e2 : y :: (b2 ++ x :: b1) ++ [y] = (y :: b2) ++ x :: (b1 ++ [y]) := by simp
    rw [e1, e2, we_append_cons (x :: b1) y (b2 ++ [x]), we_append_cons (y :: b2) x (b1 ++ [y])]
    exact List.perm_append_comm

theorem kfdcr_tot_bal (G : Graph) (hnd : G.edges.Nodup) (D : List (List Node × Nat)) (v : Node)
    (hD : ∀ d ∈ D, IsWalkIn G d.1 ∧ bal (walkEdges d.1) v = 0) :
    inN G (kfdcr_tot D) v = outN G (kfdcr_tot D) v := by
  induction D with
  | nil => exact (sum_map_zero fun _ _ => rfl).trans (sum_map_zero fun _ _ => rfl).symm
  | cons d D ih =>
    have hfun : kfdcr_tot (d :: D) = fun e => d.2 * traversals d.1 e + kfdcr_tot D e :=
      funext (kfdcr_tot_cons d D)
    obtain ⟨hW, hb⟩ := hD d (by simp)
    rw [hfun, inN_add, outN_add, inN_mul, outN_mul,
      ih (fun d' hd' => hD d' (by simp [hd'])), inN_eq_outN_of_bal G hnd d.1 hW v hb]

/-- `n` copies of the closed walk `v, c, v` inserted at `v` -/
theorem kfdcr_splice_count (a b c : List Node) (v : Node) (n : Nat) (e : Edge) :
    traversals (a ++ v :: ((List.replicate n (c ++ [v])).flatten ++ b)) e
      = traversals (a ++ v :: b) e + n * traversals (v :: c ++ [v]) e := by
  induction n with
  | zero => simp
  | succ n ih =>
    unfold traversals at ih ⊢
    rw [List.replicate_succ, List.flatten_cons, List.append_assoc,
      (walkEdges_splice_perm a _ c v).count_eq, List.count_append, ih, Nat.succ_mul]
    omega

/-- a sequence through `y` and a closed walk through `y`: one sequence that runs along the first once and
`ν` times round the second (rotated to `y`) -/
theorem kfdcr_splice (src snk : Node) (p : List Node) (x : Node) (b : List Node) (y : Node) (hyp : y ∈ p)
    (hyB : y ∈ x :: b) (ν : Nat) :
    ∃ p', ∀ e, traversals (src :: p' ++ [snk]) e
      = traversals (src :: p ++ [snk]) e + ν * traversals (x :: b ++ [x]) e := by
  obtain ⟨b', hperm⟩ := closed_rotate x b y hyB
  obtain ⟨a1, a2, rfl⟩ := List.append_of_mem hyp
  refine ⟨a1 ++ y :: ((List.replicate ν (b' ++ [y])).flatten ++ a2), fun e => ?_⟩
  have h1 : src :: (a1 ++ y :: ((List.replicate ν (b' ++ [y])).flatten ++ a2)) ++ [snk]
      = (src :: a1) ++ y :: ((List.replicate ν (b' ++ [y])).flatten ++ (a2 ++ [snk])) := by
    simp
  have h2 : src :: (a1 ++ y :: a2) ++ [snk] = (src :: a1) ++ y :: (a2 ++ [snk]) := by simp
  have h3 : traversals (y :: b' ++ [y]) e = traversals (x :: b ++ [x]) e := hperm.count_eq e
  rw [h1, kfdcr_splice_count _ _ b' y, h2, h3]

theorem walk_induct (P : Node → Prop) (L : List Node) (x0 : Node) (h0 : L.head? = some x0) (hx0 : P x0)
    (hstep : ∀ u v, (u, v) ∈ walkEdges L → P u → P v) : ∀ v ∈ L, P v := by
  intro v hv
  obtain ⟨a, b, rfl⟩ := List.append_of_mem hv
  -- otherwise some edge before `v` leaves `P`
  apply Classical.byContradiction
  intro hnv
  obtain ⟨e, he, h1, h2⟩ := cut_edge P (a ++ [v]) x0 v (by cases a <;> simpa using h0) List.getLast?_concat hx0 hnv
  rw [List.append_cons] at hstep
  exact h2 (hstep e.1 e.2 (we_sub_append_right _ b e he) h1)

/-- an edge of the user's graph: it neither leaves the synthetic source nor touches the synthetic sink -/
def kfdcr_isBase (s : STGraph) (e : Edge) : Bool :=
  decide (e.1 ≠ s.source) && decide (e.2 ≠ s.sink) && decide (e.1 ≠ s.sink)

theorem kfdcr_isBase_eq_isInner {s : STGraph} (hwf : STWFc s) {e : Edge} (he : e ∈ s.g.edges) :
    kfdcr_isBase s e = isInner s e := by
  simp [kfdcr_isBase, isInner, hwf.snkNoOut e he]

/-- a source-to-sink walk of the augmented graph through a base edge, with a positive weight -/
def kfdcr_AWalk (s : STGraph) (d : List Node × Nat) : Prop :=
  1 ≤ d.2 ∧ (∃ p, d.1 = s.source :: p ++ [s.sink]) ∧ IsWalkIn s.g d.1 ∧
    ∃ e ∈ walkEdges d.1, kfdcr_isBase s e = true

/-- a closed walk of the augmented graph with a positive weight -/
def kfdcr_BCyc (s : STGraph) (d : List Node × Nat) : Prop :=
  1 ≤ d.2 ∧ ∃ x b, d.1 = x :: b ++ [x] ∧ IsWalkIn s.g d.1

/-- the state of the merging (`kfdcr_merge`): walks `A` and closed walks `B` that together have the weighted
traversal counts `g` -/
structure kfdcr_MInv (s : STGraph) (g : Edge → Nat) (n : Nat) (A B : List (List Node × Nat)) : Prop where
  aWalk : ∀ d ∈ A, kfdcr_AWalk s d
  bCyc : ∀ d ∈ B, kfdcr_BCyc s d
  total : ∀ e ∈ s.g.edges, kfdcr_tot A e + kfdcr_tot B e = g e
  count : A.length + B.length ≤ n

theorem kfdcr_MInv_perm {s : STGraph} {g : Edge → Nat} {n : Nat} {A A' B B' : List (List Node × Nat)}
    (hA : A.Perm A') (hB : B.Perm B') (h : kfdcr_MInv s g n A B) : kfdcr_MInv s g n A' B' where
  aWalk := fun d hd => h.aWalk d (hA.mem_iff.2 hd)
  bCyc := fun d hd => h.bCyc d (hB.mem_iff.2 hd)
  total := fun e he => by rw [← kfdcr_tot_perm hA e, ← kfdcr_tot_perm hB e]; exact h.total e he
  count := by rw [← hA.length_eq, ← hB.length_eq]; exact h.count

section Merge
variable {s : STGraph} (hwf : STWFc s)
include hwf

/-- Some closed walk meets some walk, given that every positive edge is reached from the source along positive
edges. -/
theorem kfdcr_touch (g : Edge → Nat) (n : Nat) (A B : List (List Node × Nat))
    (hconn : ∀ e ∈ s.g.edges, 0 < g e → ∃ L : List Node, L.head? = some s.source ∧ e ∈ walkEdges L ∧
      ∀ e' ∈ walkEdges L, e' ∈ s.g.edges ∧ 0 < g e')
    (hinv : kfdcr_MInv s g n A B) (dB : List Node × Nat) (hdB : dB ∈ B) :
    ∃ dA ∈ A, ∃ dB' ∈ B, ∃ y, y ∈ dA.1 ∧ y ∈ dB'.1 := by
  obtain ⟨hν, x, b, hxb, hW⟩ := hinv.bCyc dB hdB
  obtain ⟨e, he⟩ := List.exists_mem_of_ne_nil _ (closed_ne_nil x b)
  rw [← hxb] at he
  have heE : e ∈ s.g.edges := hW e he
  have hgpos : 0 < g e := by
    have h1 := kfdcr_weight_le_tot hdB he
    have h2 := hinv.total e heE
    omega
  obtain ⟨L, hhead, heL, hLpos⟩ := hconn e heE hgpos
  apply Classical.byContradiction
  intro hno
  -- a vertex of a closed walk lies on no walk of `A` and is not the source
  have hoff : ∀ dB' ∈ B, ∀ u ∈ dB'.1, ¬ ((∃ dA ∈ A, u ∈ dA.1) ∨ u = s.source) := by
    rintro dB' hdB' u huc (⟨dA, hdA, hudA⟩ | hus)
    · exact hno ⟨dA, hdA, dB', hdB', u, hudA, huc⟩
    · obtain ⟨_, x', b', hxb', hW'⟩ := hinv.bCyc dB' hdB'
      rw [hxb'] at huc hW'
      exact (closed_avoids hwf hW' huc).1 hus
  -- yet along `L`, from the source, every vertex does
  refine hoff dB hdB e.1 (we_fst_mem he) (walk_induct (fun v => (∃ dA ∈ A, v ∈ dA.1) ∨ v = s.source) L s.source
    hhead (Or.inr rfl) (fun u v huv hu => ?_) e.1 (we_fst_mem heL))
  obtain ⟨hE, hpos⟩ := hLpos _ huv
  rw [← hinv.total _ hE] at hpos
  by_cases hA : 0 < kfdcr_tot A (u, v)
  · obtain ⟨dA, hdA, _, hmem⟩ := kfdcr_tot_pos hA
    exact Or.inl ⟨dA, hdA, we_snd_mem hmem⟩
  · obtain ⟨dB', hdB', _, hmem⟩ := kfdcr_tot_pos (by omega : 0 < kfdcr_tot B (u, v))
    exact absurd hu (hoff dB' hdB' u (we_fst_mem hmem))

omit hwf in
/-- a source-to-sink sequence that runs through the edges of a walk and of a closed walk, as often as the
walk and a multiple of the closed walk together, is a walk through the same base edge -/
theorem kfdcr_AWalk_spliced {dA dB : List Node × Nat} (hA : kfdcr_AWalk s dA) (hWB : IsWalkIn s.g dB.1)
    (p' : List Node)
    (hcount : ∀ e, traversals (s.source :: p' ++ [s.sink]) e = traversals dA.1 e + dB.2 * traversals dB.1 e) :
    kfdcr_AWalk s (s.source :: p' ++ [s.sink], 1) := by
  obtain ⟨_, _, hWA, ebase, hebase, hbase⟩ := hA
  refine ⟨Nat.le_refl 1, ⟨p', rfl⟩, fun e he => ?_, ebase, ?_, hbase⟩
  · have hpos : 0 < traversals (s.source :: p' ++ [s.sink]) e := List.count_pos_iff.2 he
    rw [hcount e] at hpos
    rcases Nat.eq_zero_or_pos (traversals dA.1 e) with h0 | h1
    · rw [h0, Nat.zero_add] at hpos
      exact hWB e (List.count_pos_iff.1 (Nat.pos_of_mul_pos_left hpos))
    · exact hWA e (List.count_pos_iff.1 h1)
  · have hpos : 0 < traversals (s.source :: p' ++ [s.sink]) ebase := by
      rw [hcount ebase]; exact Nat.add_pos_left (List.count_pos_iff.2 hebase) _
    exact List.count_pos_iff.1 hpos

/-- One merging step: the walk `dA` and the closed walk `dB` share the vertex `y`; weight `1` of `dA` is
rerouted `dB.2` times round `dB`. -/
theorem kfdcr_merge_step (g : Edge → Nat) (n : Nat) (A0 B0 : List (List Node × Nat))
    (dA dB : List Node × Nat) (y : Node) (hyA : y ∈ dA.1) (hyB : y ∈ dB.1)
    (hinv : kfdcr_MInv s g n (dA :: A0) (dB :: B0)) :
    ∃ A', kfdcr_MInv s g n A' B0 := by
  have hdA := hinv.aWalk dA List.mem_cons_self
  have ⟨hμ, ⟨p, hp⟩, hWA, hbaseA⟩ := hdA
  obtain ⟨_, x, b, hxb, hWB⟩ := hinv.bCyc dB List.mem_cons_self
  rw [hxb] at hyB
  obtain ⟨hysrc, hysnk⟩ := closed_avoids hwf (hxb ▸ hWB) hyB
  have hyp : y ∈ p := by
    rw [hp] at hyA
    rcases List.mem_cons.1 hyA with h | h
    · exact absurd h hysrc
    · exact (List.mem_append.1 h).resolve_right fun h => hysnk (List.mem_singleton.1 h)
  obtain ⟨p', hcount⟩ := kfdcr_splice s.source s.sink p x b y hyp (closed_mem.1 hyB) dB.2
  rw [← hp, ← hxb] at hcount
  have hnew := kfdcr_AWalk_spliced hdA hWB p' hcount
  have hA0 : ∀ d ∈ A0, kfdcr_AWalk s d := fun d hd => hinv.aWalk d (List.mem_cons_of_mem _ hd)
  have hB0 : ∀ d ∈ B0, kfdcr_BCyc s d := fun d hd => hinv.bCyc d (List.mem_cons_of_mem _ hd)
  have hlen := hinv.count
  simp only [List.length_cons] at hlen
  -- the new walk and weight `dA.2 - 1` of the old one together do what `dA` and `dB` did
  have htot : ∀ e ∈ s.g.edges,
      kfdcr_tot ((s.source :: p' ++ [s.sink], 1) :: (dA.1, dA.2 - 1) :: A0) e + kfdcr_tot B0 e = g e := by
    intro e he
    have h := hinv.total e he
    rw [kfdcr_tot_cons, kfdcr_tot_cons] at h
    rw [kfdcr_tot_cons, kfdcr_tot_cons]
    show 1 * traversals (s.source :: p' ++ [s.sink]) e + ((dA.2 - 1) * traversals dA.1 e + kfdcr_tot A0 e)
      + kfdcr_tot B0 e = g e
    rw [hcount e]
    obtain ⟨μ1, hμ'⟩ := Nat.exists_eq_add_of_le' hμ
    rw [← h, hμ', Nat.add_sub_cancel, Nat.add_mul, Nat.one_mul, Nat.one_mul]
    ac_rfl
  by_cases hμ1 : dA.2 = 1
  · refine ⟨(s.source :: p' ++ [s.sink], 1) :: A0, List.forall_mem_cons.2 ⟨hnew, hA0⟩, hB0, fun e he => ?_, ?_⟩
    · have h := htot e he
      have h0 : (dA.1, dA.2 - 1).2 = 0 := Nat.sub_eq_zero_of_le (Nat.le_of_eq hμ1)
      rw [kfdcr_tot_cons, kfdcr_tot_cons, h0, Nat.zero_mul, Nat.zero_add] at h
      rw [kfdcr_tot_cons]; exact h
    · exact Nat.le_of_succ_le hlen
  · refine ⟨(s.source :: p' ++ [s.sink], 1) :: (dA.1, dA.2 - 1) :: A0,
      List.forall_mem_cons.2 ⟨hnew, List.forall_mem_cons.2 ⟨⟨?_, ⟨p, hp⟩, hWA, hbaseA⟩, hA0⟩⟩, hB0, htot, ?_⟩
    · exact Nat.le_sub_one_of_lt (Nat.lt_of_le_of_ne hμ (Ne.symm hμ1))
    · show A0.length + 1 + 1 + B0.length ≤ n
      rw [Nat.add_right_comm _ 1]; exact hlen

theorem kfdcr_merge (g : Edge → Nat) (n : Nat)
    (hconn : ∀ e ∈ s.g.edges, 0 < g e → ∃ L : List Node, L.head? = some s.source ∧ e ∈ walkEdges L ∧
      ∀ e' ∈ walkEdges L, e' ∈ s.g.edges ∧ 0 < g e') :
    ∀ (A B : List (List Node × Nat)), kfdcr_MInv s g n A B → ∃ A', kfdcr_MInv s g n A' [] := by
  intro A B
  induction hm : B.length using Nat.strongRecOn generalizing A B with
  | ind m ih =>
    intro hinv
    cases hBne : B with
    | nil => subst hBne; exact ⟨A, hinv⟩
    | cons d0 B1 =>
      have hd0 : d0 ∈ B := by rw [hBne]; simp
      obtain ⟨dA, hdA, dB, hdB, y, hyA, hyB⟩ := kfdcr_touch hwf g n A B hconn hinv d0 hd0
      have hpA := List.perm_cons_erase hdA
      have hpB := List.perm_cons_erase hdB
      have hinv' := kfdcr_MInv_perm hpA hpB hinv
      obtain ⟨A', hA'⟩ := kfdcr_merge_step hwf g n _ _ dA dB y hyA hyB hinv'
      refine ih _ ?_ A' (B.erase dB) rfl hA'
      have := hpB.length_eq
      simp only [List.length_cons] at this
      omega

end Merge

theorem kfdcr_tot_natCast (D : List (List Node × Nat)) (e : Edge) :
    ((kfdcr_tot D e : Nat) : Rat)
      = ((D.map fun d => (d.1, (d.2 : Rat))).map fun d => d.2 * cntR (walkEdges d.1) e).sum := by
  unfold kfdcr_tot
  rw [natCast_sum, List.map_map]
  exact congrArg List.sum (List.map_congr_left fun d _ => by
    rw [Rat.natCast_mul, traversals_eq_cntR]; rfl)

section Walks
variable {s : STGraph} (hwf : STWFc s)
include hwf

/-- `v` is an isolated node of the user's graph (`source → v → sink`): a walk from the source that enters it goes on
to the sink only -/
theorem kfdcr_isolated_no_base (hth : Thin s) (l : List Node) (hW : IsWalkIn s.g (s.source :: l))
    (v : Node) (h1 : (s.source, v) ∈ walkEdges (s.source :: l)) (h2 : (v, s.sink) ∈ s.g.edges) :
    ∀ e ∈ walkEdges (s.source :: l), kfdcr_isBase s e = false := by
  obtain _ | ⟨a, r⟩ := l
  · cases h1
  -- the source is left once, for `v`
  have hav : a = v := by
    rcases List.mem_cons.1 h1 with h | h
    · exact (congrArg Prod.snd h).symm
    · obtain ⟨u, hu⟩ := exists_we_into (w := s.source :: a :: r) (we_fst_mem h)
      exact absurd rfl (hwf.srcNoIn _ (hW _ hu))
  subst hav
  -- and from `v` only the sink is reached
  have hP := walk_induct (fun u => u = a ∨ u = s.sink) (a :: r) a rfl (Or.inl rfl) fun u w huw hu => by
    have hE := hW _ (List.mem_cons_of_mem _ huw)
    rcases hu with rfl | rfl
    · exact Or.inr (hth.s2 _ h2 w hE)
    · exact absurd rfl (hwf.snkNoOut _ hE)
  rintro ⟨x, y⟩ he
  rcases List.mem_cons.1 he with h | he
  · rw [h]; simp [kfdcr_isBase]
  · have hE := hW _ (List.mem_cons_of_mem _ he)
    rcases hP x (we_fst_mem he) with rfl | rfl
    · simp [kfdcr_isBase, hth.s2 _ h2 y hE]
    · simp [kfdcr_isBase]

theorem kfdcr_flowOn (hth : Thin s) (F : List (List Node × Nat)) (hF : ∀ d ∈ F, kfdcr_AWalk s d) :
    FlowOn s (fun e => ((kfdcr_tot F e : Nat) : Rat)) where
  nonneg := fun _ _ => Rat.natCast_nonneg
  cons := fun v _ h1 h2 => by
    refine ((natCast_sum _ _).symm.trans (congrArg _ (kfdcr_tot_bal s.g hwf.edgesNodup F v fun d hd => ?_))).trans
      (natCast_sum _ _)
    obtain ⟨_, ⟨p, hp⟩, hW, _⟩ := hF d hd
    refine ⟨hW, ?_⟩
    rw [bal_walkEdges' (a := s.source) (z := s.sink) (by rw [hp]; rfl) (by rw [hp]; exact List.getLast?_concat)]
    simp [Euler.ind', Ne.symm h1, Ne.symm h2]
  s3 := fun v h1 h2 => by
    apply Classical.byContradiction
    intro hne
    have hpos : 0 < kfdcr_tot F (s.source, v) := Nat.pos_of_ne_zero fun h0 => hne (by rw [h0]; rfl)
    obtain ⟨d, hd, _, hmem⟩ := kfdcr_tot_pos hpos
    obtain ⟨_, ⟨p, hp⟩, hW, eb, heb, hbase⟩ := hF d hd
    rw [hp] at hmem hW heb
    rw [kfdcr_isolated_no_base hwf hth (p ++ [s.sink]) hW v hmem h2 eb heb] at hbase
    cases hbase

theorem kfdcr_few_walks (hth : Thin s) (F : List (List Node × Nat)) (hF : ∀ d ∈ F, kfdcr_AWalk s d) :
    ∃ A : List (List Node × Nat), A.length ≤ (s.g.edges.filter (isInner s)).length ∧
      (∀ d ∈ A, kfdcr_AWalk s d) ∧ ∀ e ∈ s.g.edges, kfdcr_tot A e = kfdcr_tot F e := by
  let g := kfdcr_tot F
  obtain ⟨DQ, hlen, hDQ, hex⟩ := flow_pieces s hwf hth true _ (kfdcr_flowOn hwf hth F hF)
    fun _ e _ => ⟨(g e : Int), (Rat.intCast_natCast _).symm⟩
  obtain ⟨D, rfl, hD1⟩ := exists_nat_weights DQ fun d hd => ⟨(hDQ d hd).2.2.1, (hDQ d hd).2.2.2 rfl⟩
  rw [List.length_map] at hlen
  -- the paths, and the others, which are closed walks
  have _ : ∀ d : List Node × Nat, Decidable (∃ p, d.1 = s.source :: p ++ [s.sink]) := fun _ => Classical.propDecidable _
  let isA : List Node × Nat → Bool := fun d => decide (∃ p, d.1 = s.source :: p ++ [s.sink])
  have hA : ∀ d ∈ D.filter isA, kfdcr_AWalk s d := fun d hd => by
    obtain ⟨hd, ha⟩ := List.mem_filter.1 hd
    obtain ⟨⟨hW, _, _⟩, ⟨e, he, hi⟩, _⟩ := hDQ _ (List.mem_map_of_mem hd)
    exact ⟨hD1 d hd, of_decide_eq_true ha, hW, e, he, (kfdcr_isBase_eq_isInner hwf (hW e he)).trans hi⟩
  have hB : ∀ d ∈ D.filter (fun d => !isA d), kfdcr_BCyc s d := fun d hd => by
    obtain ⟨hd, ha⟩ := List.mem_filter.1 hd
    obtain ⟨hW, _, hsh⟩ := (hDQ _ (List.mem_map_of_mem hd)).1
    obtain ⟨x, b, hxb⟩ := hsh.resolve_left (of_decide_eq_false ((Bool.not_eq_true' _).mp ha))
    exact ⟨hD1 d hd, x, b, hxb, hW⟩
  have hperm := List.filter_append_perm isA D
  have hinv : kfdcr_MInv s g D.length (D.filter isA) (D.filter fun d => !isA d) :=
    { aWalk := hA, bCyc := hB
      total := fun e he => by
        rw [← kfdcr_tot_append, kfdcr_tot_perm hperm e]
        exact Rat.natCast_inj.1 ((kfdcr_tot_natCast D e).trans (hex e he))
      count := by rw [← List.length_append, hperm.length_eq]; exact Nat.le_refl _ }
  have hconn : ∀ e ∈ s.g.edges, 0 < g e → ∃ L : List Node, L.head? = some s.source ∧ e ∈ walkEdges L ∧
      ∀ e' ∈ walkEdges L, e' ∈ s.g.edges ∧ 0 < g e' := by
    intro e _ hpos
    obtain ⟨d, hd, hw, hmem⟩ := kfdcr_tot_pos hpos
    obtain ⟨_, ⟨p, hp⟩, hW, _⟩ := hF d hd
    exact ⟨d.1, by rw [hp]; rfl, hmem, fun e' he' =>
      ⟨hW e' he', Nat.lt_of_lt_of_le hw (kfdcr_weight_le_tot hd he')⟩⟩
  obtain ⟨A', hA'⟩ := kfdcr_merge hwf g D.length hconn _ _ hinv
  refine ⟨A', ?_, hA'.aWalk, fun e he => ?_⟩
  · have h1 := hA'.count
    have h2 := posInner_le s fun e => ((kfdcr_tot F e : Nat) : Rat)
    simp only [List.length_nil, Nat.add_zero] at h1
    omega
  · have := hA'.total e he
    rwa [show kfdcr_tot [] e = 0 from rfl, Nat.add_zero] at this

end Walks

end FP
