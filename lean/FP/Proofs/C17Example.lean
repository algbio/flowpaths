import FP.Proofs.ReachTables
import FP.Proofs.Reach
import FP.Proofs.AntichainMax
import FP.Model.Bottleneck
/-!
Concrete inputs on which the hypotheses of the C17 theorems hold: `g` with `o` (a 2-cycle with an exit and what
networkx returns for it: `CondContract`, a cached query sequence), `d` (a diamond DAG with a conserving flow: reach
tables, bottleneck path, greedy decomposition), `ac` (an augmented fork with a minimum flow for its demands: the
antichain extracted from it).
-/
namespace FP.C17Example
open FP FP.Spec

/-- a digraph with a 2-cycle and an exit: `a ⇄ b → c` -/
def g : Graph := { nodes := ["a", "b", "c"], edges := [("a", "b"), ("b", "a"), ("b", "c")] }

/-- what networkx returns for `g` (component 0 = `{c}`, component 1 = `{a, b}`) -/
def o : CondOracle where
  lab := fun v => if v = "c" then 0 else 1
  cnodes := [0, 1]
  cedges := [(1, 0)]
  desc := fun c => if c = 1 then [0] else []
  anc := fun c => if c = 0 then [1] else []
  topo := [1, 0]

theorem rbc : Reach g.edges "b" "c" := Reach.single (by decide)

theorem contract : CondContract g o where
  wf := by decide
  -- mutual reachability as the model's `reachFrom` computes it, evaluated for the nine pairs
  scc := scc_of_reachFrom g (by decide) o.lab (by decide +kernel)
  cedges := by
    intro a b
    constructor
    · intro h
      have : a = 1 ∧ b = 0 := by simpa [o] using h
      obtain ⟨rfl, rfl⟩ := this
      exact ⟨by decide, ("b", "c"), by decide, by decide, by decide⟩
    · rintro ⟨hne, e, he, h1, h2⟩
      have he' : e = ("a", "b") ∨ e = ("b", "a") ∨ e = ("b", "c") := by simpa [g] using he
      rcases he' with rfl | rfl | rfl
      · exact absurd (h1.symm.trans h2) hne
      · exact absurd (h1.symm.trans h2) hne
      · rw [← h1, ← h2]; decide
  desc := by
    intro c d
    show d ∈ (if c = 1 then [0] else []) ↔ d ≠ c ∧ Reach [(1, 0)] c d
    rw [reach_singleton]
    constructor
    · intro h
      split at h
      · next hc =>
        rw [hc, List.mem_singleton.1 h]
        exact ⟨by decide, Or.inr ⟨rfl, rfl⟩⟩
      · cases h
    · rintro ⟨hne, h | ⟨rfl, rfl⟩⟩
      · exact absurd h.symm hne
      · exact List.mem_singleton.2 rfl
  anc := by
    intro c d
    show d ∈ (if c = 0 then [1] else []) ↔ d ≠ c ∧ Reach [(1, 0)] d c
    rw [reach_singleton]
    constructor
    · intro h
      split at h
      · next hc =>
        rw [hc, List.mem_singleton.1 h]
        exact ⟨by decide, Or.inr ⟨rfl, rfl⟩⟩
      · cases h
    · rintro ⟨hne, h | ⟨rfl, rfl⟩⟩
      · exact absurd h hne
      · exact List.mem_singleton.2 rfl
  topo := checkTopo_sound o.cnodes o.cedges o.topo (by decide)
  topoNodes := by decide

/-- a warm-cache query sequence on the example (the third query is served from the dictionary) -/
def queries : List Query :=
  [.reachable "a", .reaching "c", .reachable "a", .sccEdge "a" "b", .sccEdge "b" "c", .reachable "zz",
   .edgeMax [(("a", "b"), 1), (("b", "a"), 5), (("b", "c"), 2)]]

theorem answers : (qrun g o {} queries).2 =
    [.nodes ["c", "a", "b"], .nodes ["a", "b", "c"], .nodes ["c", "a", "b"], .bool true, .bool false, .valueError,
     .vals [(("a", "b"), 5), (("b", "a"), 5), (("b", "c"), 5)]] := by decide +kernel

/-- a DAG with a conserving flow (`dflow`): the diamond `s → a → t`, `s → b → t` with flows 3 and 2 -/
def d : Graph := { nodes := ["s", "a", "b", "t"], edges := [("s", "a"), ("s", "b"), ("a", "t"), ("b", "t")] }
def dtopo : List Node := ["s", "a", "b", "t"]
def dflow : Edge → Rat := wtOf [(("s", "a"), 3), (("s", "b"), 2), (("a", "t"), 3), (("b", "t"), 2)]

theorem d_topo : IsTopo d.edges dtopo := checkTopo_sound d.nodes d.edges dtopo (by decide +kernel)

theorem d_tables : (dagReachNodes d dtopo).get "s" = ["s", "a", "t", "b"] ∧
    (dagNodesReaching d dtopo).get "t" = ["t", "a", "s", "b"] := by decide +kernel

theorem d_bottleneck : maxBottleneckPath d dflow dtopo = .path 3 ["s", "a", "t"] := by decide +kernel

theorem d_decompose : ∃ r, decompose d dflow dtopo = .done r ∧
    r.paths = [(["s", "a", "t"], 3), (["s", "b", "t"], 2)] ∧ ∀ e ∈ d.edges, r.residual e = 0 := by
  have h : (match decompose d dflow dtopo with
      | .done r => decide (r.paths = [(["s", "a", "t"], 3), (["s", "b", "t"], 2)] ∧ ∀ e ∈ d.edges, r.residual e = 0)
      | .stuck => false) = true := by decide +kernel
  cases hd : decompose d dflow dtopo with
  | done r => rw [hd] at h; exact ⟨r, rfl, of_decide_eq_true h⟩
  | stuck => rw [hd] at h; cases h

theorem d_topo' : IsTopo d.edges dtopo := d_topo

theorem d_nonneg : ∀ e ∈ d.edges, 0 ≤ dflow e := by decide +kernel

theorem d_conserving : Conserving d dflow := by
  intro v hp hs
  by_cases h1 : v = "a"
  · subst h1; decide +kernel
  · by_cases h2 : v = "b"
    · subst h2; decide +kernel
    · by_cases h3 : v = "s"
      · subst h3; exact absurd (by decide) hp
      · exfalso; apply hs
        have e1 : ¬ "s" = v := fun h => h3 h.symm
        have e2 : ¬ "a" = v := fun h => h1 h.symm
        have e3 : ¬ "b" = v := fun h => h2 h.symm
        simp [Graph.succ, d, List.filter, e1, e2, e3]

/-- the augmented fork `S → a`, `a → b`, `a → c`, `b → T`, `c → T` with a minimum flow for its demands -/
def ac : ACInput where
  g := { nodes := ["a", "b", "c", "S", "T"], edges := [("a", "b"), ("a", "c"), ("b", "T"), ("c", "T"), ("S", "a")] }
  source := "S"
  sink := "T"
  demand := wtOf [(("a", "b"), 2), (("a", "c"), 3)]
  flow := wtOf [(("a", "b"), 2), (("a", "c"), 3), (("b", "T"), 2), (("c", "T"), 3), (("S", "a"), 5)]

theorem ac_extract_eq : acExtract ac = .ok (some [("a", "b"), ("a", "c")]) := by
  have h : (match acExtract ac with | .ok (some A) => A | _ => []) = [("a", "b"), ("a", "c")] := by
    decide +kernel
  cases hx : acExtract ac with
  | error e => rw [hx] at h; simp at h
  | ok o =>
    cases o with
    | none => rw [hx] at h; simp at h
    | some A => rw [hx] at h; simp only at h; rw [h]

def actopo : List Node := ["S", "a", "b", "c", "T"]

theorem ac_topo : IsTopo ac.g.edges actopo := checkTopo_sound ac.g.nodes ac.g.edges actopo (by decide +kernel)

theorem ac_feasible : FeasibleFlow ac.g ac.source ac.sink ac.demand ac.flow where
  ge := by decide +kernel
  cons := by decide +kernel

theorem ac_cost : (5 : Rat) = flowValue ac.g ac.source ac.flow := by decide +kernel

theorem ac_result_eq : acResult ac 5 false = .ok (some [("a", "b"), ("a", "c")]) := by
  unfold acResult
  rw [ac_extract_eq]
  simp only [Bool.false_eq_true, if_false]
  have : (5 : Rat) = (List.map ac.demand [("a", "b"), ("a", "c")]).sum := by decide +kernel
  rw [if_pos this]

theorem ac_result : (match acResult ac 5 false with | .ok (some A) => A | _ => []) = [("a", "b"), ("a", "c")] := by
  rw [ac_result_eq]

end FP.C17Example
