import FP.Proofs.WrapperState
import FP.Spec.Box
/-!
# FP.Proofs.WrapperObj — the objective of the wrapper state

A `set_objective` replaces costs, constant and sense; any other operation keeps constant and sense and at most
appends columns of cost `0` (`wobj_run_keeps`).
-/
namespace FP

def wobj_costs (s : WState) : List Rat := s.cols.map (·.cost)

theorem wobj_setBounds_costs (cs : List WCol) (i : Nat) (l u : Rat) :
    (setBounds cs i l u).map (·.cost) = cs.map (·.cost) := by
  apply List.ext_getElem?
  intro j
  simp only [setBounds, List.getElem?_map]
  by_cases h : i = j
  · subst h; rw [List.getElem?_modify_eq]; cases cs[i]? <;> rfl
  · rw [List.getElem?_modify_ne _ _ h]

theorem wobj_foldl_setBounds_costs {α} (ups : List α) (ix : α → Nat) (lo hi : α → Rat) :
    ∀ cs : List WCol,
      (ups.foldl (fun cs u => setBounds cs (ix u) (lo u) (hi u)) cs).map (·.cost) = cs.map (·.cost) := by
  induction ups with
  | nil => intro cs; rfl
  | cons u rest ih => intro cs; rw [List.foldl_cons, ih, wobj_setBounds_costs]

theorem wobj_flush_costs (f : GetColsField) (s : WState) : wobj_costs (flush f s) = wobj_costs s := by
  simp only [wobj_costs, flush_cols]
  rw [wobj_foldl_setBounds_costs, wobj_foldl_setBounds_costs]

theorem wobj_setObjective_costs (cols : List WCol) (ts : List (Nat × Rat)) :
    (setObjective cols ts).map (·.cost) = (List.range cols.length).map (termCost ts) := by
  apply List.ext_getElem?
  intro i
  rw [List.getElem?_map, setObjective_getElem?]
  by_cases hi : i < cols.length
  · simp [hi, termCost]
  · simp [hi]

theorem wobj_step_keeps (f : GetColsField) (s : WState) (o : WOp) (hno : o.isSetObjective = false) :
    (wstep f s o).offset = s.offset ∧ (wstep f s o).maximize = s.maximize ∧
      ∃ m, wobj_costs (wstep f s o) = wobj_costs s ++ List.replicate m 0 := by
  cases o with
  | addVars bs =>
    refine ⟨rfl, rfl, bs.length, ?_⟩
    simp only [wobj_costs, wstep, List.map_append, List.map_map]
    exact congrArg _ (List.map_const' ..)
  | queueFix i v => exact ⟨rfl, rfl, 0, (List.append_nil _).symm⟩
  | queueLb i v => exact ⟨rfl, rfl, 0, (List.append_nil _).symm⟩
  | setObjective ts c m => cases hno
  | optimize => exact ⟨rfl, rfl, 0, (wobj_flush_costs f s).trans (List.append_nil _).symm⟩

theorem wobj_run_keeps (f : GetColsField) (post : List WOp) (hpost : ∀ o ∈ post, o.isSetObjective = false) :
    ∀ s : WState, (post.foldl (wstep f) s).offset = s.offset ∧ (post.foldl (wstep f) s).maximize = s.maximize ∧
      ∃ m, wobj_costs (post.foldl (wstep f) s) = wobj_costs s ++ List.replicate m 0 := by
  induction post with
  | nil => intro s; exact ⟨rfl, rfl, 0, (List.append_nil _).symm⟩
  | cons o rest ih =>
    intro s
    obtain ⟨h1, h2, m, h3⟩ := wobj_step_keeps f s o (hpost o List.mem_cons_self)
    obtain ⟨i1, i2, m', i3⟩ := ih (fun o' ho' => hpost o' (List.mem_cons_of_mem _ ho')) (wstep f s o)
    exact ⟨i1.trans h1, i2.trans h2, m + m', by
      rw [List.foldl_cons, i3, h3, List.append_assoc, List.replicate_append_replicate]⟩

theorem wobj_cost_of_costs {s : WState} {l : List Rat} {m : Nat}
    (h : wobj_costs s = l ++ List.replicate m 0) (i : Nat) (hi : i < s.cols.length) :
    s.cols[i].cost = (l[i]?).getD 0 := by
  have := congrArg (fun l => l[i]?) h
  simp only [wobj_costs, List.getElem?_map, List.getElem?_eq_getElem hi, Option.map_some] at this
  rw [List.getElem?_append] at this
  split at this
  · next hl => rw [← this]; rfl
  · next hl =>
    rw [List.getElem?_eq_none (Nat.le_of_not_lt hl)]
    rw [List.getElem?_replicate] at this
    split at this
    · exact Option.some.inj this
    · cases this

end FP
