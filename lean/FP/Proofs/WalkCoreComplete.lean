import FP.Proofs.WalkCoreEnc
import FP.Proofs.WrapperIntProd
import FP.Proofs.STWF
/-!
Completeness of the walk encoding (`_encode_walks`, subset block). Given, for every layer, natural multiplicities
`m` that are conserved, leave the source once, respect the per-edge bounds, together with *connectivity witnesses* — a choice `sel` of at most one entering
edge of positive multiplicity for every vertex with in-flow and ranks `dist` that increase along the
chosen edges, start with `1` at the source and stay within `|V|` (`LayerWitness`) — every assignment
that carries these values on the `edge`, `selected_edge` and `distance` columns satisfies all columns
and all rows 17a, 17b, 21, 22a, 22b, 18a, 19c of its layer (`encFacts_of_witness`); with the `used_edge` and `r` columns
set to "edge used" and "constraint covered" it satisfies the subset block (`subsetBlock_sat`). `CoreCols` names these
values for a `WalkInput`; `walkCore_sat` puts the two together for every cyclic class, whatever its caps.
-/
namespace FP
open FP.Spec

structure LayerWitness (s : STGraph) (ae : Bool) (ub : Edge → Rat) (m : Edge → Nat)
    (sel : Edge → Bool) (dist : Node → Nat) : Prop where
  src : if ae then outN s.g m s.source ≤ 1 else outN s.g m s.source = 1
  cons : ∀ v ∈ s.g.nodes, v ≠ s.source → v ≠ s.sink → inN s.g m v = outN s.g m v
  cap : ∀ e ∈ s.g.edges, (m e : Rat) ≤ ub e
  sel_pos : ∀ e ∈ s.g.edges, sel e = true → 1 ≤ m e
  sel_ex : ∀ v ∈ s.g.nodes, v ≠ s.source → inN s.g m v ≠ 0 → ∃ u ∈ s.g.pred v, sel (u, v) = true
  sel_one : ∀ v ∈ s.g.nodes, ∀ u ∈ s.g.pred v, ∀ u' ∈ s.g.pred v,
    sel (u, v) = true → sel (u', v) = true → u = u'
  dist_src : dist s.source = 1
  dist_inc : ∀ e ∈ s.g.edges, sel e = true → dist e.1 + 1 ≤ dist e.2
  dist_ub : ∀ v ∈ s.g.nodes, dist v ≤ s.g.nodes.length

/-- the big-M row 22a: in-flow `x ≤ M` is switched off by `-M * S` unless `x = 0`, where `S` counts the selected
in-edges -/
theorem bigM_row (x M S : Rat) (hM : x ≤ M) (hS : 0 ≤ S) (h : x = 0 ∨ S = 1) : x + -M * S ≤ 0 := by
  rcases h with rfl | rfl
  · have := Rat.mul_nonneg hM hS
    grind
  · grind

section Layer
variable {s : STGraph} {c : WalkCfg} {ub : Edge → Rat} {a : Asg} {i : Nat}
  {m : Edge → Nat} {sel : Edge → Bool} {dist : Node → Nat}

theorem encFacts_of_witness (hw : LayerWitness s c.allowEmpty ub m sel dist)
    (hnd : s.g.edges.Nodup) (hcl : ∀ e ∈ s.g.edges, e.1 ∈ s.g.nodes ∧ e.2 ∈ s.g.nodes)
    (hx : ∀ e ∈ s.g.edges, a (edgeVar e i) = (m e : Rat))
    (hs : ∀ e ∈ s.g.edges, a (selVar e i) = if sel e then 1 else 0)
    (hd : ∀ v, a (distVar v i) = (dist v : Rat)) : EncFacts s c ub a i := by
  have hsel : ∀ v, ((s.g.pred v).map fun u => a (selVar (u, v) i)).sum
      = ((s.g.pred v).countP fun u => sel (u, v) : Rat) := fun v => by
    rw [← sum_ind_eq_countP]
    exact congrArg List.sum (List.map_congr_left fun u hu => hs (u, v) (mem_pred.1 hu))
  have hcnt : ∀ v ∈ s.g.nodes, (s.g.pred v).countP (fun u => sel (u, v)) ≤ 1 := fun v hv =>
    countP_le_one _ (pred_nodup s.g hnd v) _ (hw.sel_one v hv)
  refine
    { edgeCol := fun e he => by
        rw [hx e he]; exact ⟨Rat.natCast_nonneg, hw.cap e he, natCast_isInt _⟩
      distCol := fun v hv => by
        rw [hd v]
        exact ⟨Rat.natCast_nonneg, Rat.natCast_le_natCast.2 (hw.dist_ub v hv), natCast_isInt _⟩
      selCol := fun e he => by
        rw [hs e he]; cases sel e
        · exact .inl rfl
        · exact .inr rfl
      r17a := ?_
      r17b := fun v hv h1 h2 => by
        rw [sum_pred_val s.g a i m hx, sum_succ_val s.g a i m hx, hw.cons v hv h1 h2]
        exact Rat.add_neg_cancel _
      r21 := fun e he => by
        rw [hx e he, hs e he]
        cases hse : sel e
        · exact Rat.natCast_nonneg
        · exact one_le_natCast (hw.sel_pos e he hse)
      r22a := fun v hv h1 => ?_
      r22b := fun v hv _ => by
        rw [hsel v]; exact natCast_le_one.2 (hcnt v hv)
      r18a := by rw [hd, hw.dist_src]; rfl
      r19c := fun e he => ?_ }
  · have h := hw.src
    rw [sum_succ_val s.g a i m hx]
    cases hae : c.allowEmpty <;> rw [hae] at h
    · exact natCast_eq_one.2 h
    · exact natCast_le_one.2 h
  · rw [sum_map_mul_left _ (fun u => a (selVar (u, v) i)), hsel v]
    refine bigM_row _ _ _ ?_ Rat.natCast_nonneg ?_
    · exact sum_map_le fun u hu => by
        rw [hx _ (mem_pred.1 hu)]; exact hw.cap _ (mem_pred.1 hu)
    · rw [sum_pred_val s.g a i m hx]
      by_cases hin : inN s.g m v = 0
      · exact .inl (by rw [hin]; rfl)
      · obtain ⟨u, hu, hsu⟩ := hw.sel_ex v hv h1 hin
        have : 0 < (s.g.pred v).countP fun u => sel (u, v) := List.countP_pos_iff.2 ⟨u, hu, hsu⟩
        exact .inr (natCast_eq_one.2 (Nat.le_antisymm (hcnt v hv) this))
  · rw [hd, hd, hs e he]
    cases hse : sel e
    · -- not selected: the row is slack by `|V| + 1`
      have h1 : (dist e.1 : Rat) ≤ (s.g.nodes.length : Rat) :=
        Rat.natCast_le_natCast.2 (hw.dist_ub e.1 (hcl e he).1)
      have h2 : (0 : Rat) ≤ (dist e.2 : Rat) := Rat.natCast_nonneg
      simp only [Bool.false_eq_true, if_false]
      grind
    · have h1 : ((dist e.1 + 1 : Nat) : Rat) ≤ (dist e.2 : Rat) :=
        Rat.natCast_le_natCast.2 (hw.dist_inc e he hse)
      simp only [if_true, Rat.sub_self, Rat.mul_zero, Rat.add_zero]
      simpa [Rat.natCast_add] using h1

end Layer

theorem subsetBlock_sat (s : STGraph) (c : WalkCfg) (ub : Edge → Rat) (a : Asg)
    (m : Nat → Edge → Nat)
    (hcap : ∀ i, i < c.k → ∀ e ∈ s.g.edges, (m i e : Rat) ≤ ub e)
    (hx : ∀ i, i < c.k → ∀ e ∈ s.g.edges, a (edgeVar e i) = (m i e : Rat))
    (hu : ∀ i, i < c.k → ∀ e : Edge, a (usedVar e i) = if m i e = 0 then 0 else 1)
    (hr : ∀ i, i < c.k → ∀ j (hj : j < c.constraints.length),
      a (rVar i j) = if coversB (m i) c.constraints[j] c.coverage then 1 else 0)
    (hcov : ∀ j (hj : j < c.constraints.length), ∃ i, i < c.k ∧
      coversB (m i) c.constraints[j] c.coverage = true) :
    Sat a (subsetBlock s c ub) := by
  refine (sat_subsetBlock_iff s c ub a).2 fun _ => ⟨fun i hi => ?_, ?_⟩
  · have h01 : ∀ b : Prop, [Decidable b] → (if b then (0 : Rat) else 1) = 0 ∨ (if b then (0 : Rat) else 1) = 1 :=
      fun b _ => by by_cases h : b <;> simp [h]
    refine
      { rCol := fun j hj => by
          rw [hr i hi j hj]; cases coversB (m i) c.constraints[j] c.coverage
          · exact .inl rfl
          · exact .inr rfl
        usedCol := fun e _ => by rw [hu i hi e]; exact h01 _
        min1 := fun e he => ?_
        r7a := fun j hj => ?_ }
    · -- `used_edge = [m e ≠ 0]` against `edge = m e ≤ ub e`
      rw [hu i hi e, hx i hi e he]
      have hc := hcap i hi e he
      by_cases hz : m i e = 0
      · rw [hz] at hc ⊢
        simp only [if_true, Rat.mul_zero, Rat.one_mul]
        exact ⟨Rat.natCast_nonneg, Rat.natCast_le_natCast.2 (Nat.le_refl 0)⟩
      · have h1 := one_le_natCast (n := m i e) (by omega)
        simp only [hz, if_false, Rat.mul_one, Rat.one_mul]
        exact ⟨h1, hc⟩
    · rw [hr i hi j hj, List.map_congr_left fun e _ => hu i hi e]
      by_cases hc : coversB (m i) c.constraints[j] c.coverage = true
      · rw [if_pos hc, Rat.mul_one, ← Rat.sub_eq_add_neg]
        exact (Rat.le_iff_sub_nonneg _ _).1 (of_decide_eq_true hc)
      · rw [if_neg hc, Rat.mul_zero, Rat.add_zero]
        exact sum_map_nonneg fun e _ => by rcases h01 (m i e = 0) with h | h <;> rw [h] <;> decide
  · intro j hj
    obtain ⟨i, hi, hc⟩ := hcov j hj
    have hle := le_sum_of_mem (fun i => a (rVar i j))
      (fun i' hi' => by
        rw [hr i' (List.mem_range.1 hi') j hj]
        cases coversB (m i') c.constraints[j] c.coverage <;> decide)
      (List.mem_range.2 hi)
    simpa only [hr i hi j hj, hc, if_true] using hle

/-- `a` has the multiplicities `m` with the connectivity witnesses `sel`, `dist` on the columns of the walk
core: edge, selected-edge, distance, used-edge and `r` -/
structure CoreCols (inp : WalkInput) (a : Asg) (m : Nat → Edge → Nat) (sel : Nat → Edge → Bool)
    (dist : Nat → Node → Nat) : Prop where
  edge : ∀ i e, a (edgeVar e i) = (m i e : Rat)
  sel : ∀ i e, a (selVar e i) = if sel i e then 1 else 0
  dist : ∀ i v, a (distVar v i) = (dist i v : Rat)
  used : ∀ i e, a (usedVar e i) = if m i e = 0 then 0 else 1
  r : ∀ i j, a (rVar i j) = if coversB (m i) (inp.cfg.constraints.getD j []) inp.cfg.coverage then 1 else 0

/-- the digits of product blocks stand on other columns -/
theorem CoreCols.prodAsg {inp : WalkInput} {base : Asg} {m : Nat → Edge → Nat} {sel : Nat → Edge → Bool}
    {dist : Nat → Node → Nat} (h : CoreCols inp base m sel dist) {ι : Type} (idx : List ι)
    (name : ι → String) (mult : ι → Nat) (cont : ι → Rat) :
    CoreCols inp (klaecProdAsg idx name mult cont base) m sel dist :=
  ⟨h.edge, h.sel, h.dist, h.used, h.r⟩

theorem walkCore_sat (inp : WalkInput) (ub : Edge → Rat) (a : Asg) (m : Nat → Edge → Nat)
    (sel : Nat → Edge → Bool) (dist : Nat → Node → Nat)
    (hwf : STWFc inp.st)
    (hlayer : ∀ i, i < inp.k → LayerWitness inp.st inp.cfg.allowEmpty ub (m i) (sel i) (dist i))
    (hcov : ∀ j (hj : j < inp.cfg.constraints.length), ∃ i, i < inp.k ∧
      coversB (m i) inp.cfg.constraints[j] inp.cfg.coverage = true)
    (hc : CoreCols inp a m sel dist) :
    Sat a (walkCore inp.st inp.cfg ub) :=
  sat_append
    ((sat_encodeWalks_iff inp.st inp.cfg ub a).2 fun i hi => encFacts_of_witness (hlayer i hi) hwf.edgesNodup
      hwf.closed (fun e _ => hc.edge i e) (fun e _ => hc.sel i e) (hc.dist i))
    (subsetBlock_sat inp.st inp.cfg ub _ m (fun i hi => (hlayer i hi).cap)
      (fun i _ e _ => hc.edge i e) (fun i _ e => hc.used i e)
      (fun i _ j hj => getD_eq_getElem _ [] hj ▸ hc.r i j) hcov)

end FP
