import FP.Spec.Decomp
import FP.Proofs.ExplainedFlow
/-!
# FP.Proofs.Decomp — k-path decompositions against the kFlowDecomp MILP: the assignment of a
decomposition, the box on the weights, padding with weight-0 paths
-/
namespace FP
open FP.Spec

/-- the configurations of `_encode_paths` covered by the completeness theorem: what `MinFlowDecomp`
hands to `kFlowDecomp` with the default coverage — no empty paths, coverage 1 counted in edges, no
position variables, constraints made of edges of the graph -/
structure PlainCfg (inp : FlowInput) : Prop where
  noEmpty : inp.cfg.allowEmpty = false
  coverage : inp.cfg.coverage = 1
  noCovLen : inp.cfg.coverageLength = none
  noPos : inp.cfg.encodePosition = false
  consEdges : ∀ con ∈ inp.cfg.constraints, ∀ e ∈ con, e ∈ inp.st.g.edges

def coversB_p03 (l : List Node) (con : List Edge) : Bool := con.all fun e => decide (e ∈ walkEdges l)

theorem coversB_p03_iff (l : List Node) (con : List Edge) :
    coversB_p03 l con = true ↔ ∀ e ∈ con, e ∈ walkEdges l := by
  simp [coversB_p03]

/-- edge variables = indicator of the path, `w` = weights, `pi` = product, `r(i,j)` = "constraint j
is contained in path i" -/
def decompAsg (s : STGraph) (cons : List (List Edge)) (P : Nat → List Node) (w : Nat → Rat) : Asg
  | .uvi pfx a b i =>
      if pfx = "edge" then ((traversals (s.source :: P i ++ [s.sink]) (a, b) : Nat) : Rat)
      else if pfx = "pi" then w i * ((traversals (s.source :: P i ++ [s.sink]) (a, b) : Nat) : Rat)
      else 0
  | .ix pfx i => if pfx = "w" then w i else 0
  | .ij pfx i j =>
      if pfx = "r" then (if coversB_p03 (s.source :: P i ++ [s.sink]) (cons.getD j []) then 1 else 0) else 0
  | _ => 0

section Asg
variable (s : STGraph) (cons : List (List Edge)) (P : Nat → List Node) (w : Nat → Rat)

theorem decompAsg_edge (e : Edge) (i : Nat) :
    decompAsg s cons P w (edgeVar e i) = ((traversals (s.source :: P i ++ [s.sink]) e : Nat) : Rat) := by
  simp [decompAsg, edgeVar]

theorem decompAsg_pi (e : Edge) (i : Nat) :
    decompAsg s cons P w (piVar e i)
      = w i * ((traversals (s.source :: P i ++ [s.sink]) e : Nat) : Rat) := by
  simp [decompAsg, piVar]

theorem decompAsg_w (i : Nat) : decompAsg s cons P w (wVar i) = w i := by
  simp [decompAsg, wVar]

theorem decompAsg_r (i j : Nat) :
    decompAsg s cons P w (rVar i j)
      = if coversB_p03 (s.source :: P i ++ [s.sink]) (cons.getD j []) then 1 else 0 := by
  simp [decompAsg, rVar]

theorem decompAsg_r_ind (i j : Nat) (hj : j < cons.length) :
    decompAsg s cons P w (rVar i j)
      = if ∀ e ∈ cons[j], e ∈ walkEdges (s.source :: P i ++ [s.sink]) then 1 else 0 := by
  rw [decompAsg_r, getD_eq_getElem cons [] hj]
  simp only [coversB_p03_iff]

end Asg

theorem f_le_wmax (inp : FlowInput) (e : Edge) (he : e ∈ inp.activeEdges) : inp.f e ≤ inp.wmax :=
  le_listMax (List.mem_map.2 ⟨e, he, rfl⟩)

theorem wmax_nonneg_of_decomp (inp : FlowInput) (k : Nat) (P : Nat → List Node) (w : Nat → Rat)
    (hd : IsDecomp inp k P w) : 0 ≤ inp.wmax := by
  cases hA : inp.activeEdges with
  | nil =>
    have : inp.wmax = 0 := by unfold FlowInput.wmax; rw [hA]; rfl
    rw [this]; exact Rat.le_refl
  | cons e es =>
    have he : e ∈ inp.activeEdges := by rw [hA]; simp
    refine Rat.le_trans ?_ (f_le_wmax inp e he)
    rw [← hd.explains e he]
    exact explained_nonneg inp.st k P w e hd.wnonneg

/-- In any decomposition the weight of a path that uses at least one active edge is at most the
largest flow value, the upper bound `kFlowDecomp` puts on the weight columns. -/
theorem decomp_weights_le_wmax (inp : FlowInput) (k : Nat) (P : Nat → List Node) (w : Nat → Rat)
    (hd : IsDecomp inp k P w) (i : Nat) (hi : i < k) (e : Edge) (he : e ∈ inp.activeEdges)
    (hon : e ∈ walkEdges (inp.st.source :: P i ++ [inp.st.sink])) : w i ≤ inp.wmax := by
  -- `w i ≤ w i · (number of traversals) ≤` the explained value `= f e`
  have h1 : ((1 : Nat) : Rat) ≤ trav inp.st (P i) e := Rat.natCast_le_natCast.2 (List.count_pos_iff.2 hon)
  have hstep : w i * 1 ≤ _ := Rat.mul_le_mul_of_nonneg_left h1 (hd.wnonneg i hi)
  rw [Rat.mul_one] at hstep
  have hsum : w i * trav inp.st (P i) e ≤ _ :=
    explainedM_term_le k (multsOf inp.st.source inp.st.sink P) w e hd.wnonneg i hi
  rw [show explainedM k (multsOf inp.st.source inp.st.sink P) w e = inp.f e from hd.explains e he] at hsum
  exact Rat.le_trans hstep (Rat.le_trans hsum (f_le_wmax inp e he))

/-- Paths that use no active edge at all (the route through an isolated
node, or a path made of ignored edges only) contribute to no flow equation; giving them weight 0
turns any decomposition into one whose weights respect the box. -/
theorem decomp_bound_wlog (inp : FlowInput) (k : Nat) (hfree : HasDecompFree inp k) :
    HasDecomp inp k := by
  obtain ⟨P, w, hd⟩ := hfree
  let uses : Nat → Bool := fun i =>
    inp.activeEdges.any fun e => decide (e ∈ walkEdges (inp.st.source :: P i ++ [inp.st.sink]))
  let w' : Nat → Rat := fun i => if uses i then w i else 0
  have hw0 := wmax_nonneg_of_decomp inp k P w hd
  refine ⟨P, w', ⟨hd.walk, ?_, ?_, ?_, hd.constraints⟩, ?_⟩
  · intro i hi
    show 0 ≤ (if _ then w i else 0)
    split
    · exact hd.wnonneg i hi
    · exact Rat.le_refl
  · intro hint i hi
    show ∃ z : Int, (if uses i = true then w i else (0 : Rat)) = (z : Rat)
    split
    · exact hd.wint hint i hi
    · exact ⟨0, by simp⟩
  · intro e he
    rw [← hd.explains e he]
    refine congrArg List.sum (List.map_congr_left fun i _ => ?_)
    show (if _ then w i else 0) * trav inp.st (P i) e = w i * trav inp.st (P i) e
    split
    · rfl
    · rename_i hno
      have hnot : e ∉ walkEdges (inp.st.source :: P i ++ [inp.st.sink]) := fun hon =>
        hno (List.any_eq_true.2 ⟨e, he, decide_eq_true hon⟩)
      rw [trav_eq_zero_of_not_mem hnot]
      exact (Rat.mul_zero _).trans (Rat.mul_zero _).symm
  · intro i hi
    show (if _ then w i else 0) ≤ _
    split
    · rename_i hyes
      obtain ⟨e, he, hon⟩ := List.any_eq_true.1 hyes
      exact decomp_weights_le_wmax inp k P w hd i hi e he (of_decide_eq_true hon)
    · exact hw0

/-- `c` further walks of weight 0 behind the `k` weighted paths; the constraints clause, the only one
that sees the new walks, is passed separately -/
theorem isDecomp_pad {inp : FlowInput} {k : Nat} {P : Nat → List Node} {w : Nat → Rat} (c : Nat)
    (Q : Nat → List Node)
    (hwalk : ∀ i, i < k → IsWalkIn inp.st.g (inp.st.source :: P i ++ [inp.st.sink]))
    (hnn : ∀ i, i < k → 0 ≤ w i) (hint : inp.weightInt = true → ∀ i, i < k → ∃ z : Int, w i = z)
    (hexp : ∀ e ∈ inp.activeEdges, ((List.range k).map fun i =>
      w i * (traversals (inp.st.source :: P i ++ [inp.st.sink]) e : Rat)).sum = inp.f e)
    (hQ : ∀ i, k ≤ i → i < k + c → IsWalkIn inp.st.g (inp.st.source :: Q i ++ [inp.st.sink]))
    (hcons : ∀ con ∈ inp.cfg.constraints, ∃ i, i < k + c ∧
      ∀ e ∈ con, e ∈ walkEdges (inp.st.source :: (if i < k then P i else Q i) ++ [inp.st.sink])) :
    IsDecomp inp (k + c) (fun i => if i < k then P i else Q i) (fun i => if i < k then w i else 0) where
  walk i hi := by
    by_cases hik : i < k
    · simp only [hik, if_true]; exact hwalk i hik
    · simp only [hik, if_false]; exact hQ i (Nat.le_of_not_lt hik) hi
  wnonneg i _ := by
    show 0 ≤ if i < k then w i else 0
    split
    · exact hnn i ‹_›
    · exact Rat.le_refl
  wint h i _ := by
    show ∃ z : Int, (if i < k then w i else 0) = z
    split
    · exact hint h i ‹_›
    · exact ⟨0, by simp⟩
  explains e he := by
    rw [← hexp e he, sum_range_add_zero _ k c fun i hi => by simp [Nat.not_lt.2 hi, Rat.zero_mul]]
    exact congrArg List.sum (List.map_congr_left fun i hi => by simp only [List.mem_range.1 hi, if_true])
  constraints := hcons

/-- more paths: `m - k` further copies of the first path with weight 0 -/
theorem decomp_monotone_le (inp : FlowInput) (k m : Nat) (hk : 1 ≤ k) (hkm : k ≤ m)
    (h : HasDecomp inp k) : HasDecomp inp m := by
  obtain ⟨c, rfl⟩ := Nat.exists_eq_add_of_le hkm
  obtain ⟨P, w, hd, hb⟩ := h
  refine ⟨_, _, isDecomp_pad c (fun _ => P 0) hd.walk hd.wnonneg hd.wint hd.explains
    (fun _ _ _ => hd.walk 0 hk) fun con hcon => ?_, fun i _ => ?_⟩
  · obtain ⟨i, hi, hc⟩ := hd.constraints con hcon
    exact ⟨i, by omega, by simp only [hi, if_true]; exact hc⟩
  · show (if i < k then w i else 0) ≤ inp.wmax
    split
    · exact hb i ‹_›
    · exact wmax_nonneg_of_decomp inp k P w hd

end FP
