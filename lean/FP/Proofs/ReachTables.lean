import FP.Proofs.Sweep
import FP.Proofs.Lib
/-!
`stDiGraph`: under the contract of the networkx calls, reachability in the condensation between
component ids is reachability in the graph between their members (`CondContract.reach_iff`), and
the memo dictionaries of the queries never change an answer (`qrun_ok`). Then the `stDAG` closure tables and
the tables of `compute_edge_max_reachable_value`, each an instance of one of the two sweeps.
-/
namespace FP
open FP.Spec

/-- Contract of the oracle parameters (`nx.condensation`, `nx.descendants`, `nx.ancestors`,
`nx.topological_sort` as documented by networkx), relative to the graph `g`. -/
structure CondContract (g : Graph) (o : CondOracle) : Prop where
  /-- the graph is closed: edges join nodes of the graph -/
  wf : ∀ e ∈ g.edges, e.1 ∈ g.nodes ∧ e.2 ∈ g.nodes
  /-- `mapping`: two nodes carry the same component id iff they are mutually reachable -/
  scc : ∀ u ∈ g.nodes, ∀ v ∈ g.nodes, (o.lab u = o.lab v ↔ Reach g.edges u v ∧ Reach g.edges v u)
  /-- condensation edges: between different components joined by an edge of `g` -/
  cedges : ∀ a b, (a, b) ∈ o.cedges ↔ a ≠ b ∧ ∃ e ∈ g.edges, o.lab e.1 = a ∧ o.lab e.2 = b
  /-- `nx.descendants(C, c)`: everything reachable from `c` in `C`, without `c` -/
  desc : ∀ c d, d ∈ o.desc c ↔ d ≠ c ∧ Reach o.cedges c d
  /-- `nx.ancestors(C, c)` -/
  anc : ∀ c d, d ∈ o.anc c ↔ d ≠ c ∧ Reach o.cedges d c
  /-- `nx.topological_sort(C)` -/
  topo : IsTopo o.cedges o.topo
  /-- every component id is a node of `C`, hence listed by the topological sort -/
  topoNodes : ∀ v ∈ g.nodes, o.lab v ∈ o.topo

namespace CondContract
variable {g : Graph} {o : CondOracle}

theorem reach_nodes (h : CondContract g o) {v w : Node} (hv : v ∈ g.nodes) (hr : Reach g.edges v w) :
    w ∈ g.nodes :=
  reach_closed (S := fun x => x ∈ g.nodes) (fun e he _ => (h.wf e he).2) hr hv

theorem reach_proj (h : CondContract g o) {v w : Node} (hr : Reach g.edges v w) :
    Reach o.cedges (o.lab v) (o.lab w) := by
  induction hr with
  | refl => exact Reach.refl _
  | step _ he ih =>
    rename_i y z _
    by_cases hl : o.lab y = o.lab z
    · rw [← hl]; exact ih
    · exact Reach.step ih ((h.cedges _ _).2 ⟨hl, (y, z), he, rfl, rfl⟩)

theorem reach_lift (h : CondContract g o) {c d : Nat} (hr : Reach o.cedges c d) :
    ∀ w ∈ g.nodes, ∀ v ∈ g.nodes, o.lab w = c → o.lab v = d → Reach g.edges w v := by
  induction hr with
  | refl =>
    intro w hw v hv h1 h2
    exact ((h.scc w hw v hv).1 (h1.trans h2.symm)).1
  | step _ he ih =>
    rename_i y z _
    intro w hw v hv h1 h2
    obtain ⟨_, e, hee, he1, he2⟩ := (h.cedges _ _).1 he
    have hwf := h.wf e hee
    have r1 := ih w hw e.1 hwf.1 h1 he1
    have r2 : Reach g.edges e.1 e.2 := Reach.single (by simpa using hee)
    have r3 := ((h.scc e.2 hwf.2 v hv).1 (he2.trans h2.symm)).1
    exact Reach.trans (Reach.trans r1 r2) r3

theorem reach_iff (h : CondContract g o) {v w : Node} (hv : v ∈ g.nodes) (hw : w ∈ g.nodes) :
    Reach o.cedges (o.lab v) (o.lab w) ↔ Reach g.edges v w :=
  ⟨fun hr => h.reach_lift hr v hv w hw rfl rfl, fun hr => h.reach_proj hr⟩

end CondContract

theorem mem_nodesByScc {g : Graph} {o : CondOracle} {c : Nat} {w : Node} :
    w ∈ nodesByScc g o c ↔ w ∈ g.nodes ∧ o.lab w = c := by
  unfold nodesByScc; simp [List.mem_filter]

theorem mem_sccUnion {g : Graph} {o : CondOracle} {T : List Nat} {c : Nat} {w : Node} :
    w ∈ (lunion T [c]).flatMap (nodesByScc g o) ↔ w ∈ g.nodes ∧ (o.lab w ∈ T ∨ o.lab w = c) := by
  simp only [List.mem_flatMap, mem_lunion, mem_nodesByScc, List.mem_singleton]
  exact ⟨fun ⟨_, hc, hw, hl⟩ => ⟨hw, hl ▸ hc⟩, fun ⟨hw, hc⟩ => ⟨_, hc, hw, rfl⟩⟩

/-- what a memo dictionary of the queries satisfies: every entry is the value the method computes -/
def Memo {β} (F : Node → β) (c : List (Node × β)) : Prop := ∀ v r, c.lookup v = some r → r = F v

theorem Memo.cons {β} {F : Node → β} {c : List (Node × β)} (h : Memo F c) (k : Node) : Memo F ((k, F k) :: c) := by
  intro v r hr
  rw [List.lookup_cons] at hr
  by_cases hk : v = k
  · subst hk; simp at hr; exact hr.symm
  · have : (v == k) = false := by simp [hk]
    rw [this] at hr; exact h v r hr

/-- the invariant of `_nodes_reachable_from_node_cache` and `_nodes_reaching_node_cache` -/
def CacheOK (g : Graph) (o : CondOracle) (s : QState) : Prop :=
  Memo (nodesReachableFn g o) s.fwd ∧ Memo (nodesReachingFn g o) s.bwd

theorem qstep_ok (g : Graph) (o : CondOracle) (s : QState) (q : Query) (hs : CacheOK g o s) :
    CacheOK g o (qstep g o s q).1 ∧ (qstep g o s q).2 = pureAnswer g o q := by
  fun_cases qstep g o s q with
  | case1 v hv r hl => exact ⟨hs, by rw [pureAnswer, if_pos hv, hs.1 v r hl]⟩
  | case2 v hv hl => exact ⟨⟨hs.1.cons v, hs.2⟩, (if_pos hv).symm⟩
  | case3 v hv => exact ⟨hs, (if_neg hv).symm⟩
  | case4 v hv r hl => exact ⟨hs, by rw [pureAnswer, if_pos hv, hs.2 v r hl]⟩
  | case5 v hv hl => exact ⟨⟨hs.1, hs.2.cons v⟩, (if_pos hv).symm⟩
  | case6 v hv => exact ⟨hs, (if_neg hv).symm⟩
  | case7 => exact ⟨hs, rfl⟩

theorem qrun_ok (g : Graph) (o : CondOracle) (qs : List Query) :
    ∀ s, CacheOK g o s → CacheOK g o (qrun g o s qs).1 ∧ (qrun g o s qs).2 = qs.map (pureAnswer g o) := by
  induction qs with
  | nil => intro s hs; exact ⟨hs, rfl⟩
  | cons q qs ih =>
    intro s hs
    obtain ⟨h1, h2⟩ := qstep_ok g o s q hs
    obtain ⟨h3, h4⟩ := ih _ h1
    unfold qrun
    simp only [List.map_cons]
    exact ⟨h3, by rw [h2, h4]⟩

theorem cacheOK_empty (g : Graph) (o : CondOracle) : CacheOK g o {} := by
  constructor <;> intro v r h <;> simp at h

section Pull
variable {κ : Type} [DecidableEq κ]

/-- the node-set instance of the pull sweep: `t[c] |= t[s]` from `t[v] = {v}` -/
theorem pullNodes_correct (es : List (κ × κ)) (order : List κ) (h : IsTopo (swapEdges es) order) (v : κ)
    (hv : v ∈ order) (x : κ) :
    x ∈ (pullSweep es (fun _ _ a b => lunion a b) order (fun v => [v])).get v ↔ Reach es v x := by
  rw [(pullSweep_correct es (fun (l : List κ) x => x ∈ l) _ (fun _ _ _ => False)
    (fun c s a b x => by rw [mem_lunion, or_false]) (fun v => [v]) order h).1 v hv x]
  constructor
  · rintro ⟨w, hr, (hw | ⟨_, _, hf⟩)⟩
    · rw [List.mem_singleton.1 hw]; exact hr
    · exact hf.elim
  · exact fun hr => ⟨x, hr, Or.inl (List.mem_singleton.2 rfl)⟩

/-- the edge-set instance: `t[c] |= t[s] ∪ {mk c s}` from empty sets -/
theorem pullEdges_correct {ε : Type} [DecidableEq ε] (mk : κ → κ → ε) (es : List (κ × κ)) (order : List κ)
    (h : IsTopo (swapEdges es) order) (v : κ) (hv : v ∈ order) (x : ε) :
    x ∈ (pullSweep es (fun c s a b => lunion (lunion a b) [mk c s]) order (fun _ => [])).get v ↔
      ∃ w s, Reach es v w ∧ (w, s) ∈ es ∧ x = mk w s := by
  rw [(pullSweep_correct es (fun (l : List ε) x => x ∈ l) _ (fun c s x => x = mk c s)
    (fun c s a b x => by rw [mem_lunion, mem_lunion, List.mem_singleton, or_assoc]) (fun _ => []) order h).1 v hv x]
  constructor
  · rintro ⟨w, hr, (hw | ⟨s, hs, hx⟩)⟩
    · cases hw
    · exact ⟨w, s, hr, hs, hx⟩
  · exact fun ⟨w, s, hr, hs, hx⟩ => ⟨w, hr, Or.inr ⟨s, hs, hx⟩⟩

end Pull

theorem dagReachNodes_correct (g : Graph) (topo : List Node) (h : IsTopo g.edges topo) (v : Node) (hv : v ∈ topo)
    (x : Node) : x ∈ (dagReachNodes g topo).get v ↔ Reach g.edges v x :=
  pullNodes_correct g.edges topo.reverse h.reverse v (List.mem_reverse.2 hv) x

theorem dagReachEdges_correct (g : Graph) (topo : List Node) (h : IsTopo g.edges topo) (v : Node) (hv : v ∈ topo)
    (x : Edge) : x ∈ (dagReachEdges g topo).get v ↔ (x ∈ g.edges ∧ Reach g.edges v x.1) :=
  (pullEdges_correct Prod.mk g.edges topo.reverse h.reverse v (List.mem_reverse.2 hv) x).trans
    ⟨fun ⟨_, _, hr, hm, hx⟩ => hx ▸ ⟨hm, hr⟩, fun ⟨hx, hr⟩ => ⟨x.1, x.2, hr, hx, rfl⟩⟩

theorem dagNodesReaching_correct (g : Graph) (topo : List Node) (h : IsTopo g.edges topo) (v : Node) (hv : v ∈ topo)
    (x : Node) : x ∈ (dagNodesReaching g topo).get v ↔ Reach g.edges x v :=
  (pullNodes_correct (swapEdges g.edges) topo ((swapEdges_swapEdges g.edges).symm ▸ h) v hv x).trans reach_swap

theorem dagReachEdgesRev_correct (g : Graph) (topo : List Node) (h : IsTopo g.edges topo) (v : Node) (hv : v ∈ topo)
    (x : Edge) : x ∈ (dagReachEdgesRev g topo).get v ↔ (x ∈ g.edges ∧ Reach g.edges x.2 v) :=
  (pullEdges_correct (fun c s => (s, c)) (swapEdges g.edges) topo ((swapEdges_swapEdges g.edges).symm ▸ h) v hv x).trans
    ⟨fun ⟨_, _, hr, hm, hx⟩ => hx ▸ ⟨mem_swapEdges.1 hm, reach_swap.1 hr⟩,
     fun ⟨hx, hr⟩ => ⟨x.2, x.1, reach_swap.2 hr, mem_swapEdges.2 hx, rfl⟩⟩

theorem le_max3 (a b c x : Rat) : x ≤ max3 a b c ↔ x ≤ a ∨ x ≤ b ∨ x ≤ c := by
  unfold max3; rw [le_max_iff, le_max_iff, or_assoc]

theorem keyMax_fold {ι : Type} (key : ι → Nat) (wt : ι → Rat) (l : List ι) (t : Tbl Nat Rat) (c : Nat) (x : Rat) :
    x ≤ (l.foldl (fun t e => if wt e > t.get (key e) then t.set (key e) (wt e) else t) t).get c ↔
      x ≤ t.get c ∨ ∃ e ∈ l, key e = c ∧ x ≤ wt e := by
  refine (foldl_join (fun (m : Rat) x => x ≤ m) (fun t : Tbl Nat Rat => t.get c) _ (fun _ => True)
    (fun e x => key e = c ∧ x ≤ wt e) l (fun t _ e _ => ⟨trivial, fun x => ?_⟩) t trivial).2 x
  by_cases hc : key e = c
  · have : (if wt e > t.get (key e) then t.set (key e) (wt e) else t).get c =
        if wt e > t.get c then wt e else t.get c := by
      subst hc; split <;> simp
    rw [this, le_ite_max]; simp [hc]
  · have : (if wt e > t.get (key e) then t.set (key e) (wt e) else t).get c = t.get c := by
      split
      · rw [Tbl.get_set, if_neg (Ne.symm hc)]
      · rfl
    rw [this]; simp [hc]

theorem localMax_char (g : Graph) (o : CondOracle) (wt : Edge → Rat) (tail : Bool) (c : Nat) (x : Rat) :
    x ≤ (localMax g o wt tail).get c ↔
      x ≤ 0 ∨ ∃ e ∈ g.edges, o.lab (if tail then e.1 else e.2) = c ∧ x ≤ wt e := by
  have h := keyMax_fold (fun e => o.lab (if tail then e.1 else e.2)) wt g.edges ⟨fun _ => 0⟩ c x
  unfold localMax
  exact h

/-- the edges whose weight `compute_edge_max_reachable_value` has to consider for `e`: `e` itself,
edges whose tail is reachable from the head of `e`, edges whose head reaches the tail of `e` -/
def InScope (g : Graph) (e e' : Edge) : Prop :=
  e' = e ∨ Reach g.edges e.2 e'.1 ∨ Reach g.edges e'.2 e.1

theorem maxDesc_char (g : Graph) (o : CondOracle) (h : CondContract g o) (wt : Edge → Rat) (v : Node)
    (hv : v ∈ g.nodes) (x : Rat) :
    x ≤ (maxDesc g o wt).get (o.lab v) ↔ x ≤ 0 ∨ ∃ e' ∈ g.edges, Reach g.edges v e'.1 ∧ x ≤ wt e' := by
  unfold maxDesc
  rw [(pullSweep_correct o.cedges (fun (m : Rat) (x : Rat) => x ≤ m) (fun _ _ a b => if b > a then b else a)
    (fun _ _ _ => False) (by intro c s a b x; simp [le_ite_max]) (localMax g o wt true).get o.topo.reverse
    h.topo.reverse).1 (o.lab v) (List.mem_reverse.2 (h.topoNodes _ hv)) x]
  unfold PullSpec
  simp only [localMax_char, if_true]
  constructor
  · rintro ⟨c', hr, ((h0 | ⟨e', he', hl, hx⟩) | ⟨_, _, hf⟩)⟩
    · exact Or.inl h0
    · subst hl
      exact Or.inr ⟨e', he', (h.reach_iff hv (h.wf e' he').1).1 hr, hx⟩
    · exact hf.elim
  · rintro (h0 | ⟨e', he', hr, hx⟩)
    · exact ⟨o.lab v, Reach.refl _, Or.inl (Or.inl h0)⟩
    · exact ⟨o.lab e'.1, h.reach_proj hr, Or.inl (Or.inr ⟨e', he', rfl, hx⟩)⟩

theorem maxAnc_char (g : Graph) (o : CondOracle) (h : CondContract g o) (wt : Edge → Rat) (v : Node)
    (hv : v ∈ g.nodes) (x : Rat) :
    x ≤ (maxAnc g o wt).get (o.lab v) ↔ x ≤ 0 ∨ ∃ e' ∈ g.edges, Reach g.edges e'.2 v ∧ x ≤ wt e' := by
  unfold maxAnc
  rw [pushSweep_correct o.cedges (fun (m : Rat) (x : Rat) => x ≤ m) (fun _ _ a b => if a > b then a else b)
    (by intro c s a b x; rw [le_ite_max]; exact or_comm) (localMax g o wt false).get o.topo
    h.topo (o.lab v) x]
  unfold PushSpec
  simp only [localMax_char, Bool.false_eq_true, if_false]
  constructor
  · rintro ⟨c', hr, (h0 | ⟨e', he', hl, hx⟩)⟩
    · exact Or.inl h0
    · subst hl
      exact Or.inr ⟨e', he', (h.reach_iff (h.wf e' he').2 hv).1 hr, hx⟩
  · rintro (h0 | ⟨e', he', hr, hx⟩)
    · exact ⟨o.lab v, Reach.refl _, Or.inl h0⟩
    · exact ⟨o.lab e'.2, h.reach_proj hr, Or.inr ⟨e', he', rfl, hx⟩⟩

theorem edgeMax_char (g : Graph) (o : CondOracle) (h : CondContract g o) (wt : Edge → Rat) (e : Edge)
    (he : e ∈ g.edges) (x : Rat) :
    x ≤ edgeMaxFn g o wt e ↔ x ≤ 0 ∨ ∃ e' ∈ g.edges, InScope g e e' ∧ x ≤ wt e' := by
  unfold edgeMaxFn
  rw [le_max3, maxDesc_char g o h wt e.2 (h.wf e he).2, maxAnc_char g o h wt e.1 (h.wf e he).1]
  constructor
  · rintro (h1 | (h0 | ⟨e', he', hr, hx⟩) | (h0 | ⟨e', he', hr, hx⟩))
    · exact Or.inr ⟨e, he, Or.inl rfl, h1⟩
    · exact Or.inl h0
    · exact Or.inr ⟨e', he', Or.inr (Or.inl hr), hx⟩
    · exact Or.inl h0
    · exact Or.inr ⟨e', he', Or.inr (Or.inr hr), hx⟩
  · rintro (h0 | ⟨e', he', (rfl | hr | hr), hx⟩)
    · exact Or.inr (Or.inl (Or.inl h0))
    · exact Or.inl hx
    · exact Or.inr (Or.inl (Or.inr ⟨e', he', hr, hx⟩))
    · exact Or.inr (Or.inr (Or.inr ⟨e', he', hr, hx⟩))

theorem edgeMax_is_max (g : Graph) (o : CondOracle) (h : CondContract g o) (wt : Edge → Rat)
    (hnn : ∀ e ∈ g.edges, 0 ≤ wt e) (e : Edge) (he : e ∈ g.edges) :
    (∀ e' ∈ g.edges, InScope g e e' → wt e' ≤ edgeMaxFn g o wt e) ∧
    (∃ e' ∈ g.edges, InScope g e e' ∧ wt e' = edgeMaxFn g o wt e) := by
  have hc := edgeMax_char g o h wt e he
  constructor
  · intro e' he' hs
    exact (hc (wt e')).2 (Or.inr ⟨e', he', hs, Rat.le_refl⟩)
  · have hself : wt e ≤ edgeMaxFn g o wt e := (hc (wt e)).2 (Or.inr ⟨e, he, Or.inl rfl, Rat.le_refl⟩)
    rcases (hc (edgeMaxFn g o wt e)).1 Rat.le_refl with h0 | ⟨e', he', hs, hx⟩
    · refine ⟨e, he, Or.inl rfl, ?_⟩
      have := hnn e he
      exact Rat.le_antisymm hself (Rat.le_trans h0 this)
    · refine ⟨e', he', hs, ?_⟩
      exact Rat.le_antisymm ((hc (wt e')).2 (Or.inr ⟨e', he', hs, Rat.le_refl⟩)) hx

theorem edgeMaxAll_eq (g : Graph) (o : CondOracle) (wt : Edge → Rat) :
    edgeMaxAll g o wt = g.edges.map fun e => (e, edgeMaxFn g o wt e) := rfl

end FP
