import FP.Proofs.Wrapper
import FP.Proofs.ErrAsg
import FP.Proofs.KFD
import FP.Proofs.ExplainedFlow
/-!
k-Min-Path-Error on DAGs. `kmpe_sat_iff` and `kmpe_sound_core` cover the LP with and without path-length
factors (through `slackFor`); completeness, feasibility from a path cover and optimality are for the LP
without factors. With factors, rows 9aa / 9ab see the scaled slack `scaled_slack_i = slack_i · factors[j]`, `j` the range
that holds the length of layer `i` (`factorBlock_sound`, `slackFor_cons`), and the LP is still sound (`kmpe_factors_sound`).
-/
namespace FP
open FP.Spec FP.Spec.MPE

theorem mpeObj_eval (k : Nat) (a : Asg) :
    evalTerms a (mpeObj k) = totalSlack k (fun i => a (slackVar i)) :=
  evalTerms_ones a _ _

theorem mpeObj_solAsg (s : STGraph) (σ : ErrSol) (k : Nat) :
    evalTerms (solAsg s σ) (mpeObj k) = totalSlack k σ.sl := by
  rw [mpeObj_eval]
  exact congrArg List.sum (List.map_congr_left fun i _ => solAsg_slack s σ i)

theorem totalSlack_const (k : Nat) (c : Rat) : totalSlack k (fun _ => c) = (k : Rat) * c := by
  unfold totalSlack
  rw [sum_map_const, List.length_range]

theorem factorBlock_nil (inp : MpeInput) (k : Nat) (wm : Rat) (hfac : inp.factors = []) :
    factorBlock inp k wm = {} := by
  unfold factorBlock; simp [hfac]

theorem slackFor_nil (inp : MpeInput) (hfac : inp.factors = []) (i : Nat) : inp.slackFor i = slackVar i := by
  unfold MpeInput.slackFor; simp [hfac]

theorem slackFor_cons (inp : MpeInput) (hne : inp.factors ≠ []) (i : Nat) : inp.slackFor i = scaledSlackVar i := by
  unfold MpeInput.slackFor
  rw [List.isEmpty_eq_false_iff.2 hne]; rfl

theorem kmpe_sat_iff (inp : MpeInput) (a : Asg) : Sat a (kmpeLP inp) ↔
    Sat a (encodePaths inp.ei.st inp.ei.fi.cfg) ∧
    ((∀ i, i < inp.ei.k → 0 ≤ a (weightsVar i) ∧ a (weightsVar i) ≤ inp.ei.wmax none ∧
        (inp.ei.fi.weightInt = true → IsInt (a (weightsVar i)))) ∧
      (∀ i, i < inp.ei.k → ∀ e ∈ inp.ei.st.g.edges, 0 ≤ a (piVar e i) ∧ a (piVar e i) ≤ inp.ei.wmax none ∧
        (inp.ei.fi.weightInt = true → IsInt (a (piVar e i)))) ∧
      (∀ i, i < inp.ei.k → 0 ≤ a (slackVar i) ∧ a (slackVar i) ≤ inp.ei.wmax none ∧
        (inp.ei.fi.weightInt = true → IsInt (a (slackVar i)))) ∧
      (∀ i, i < inp.ei.k → ∀ e ∈ inp.ei.st.g.edges,
        0 ≤ a (gammaVar e i) ∧ a (gammaVar e i) ≤ inp.ei.wmax none)) ∧
    Sat a (factorBlock inp inp.ei.k (inp.ei.wmax none)) ∧
    (∀ e ∈ inp.ei.basicEdges, ∀ i, i < inp.ei.k →
      ∀ r ∈ binProd (edgeVar e i) (weightsVar i) (piVar e i) 0 (inp.ei.wmax none), r.holds a) ∧
    (∀ e ∈ inp.ei.basicEdges, ∀ i, i < inp.ei.k →
      ∀ r ∈ binProd (edgeVar e i) (inp.slackFor i) (gammaVar e i) 0 (inp.ei.wmax none), r.holds a) ∧
    (∀ e ∈ inp.ei.basicEdges, ∀ r ∈ errRows (inp.ei.fi.f e) (inp.ei.scale e)
        (ones (List.range inp.ei.k) (piVar e)) (ones (List.range inp.ei.k) (gammaVar e)), r.holds a) := by
  unfold kmpeLP
  rw [sat_append_iff, sat_append_iff, sat_append_iff, and_assoc, and_assoc]
  refine and_congr_right' (and_congr ?_ (and_congr_right' ?_))
  · simp only [Sat, slackCols, gammaCols, List.forall_mem_append, List.forall_mem_flatMap,
      List.forall_mem_map, List.mem_range, col_holds_iff, List.not_mem_nil, false_imp_iff, implies_true,
      and_true, Bool.false_eq_true, and_assoc]
    exact Iff.rfl
  · simp only [Sat, List.forall_mem_append, List.forall_mem_flatMap, coupleBin_holds, List.not_mem_nil,
      false_imp_iff, implies_true, true_and, and_assoc]

theorem kmpe_sound_core (inp : MpeInput) (a : Asg) (h : BaseWF inp.ei.fi.base) (hac : Acyclic inp.ei.fi.base)
    (hsat : Sat a (kmpeLP inp)) :
    ∃ ps : List (List Node),
      decodePaths inp.ei.st (fun e i => a (edgeVar e i)) inp.ei.k = some ps ∧ ps.length = inp.ei.k ∧
      (∀ i, i < inp.ei.k → Route inp.ei.st inp.ei.fi.cfg.allowEmpty (ps.getD i [])) ∧
      (∀ i, i < inp.ei.k → ∀ e ∈ inp.ei.st.g.edges, a (edgeVar e i) = trav inp.ei.st (ps.getD i []) e) ∧
      (∀ e ∈ inp.ei.basicEdges, ∀ i, i < inp.ei.k →
        a (piVar e i) = a (edgeVar e i) * a (weightsVar i) ∧
        a (gammaVar e i) = a (edgeVar e i) * a (inp.slackFor i)) ∧
      (∀ e ∈ inp.ei.basicEdges,
        (inp.ei.fi.f e - explained inp.ei.st inp.ei.k (fun i => ps.getD i []) (fun i => a (weightsVar i)) e).abs
            * inp.ei.scale e
          ≤ explained inp.ei.st inp.ei.k (fun i => ps.getD i []) (fun i => a (inp.slackFor i)) e) := by
  have hwf : STWF inp.ei.st := h.stwf hac
  obtain ⟨henc, _, _, hbinw, hbins, herr⟩ := (kmpe_sat_iff inp a).1 hsat
  obtain ⟨ps, hps, hlen, hroutes, htrav⟩ := decode_routes a hwf henc
  have hw := fun e he => coupled_sound _ inp.ei.k _ weightsVar (piVar e) hwf hroutes
    (mem_basicEdges he) htrav (hbinw e he)
  have hs := fun e he => coupled_sound _ inp.ei.k _ inp.slackFor (gammaVar e) hwf hroutes
    (mem_basicEdges he) htrav (hbins e he)
  refine ⟨ps, hps, hlen, hroutes, htrav, fun e he i hi => ⟨(hw e he).1 i hi, (hs e he).1 i hi⟩,
    fun e he => ?_⟩
  rw [← (hw e he).2, ← (hs e he).2]
  exact errRows_sound a _ _ _ _ (herr e he)

theorem kmpe_sound (inp : MpeInput) (a : Asg) (h : BaseWF inp.ei.fi.base) (hac : Acyclic inp.ei.fi.base)
    (hfac : inp.factors = []) (hsat : Sat a (kmpeLP inp)) :
    ∃ ps : List (List Node),
      decodePaths inp.ei.st (fun e i => a (edgeVar e i)) inp.ei.k = some ps ∧ ps.length = inp.ei.k ∧
      Bounded inp.ei (fun i => ps.getD i []) (fun i => a (weightsVar i)) (fun i => a (slackVar i)) ∧
      (∀ i, i < inp.ei.k → ∀ e ∈ inp.ei.st.g.edges, a (edgeVar e i) = trav inp.ei.st (ps.getD i []) e) ∧
      (∀ e ∈ inp.ei.basicEdges, ∀ i, i < inp.ei.k →
        a (piVar e i) = a (edgeVar e i) * a (weightsVar i) ∧
        a (gammaVar e i) = a (edgeVar e i) * a (slackVar i)) ∧
      evalTerms a (kmpeLP inp).obj = totalSlack inp.ei.k (fun i => a (slackVar i)) := by
  obtain ⟨ps, hps, hlen, hroutes, htrav, hprod, hslack⟩ := kmpe_sound_core inp a h hac hsat
  obtain ⟨_, ⟨hwc, _, hsc, _⟩, _⟩ := (kmpe_sat_iff inp a).1 hsat
  simp only [slackFor_nil inp hfac] at hprod hslack
  exact ⟨ps, hps, hlen,
    { routes := hroutes, nonneg := fun i hi => ⟨(hwc i hi).1, (hsc i hi).1⟩,
      integral := fun hint i hi => ⟨(hwc i hi).2.2 hint, (hsc i hi).2.2 hint⟩,
      slackOK := hslack, wle := fun i hi => ⟨(hwc i hi).2.1, (hsc i hi).2.1⟩ },
    htrav, hprod, mpeObj_eval inp.ei.k a⟩

theorem kmpe_complete (inp : MpeInput) (P : Nat → List Node) (w sl : Nat → Rat)
    (h : BaseWF inp.ei.fi.base) (hac : Acyclic inp.ei.fi.base) (hfac : inp.factors = [])
    (hcons : inp.ei.fi.cfg.constraints = []) (hlen : inp.ei.fi.cfg.lengths = none)
    (hscale : ∀ e ∈ inp.ei.basicEdges, 0 ≤ inp.ei.scale e)
    (hb : Bounded inp.ei P w sl) :
    ∃ a : Asg, Sat a (kmpeLP inp) ∧
      (∀ i, i < inp.ei.k → ∀ e ∈ inp.ei.st.g.edges, a (edgeVar e i) = trav inp.ei.st (P i) e) ∧
      (∀ i, i < inp.ei.k → a (weightsVar i) = w i ∧ a (slackVar i) = sl i) ∧
      evalTerms a (kmpeLP inp).obj = totalSlack inp.ei.k sl := by
  have hwf : STWF inp.ei.st := h.stwf hac
  let σ : ErrSol := { P := P, w := w, sl := sl }
  obtain ⟨hwc, hpc, hbinw, hsumw⟩ := coupled_complete (solAsg inp.ei.st σ) _ inp.ei.k P weightsVar
    piVar w (inp.ei.wmax none) inp.ei.fi.weightInt hwf hb.routes (solAsg_edge inp.ei.st σ)
    (solAsg_w inp.ei.st σ) (solAsg_pi inp.ei.st σ)
    fun i hi => ⟨(hb.nonneg i hi).1, (hb.wle i hi).1, fun hint => (hb.integral hint i hi).1⟩
  obtain ⟨hsc, hgc, hbins, hsums⟩ := coupled_complete (solAsg inp.ei.st σ) _ inp.ei.k P slackVar
    gammaVar sl (inp.ei.wmax none) inp.ei.fi.weightInt hwf hb.routes (solAsg_edge inp.ei.st σ)
    (solAsg_slack inp.ei.st σ) (solAsg_gamma inp.ei.st σ)
    fun i hi => ⟨(hb.nonneg i hi).2, (hb.wle i hi).2, fun hint => (hb.integral hint i hi).2⟩
  refine ⟨solAsg inp.ei.st σ, (kmpe_sat_iff inp _).2
    ⟨solAsg_sat_paths hwf hb.routes hcons hlen,
      ⟨hwc, hpc, hsc, fun i hi e he => ⟨(hgc i hi e he).1, (hgc i hi e he).2.1⟩⟩,
      factorBlock_nil inp _ _ hfac ▸ sat_empty _, fun e he => hbinw e (mem_basicEdges he),
      fun e he i hi => slackFor_nil inp hfac i ▸ hbins e (mem_basicEdges he) i hi, fun e he => ?_⟩,
    fun i _ e _ => solAsg_edge inp.ei.st σ e i,
    fun i _ => ⟨solAsg_w inp.ei.st σ i, solAsg_slack inp.ei.st σ i⟩, mpeObj_solAsg inp.ei.st σ inp.ei.k⟩
  refine errRows_complete _ _ _ _ _ (hscale e he) ?_
  rw [hsumw, hsums]
  exact hb.slackOK e he

theorem mpe_cover_solution_bounded (inp : ErrInput) (P : Nat → List Node) (hk : 1 ≤ inp.k)
    (hroutes : ∀ i, i < inp.k → Route inp.st inp.fi.cfg.allowEmpty (P i)) (hcov : Covers inp P)
    (hf : ∀ e ∈ inp.basicEdges, 0 ≤ inp.fi.f e ∧ inp.fi.f e ≤ inp.fmax)
    (hscale : ∀ e ∈ inp.basicEdges, 0 ≤ inp.scale e ∧ inp.scale e ≤ 1) :
    Bounded inp P (fun _ => 0) (fun _ => inp.fmax) := by
  have hM0 := fmax_nonneg inp hf
  have hMw := fmax_le_wmax inp hk hM0
  refine { routes := hroutes, nonneg := fun _ _ => ⟨Rat.le_refl, hM0⟩,
           integral := fun hint _ _ => ⟨⟨0, rfl⟩, fmax_isInt inp hint⟩,
           slackOK := ?_, wle := fun _ _ => ⟨Rat.le_trans hM0 hMw, hMw⟩ }
  intro e he
  obtain ⟨i, hi, ht⟩ := hcov e he
  have hle := le_explained inp.st inp.k P (fun _ => inp.fmax) e (fun _ _ => hM0) i hi ht
  obtain ⟨hf0, hf1⟩ := hf e he
  unfold SlackOK
  rw [explained_zero, Rat.sub_eq_add_neg, Rat.neg_zero, Rat.add_zero, Rat.abs_of_nonneg hf0]
  exact Rat.le_trans (mul_le_self_of_le_one hf0 (hscale e he).2) (Rat.le_trans hf1 hle)

theorem kmpe_feasible_of_cover (inp : MpeInput) (P : Nat → List Node)
    (h : BaseWF inp.ei.fi.base) (hac : Acyclic inp.ei.fi.base) (hfac : inp.factors = [])
    (hcons : inp.ei.fi.cfg.constraints = []) (hlen : inp.ei.fi.cfg.lengths = none) (hk : 1 ≤ inp.ei.k)
    (hroutes : ∀ i, i < inp.ei.k → Route inp.ei.st inp.ei.fi.cfg.allowEmpty (P i))
    (hcov : Covers inp.ei P)
    (hf : ∀ e ∈ inp.ei.basicEdges, 0 ≤ inp.ei.fi.f e ∧ inp.ei.fi.f e ≤ inp.ei.fmax)
    (hscale : ∀ e ∈ inp.ei.basicEdges, 0 ≤ inp.ei.scale e ∧ inp.ei.scale e ≤ 1) :
    ∃ a : Asg, Sat a (kmpeLP inp) ∧
      (∀ i, i < inp.ei.k → ∀ e ∈ inp.ei.st.g.edges, a (edgeVar e i) = trav inp.ei.st (P i) e) ∧
      evalTerms a (kmpeLP inp).obj = (inp.ei.k : Rat) * inp.ei.fmax := by
  obtain ⟨a, hsat, hx, _, hobj⟩ := kmpe_complete inp P (fun _ => 0) (fun _ => inp.ei.fmax) h hac hfac
    hcons hlen (fun e he => (hscale e he).1)
    (mpe_cover_solution_bounded inp.ei P hk hroutes hcov hf hscale)
  refine ⟨a, hsat, hx, ?_⟩
  rw [hobj, totalSlack_const]

theorem kmpe_opt_transfer (inp : MpeInput) (a : Asg) (h : BaseWF inp.ei.fi.base) (hac : Acyclic inp.ei.fi.base)
    (hfac : inp.factors = [])
    (hcons : inp.ei.fi.cfg.constraints = []) (hlen : inp.ei.fi.cfg.lengths = none)
    (hscale : ∀ e ∈ inp.ei.basicEdges, 0 ≤ inp.ei.scale e)
    (hsat : Sat a (kmpeLP inp))
    (hopt : ∀ a', Sat a' (kmpeLP inp) → evalTerms a (kmpeLP inp).obj ≤ evalTerms a' (kmpeLP inp).obj) :
    ∃ ps : List (List Node),
      decodePaths inp.ei.st (fun e i => a (edgeVar e i)) inp.ei.k = some ps ∧
      Bounded inp.ei (fun i => ps.getD i []) (fun i => a (weightsVar i)) (fun i => a (slackVar i)) ∧
      (∀ P' w' sl', Bounded inp.ei P' w' sl' →
        totalSlack inp.ei.k (fun i => a (slackVar i)) ≤ totalSlack inp.ei.k sl') ∧
      evalTerms a (kmpeLP inp).obj = totalSlack inp.ei.k (fun i => a (slackVar i)) := by
  obtain ⟨ps, hps, _, hbd, _, _, hobj⟩ := kmpe_sound inp a h hac hfac hsat
  refine ⟨ps, hps, hbd, fun P' w' sl' hb' => ?_, hobj⟩
  obtain ⟨a', hsat', _, _, hobj'⟩ := kmpe_complete inp P' w' sl' h hac hfac hcons hlen hscale hb'
  have := hopt a' hsat'
  rw [hobj, hobj'] at this
  exact this

/-- the fold step that `factorBlock` writes inline as a lambda, once for the `piecewise` and once for the
`intProdQ` blocks; `sat_foldl_accum` applies to those folds because they unfold to this one -/
def accumLP (g : Nat → LP) (acc : LP) (i : Nat) : LP :=
  { acc with cols := acc.cols ++ (g i).cols, rows := acc.rows ++ (g i).rows }

/-- `Sat` looks at columns and rows only, so accumulating them is `LP.append` -/
theorem sat_foldl_accum (a : Asg) (g : Nat → LP) (l : List Nat) (acc : LP) :
    Sat a (l.foldl (accumLP g) acc) ↔ Sat a acc ∧ ∀ i ∈ l, Sat a (g i) :=
  sat_foldl_step a (accumLP g) g (fun acc i => sat_append_iff a acc (g i)) l acc

/-- what the factor block says about layer `i`: its path length lies in some range `j` and
`scaled_slack_i = slack_i · factors[j]`. No hypothesis relates the slack-factor column `[min factors, max factors]` to the
bound `[0, wm · max factors]` handed to the integer × continuous product: the product is forced whatever the value of
the continuous factor (`intProdQ_prod`). -/
theorem factorBlock_sound {inp : MpeInput} {k : Nat} {wm : Rat} (a : Asg) (hne : inp.factors ≠ [])
    (hlen : inp.ranges.length = inp.factors.length) (hLU : ∀ r ∈ inp.ranges, r.1 ≤ r.2)
    (h : Sat a (factorBlock inp k wm)) (i : Nat) (hi : i < k) :
    ∃ j, ∃ hj : j < inp.ranges.length,
      (inp.ranges[j]).1 ≤ a (lenVar i) ∧ a (lenVar i) ≤ (inp.ranges[j]).2 ∧
      a (scaledSlackVar i) = a (slackVar i) * inp.factors[j]'(hlen ▸ hj) := by
  unfold factorBlock at h
  simp only [List.isEmpty_eq_false_iff.2 hne, Bool.false_eq_true, if_false] at h
  obtain ⟨hc, hr⟩ := h
  simp only [List.forall_mem_append] at hc hr
  -- `hc`: ((slack-factor columns, `piecewise` columns), scaled-slack columns), `intProdQ` columns;
  -- `hr`: `piecewise` rows, `intProdQ` rows
  have hmem := List.mem_range.2 hi
  have hpw := ((sat_foldl_accum a (fun i => piecewise (lenVar i) (slackFactorVar i) inp.ranges inp.factors
    ("error_scale_" ++ toString i)) _ {}).1 ⟨hc.1.1.2, hr.1⟩).2 i hmem
  have hip := ((sat_foldl_accum a (fun i => intProdQ (slackVar i) (slackFactorVar i) (scaledSlackVar i) 0
    (wm * listMax inp.factors) ("scaled_slack_i" ++ toString i)) _ {}).1 ⟨hc.2, hr.2⟩).2 i hmem
  obtain ⟨j, hj, hl1, hl2, hy⟩ := piecewise_sound a _ _ inp.ranges inp.factors _ hlen hLU hpw
  refine ⟨j, hj, hl1, hl2, ?_⟩
  rw [intProdQ_prod hip, hy]

theorem kmpe_factors_sound (inp : MpeInput) (a : Asg) (h : BaseWF inp.ei.fi.base) (hac : Acyclic inp.ei.fi.base)
    (hne : inp.factors ≠ []) (hlen : inp.ranges.length = inp.factors.length)
    (hLU : ∀ r ∈ inp.ranges, r.1 ≤ r.2)
    (hfb : 0 ≤ listMin inp.factors ∧ listMax inp.factors ≤ inp.ei.wmax none * listMax inp.factors)
    (hsat : Sat a (kmpeLP inp)) :
    ∃ ps : List (List Node),
      decodePaths inp.ei.st (fun e i => a (edgeVar e i)) inp.ei.k = some ps ∧ ps.length = inp.ei.k ∧
      (∀ i, i < inp.ei.k → Route inp.ei.st inp.ei.fi.cfg.allowEmpty (ps.getD i [])) ∧
      (∀ i, i < inp.ei.k → ∀ e ∈ inp.ei.st.g.edges, a (edgeVar e i) = trav inp.ei.st (ps.getD i []) e) ∧
      (∀ i, i < inp.ei.k → ∃ j, ∃ hj : j < inp.ranges.length,
        (inp.ranges[j]).1 ≤ a (lenVar i) ∧ a (lenVar i) ≤ (inp.ranges[j]).2 ∧
        a (scaledSlackVar i) = a (slackVar i) * inp.factors[j]'(hlen ▸ hj)) ∧
      (∀ e ∈ inp.ei.basicEdges, ∀ i, i < inp.ei.k →
        a (gammaVar e i) = a (edgeVar e i) * a (scaledSlackVar i) ∧ a (gammaVar e i) ≤ inp.ei.wmax none) ∧
      (∀ e ∈ inp.ei.basicEdges,
        (inp.ei.fi.f e - explained inp.ei.st inp.ei.k (fun i => ps.getD i []) (fun i => a (weightsVar i)) e).abs
            * inp.ei.scale e
          ≤ explained inp.ei.st inp.ei.k (fun i => ps.getD i []) (fun i => a (scaledSlackVar i)) e) ∧
      evalTerms a (kmpeLP inp).obj = MPE.totalSlack inp.ei.k (fun i => a (slackVar i)) := by
  have _ := hfb -- not needed (`factorBlock_sound`)
  obtain ⟨ps, hps, hlenps, hroutes, htrav, hprod, hslack⟩ := kmpe_sound_core inp a h hac hsat
  obtain ⟨_, ⟨_, _, _, hgc⟩, hFB, _⟩ := (kmpe_sat_iff inp a).1 hsat
  simp only [slackFor_cons inp hne] at hprod hslack
  exact ⟨ps, hps, hlenps, hroutes, htrav, factorBlock_sound a hne hlen hLU hFB,
    fun e he i hi => ⟨(hprod e he i hi).2, (hgc i hi e (mem_basicEdges he)).2⟩, hslack, mpeObj_eval inp.ei.k a⟩

end FP
