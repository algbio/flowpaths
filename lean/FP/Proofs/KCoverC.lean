import FP.Model.Enc.KCoverC
import FP.Proofs.WalkCore
/-!
`kPathCoverCycles`: `kcovercLP` is `walkCore` under the caps `kcovercCap` with the cover rows and the objective
`kcovercCover` appended (`kcovercLP_eq`); what the cover part says is `sat_kcovercCover_iff`, `kcovercCover_obj`, and
it reads the sums of the edge columns over the layers only (`kcovercCover_congr`). The caps are `|E|·|V|` inside an
SCC and `1` outside (`c09k_cap_scc`, `kcovercCap_nonScc`).
With empty walks not allowed, every layer of an assignment satisfying `kcovercLP` decodes to a route of the
user's graph that, with the synthetic endpoints put back, is a source-to-sink walk of the augmented graph
(`kcoverc_layer`, from `decoded_isWalk` and `walk_routes_valid`). Its traversal counts are the layer's edge
variables, and the cover rows (`kcoverc_cover`) ask for a variable that is at least 1 in some layer for every edge
that is not ignored: such an edge lies on the walk of that layer (`kcoverc_cover_mem`).
-/
namespace FP
open FP.Spec

/-- `edge_upper_bounds[e]` as the encoder uses it: `|E|·|V|` of the augmented graph (`max_edge_repetition` of `kPathCoverCycles`) on an SCC edge, `1` elsewhere -/
def kcovercCap (inp : WalkInput) (e : Edge) : Rat := lookupD (kcovercBounds inp.st) e 1

def kcovercCover (inp : WalkInput) : LP :=
  { rows := (inp.activeEdges false).map fun e => rowGe (ones (List.range inp.k) (edgeVar e)) 1,
    obj := inp.st.g.edges.flatMap fun e => (List.range inp.k).map fun i => ((1 : Rat), edgeVar e i) }

theorem kcovercLP_eq (inp : WalkInput) :
    kcovercLP inp = (walkCore inp.st inp.cfg (kcovercCap inp)).append (kcovercCover inp) := rfl

theorem sat_kcovercCover_iff (inp : WalkInput) (a : Asg) :
    Sat a (kcovercCover inp) ↔
      ∀ e ∈ inp.activeEdges false, 1 ≤ ((List.range inp.k).map fun i => a (edgeVar e i)).sum := by
  simp only [Sat, kcovercCover, List.forall_mem_map, rowGe_holds, evalTerms_ones]
  exact ⟨fun h => h.2, fun h => ⟨fun _ hc => (nomatch hc), h⟩⟩

theorem kcovercCover_obj (inp : WalkInput) (a : Asg) :
    evalTerms a (kcovercCover inp).obj =
      (inp.st.g.edges.map fun e => ((List.range inp.k).map fun i => a (edgeVar e i)).sum).sum := by
  show evalTerms a (inp.st.g.edges.flatMap fun e => ones (List.range inp.k) (edgeVar e)) = _
  rw [evalTerms_flatMap]
  simp only [evalTerms_ones]

/-- the cover rows and the objective depend on the sums of the edge columns over all layers only -/
theorem kcovercCover_congr (inp : WalkInput) (a a' : Asg)
    (hs : ∀ e, ((List.range inp.k).map fun i => a' (edgeVar e i)).sum
      = ((List.range inp.k).map fun i => a (edgeVar e i)).sum) (h : Sat a (kcovercCover inp)) :
    Sat a' (kcovercCover inp) ∧ evalTerms a' (kcovercCover inp).obj = evalTerms a (kcovercCover inp).obj := by
  rw [sat_kcovercCover_iff] at h ⊢
  rw [kcovercCover_obj, kcovercCover_obj]
  exact ⟨fun e he => (hs e).symm ▸ h e he, by simp only [hs]⟩

theorem kcovercCap_nonScc (inp : WalkInput) (e : Edge) (he : e ∈ inp.st.g.edges)
    (h : isSccEdge inp.st.g e = false) : kcovercCap inp e = 1 := by
  unfold kcovercCap kcovercBounds
  rw [lookupD_capBounds _ _ e he, h]
  rfl

/-- inside an SCC the floor taken by `capBounds` leaves the natural number `|E|·|V|` (of the augmented
graph) as it is -/
theorem c09k_cap_scc (inp : WalkInput) (e : Edge) (he : e ∈ inp.st.g.edges)
    (h : isSccEdge inp.st.g e = true) :
    kcovercCap inp e = ((inp.st.g.edges.length * inp.st.g.nodes.length : Nat) : Rat) := by
  unfold kcovercCap kcovercBounds
  rw [lookupD_capBounds _ _ e he, if_pos h, floor_natCast, Rat.intCast_natCast]

theorem kcoverc_sat_enc (inp : WalkInput) (a : Asg) (h : Sat a (kcovercLP inp)) :
    Sat a (encodeWalks inp.st inp.cfg (kcovercCap inp)) := by
  rw [kcovercLP_eq] at h
  exact sat_append_left (sat_append_left h)

theorem kcoverc_cover (inp : WalkInput) (a : Asg) (h : Sat a (kcovercLP inp)) :
    ∀ x ∈ inp.activeEdges false, ∃ i, i < inp.k ∧ 1 ≤ a (edgeVar x i) := by
  intro x hx
  have henc := kcoverc_sat_enc inp a h
  rw [kcovercLP_eq] at h
  have hxe : x ∈ inp.st.g.edges := (List.mem_filter.1 hx).1
  have h1 := (sat_kcovercCover_iff inp a).1 (sat_append_right h) x hx
  have hnz : ((List.range inp.k).map fun i => a (edgeVar x i)).sum ≠ 0 := by
    intro h0; rw [h0] at h1; exact absurd h1 (by decide)
  obtain ⟨i, hi, hne⟩ := exists_ne_zero_of_sum_ne_zero hnz
  exact ⟨i, List.mem_range.1 hi, edge_col_one_le_of_ne_zero henc (List.mem_range.1 hi) hxe hne⟩

theorem kcoverc_layer (inp : WalkInput) (a : Asg) (hb : BaseWF inp.base) (hae : inp.cfg.allowEmpty = false)
    (hsat : Sat a (kcovercLP inp)) (i : Nat) (hi : i < inp.k) :
    IsSTWalk inp.st (inp.st.source :: decodeWalkLayer inp.st a i ++ [inp.st.sink]) ∧
    ValidRoute inp.base inp.starts inp.ends (decodeWalkLayer inp.st a i) := by
  have henc := kcoverc_sat_enc inp a hsat
  have hv := walk_routes_valid inp.base inp.starts inp.ends inp.cfg (kcovercCap inp) a hb henc i hi
  exact ⟨⟨rfl, List.getLast?_concat (l := inp.st.source :: decodeWalkLayer inp.st a i),
      decoded_isWalk inp.st inp.cfg _ a hb.stwfc henc hae i hi⟩,
    hv.2 fun hnil => (by have := hv.1 hnil; rw [hae] at this; cases this)⟩

theorem kcoverc_cover_mem (inp : WalkInput) (a : Asg) (hb : BaseWF inp.base)
    (hsat : Sat a (kcovercLP inp)) {e : Edge} (he : e ∈ inp.activeEdges false) :
    ∃ i, i < inp.k ∧ e ∈ walkEdges (inp.st.source :: decodeWalkLayer inp.st a i ++ [inp.st.sink]) := by
  obtain ⟨i, hi, h1⟩ := kcoverc_cover inp a hsat e he
  have hee : e ∈ inp.st.g.edges := (List.mem_filter.1 he).1
  have henc := kcoverc_sat_enc inp a hsat
  have hm : multOf a i e ≠ 0 := (edge_col_one_le_iff henc (show i < inp.cfg.k from hi) hee).1 h1
  rw [← (walkcore_layer_mults inp.st (kcovercCap inp) a hb.stwfc henc i hi e hee).1] at hm
  exact ⟨i, hi, List.count_pos_iff.1 (Nat.pos_of_ne_zero hm)⟩

end FP
