import FP.Spec.GenSet
import FP.Proofs.Lib
/-! Facts about generating multisets (`FP/Spec/GenSet.lean`) that mention no encoding. -/
namespace FP.Spec

@[simp] theorem dot_nil_left (g : List Rat) : dot [] g = 0 := by cases g <;> rfl
@[simp] theorem dot_nil_right (c : List Nat) : dot c [] = 0 := by cases c <;> rfl
@[simp] theorem dot_cons (c : Nat) (cs : List Nat) (g : Rat) (gs : List Rat) :
    dot (c :: cs) (g :: gs) = (c : Rat) * g + dot cs gs := rfl

theorem dot_eq_zip_sum (c : List Nat) : ∀ g : List Rat,
    dot c g = ((c.zip g).map fun p => (p.1 : Rat) * p.2).sum := by
  induction c with
  | nil => intro g; simp
  | cons c0 cs ih =>
    intro g
    cases g with
    | nil => simp
    | cons x xs => simp [ih]

theorem dot_replicate_zero (g : List Rat) : dot (List.replicate g.length 0) g = 0 := by
  induction g with
  | nil => simp
  | cons x xs ih => rw [List.length_cons, List.replicate_succ, dot_cons, ih, Rat.add_zero]; exact Rat.zero_mul x

theorem dot_replicate_one (g : List Rat) : dot (List.replicate g.length 1) g = g.sum := by
  induction g with
  | nil => simp
  | cons x xs ih =>
    rw [List.length_cons, List.replicate_succ, dot_cons, ih, List.sum_cons]
    exact congrArg (· + xs.sum) (Rat.one_mul x)

theorem dot_append (c1 c2 : List Nat) (g1 g2 : List Rat) (h : c1.length = g1.length) :
    dot (c1 ++ c2) (g1 ++ g2) = dot c1 g1 + dot c2 g2 := by
  rw [dot_eq_zip_sum, dot_eq_zip_sum, dot_eq_zip_sum, List.zip_append h, List.map_append, List.sum_append]

theorem dot_map (l : List Nat) (f : Nat → Nat) (h : Nat → Rat) :
    dot (l.map f) (l.map h) = (l.map fun i => (f i : Rat) * h i).sum := by
  induction l with
  | nil => simp
  | cons x xs ih => simp [ih]

theorem mem_coeffLists (mult : Nat) : ∀ (n : Nat) (c : List Nat),
    c ∈ coeffLists mult n ↔ c.length = n ∧ ∀ ci ∈ c, ci ≤ mult := by
  intro n
  induction n with
  | zero =>
    intro c
    simp only [coeffLists, List.mem_singleton]
    constructor
    · rintro rfl; simp
    · rintro ⟨h, _⟩; exact List.length_eq_zero_iff.1 h
  | succ n ih =>
    intro c
    simp only [coeffLists, List.mem_flatMap, List.mem_map, List.mem_range]
    constructor
    · rintro ⟨c0, hc0, cs, hcs, rfl⟩
      obtain ⟨h1, h2⟩ := (ih cs).1 hcs
      refine ⟨by simp [h1], ?_⟩
      intro ci hci
      rcases List.mem_cons.1 hci with rfl | hm
      · omega
      · exact h2 ci hm
    · rintro ⟨hlen, hall⟩
      cases c with
      | nil => simp at hlen
      | cons c0 cs =>
        refine ⟨c0, ?_, cs, (ih cs).2 ⟨by simpa using hlen, fun ci hci => hall ci (List.mem_cons_of_mem _ hci)⟩, rfl⟩
        have := hall c0 (List.mem_cons_self ..)
        omega

theorem generatesB_iff (g : List Rat) (mult : Nat) (x : Rat) :
    generatesB g mult x = true ↔ Generates g mult x := by
  unfold generatesB Generates
  rw [List.any_eq_true]
  constructor
  · rintro ⟨c, hc, hd⟩
    obtain ⟨h1, h2⟩ := (mem_coeffLists mult _ c).1 hc
    exact ⟨c, h1, h2, by simpa using hd⟩
  · rintro ⟨c, h1, h2, h3⟩
    exact ⟨c, (mem_coeffLists mult _ c).2 ⟨h1, h2⟩, by simpa using h3⟩

instance (g : List Rat) (mult : Nat) (x : Rat) : Decidable (Generates g mult x) :=
  decidable_of_iff _ (generatesB_iff g mult x)

theorem generates_zero (g : List Rat) (mult : Nat) : Generates g mult 0 :=
  ⟨List.replicate g.length 0, by simp, by
    intro ci hci; rw [(List.mem_replicate.1 hci).2]; exact Nat.zero_le _, dot_replicate_zero g⟩

theorem generates_mono (g : List Rat) {m1 m2 : Nat} (h : m1 ≤ m2) {x : Rat}
    (hx : Generates g m1 x) : Generates g m2 x := by
  obtain ⟨c, h1, h2, h3⟩ := hx
  exact ⟨c, h1, fun ci hci => Nat.le_trans (h2 ci hci) h, h3⟩

/-- a prefix of `g` is a sub-multiset: coefficient `1` on it, `0` behind it -/
theorem generates_take (g : List Rat) (n : Nat) : Generates g 1 (g.take n).sum := by
  refine ⟨List.replicate (g.take n).length 1 ++ List.replicate (g.drop n).length 0, ?_, ?_, ?_⟩
  · rw [List.length_append, List.length_replicate, List.length_replicate, ← List.length_append,
      List.take_append_drop]
  · intro ci hci
    rcases List.mem_append.1 hci with h | h
    · exact Nat.le_of_eq (List.mem_replicate.1 h).2
    · rw [(List.mem_replicate.1 h).2]; exact Nat.zero_le _
  · conv => lhs; arg 2; rw [← List.take_append_drop n g]
    rw [dot_append _ _ _ _ (List.length_replicate ..), dot_replicate_one, dot_replicate_zero, Rat.add_zero]

theorem generates_sum (g : List Rat) (mult : Nat) (hm : 1 ≤ mult) : Generates g mult g.sum := by
  have := generates_take g g.length
  rw [List.take_length] at this
  exact generates_mono g hm this

theorem dot_complement (c : List Nat) (g : List Rat) (hlen : c.length = g.length)
    (h01 : ∀ ci ∈ c, ci ≤ 1) : dot (c.map fun ci => 1 - ci) g = g.sum - dot c g := by
  have hg : ((c.zip g).map Prod.snd).sum = g.sum := by rw [List.map_snd_zip (Nat.le_of_eq hlen.symm)]
  rw [dot_eq_zip_sum, dot_eq_zip_sum, ← hg, ← sum_map_sub, List.zip_map_left, List.map_map]
  refine congrArg List.sum (List.map_congr_left fun p hp => ?_)
  have h := Nat.le_one_iff_eq_zero_or_eq_one.1 (h01 _ (List.of_mem_zip hp).1)
  show ((1 - p.1 : Nat) : Rat) * p.2 = p.2 - p.1 * p.2
  rcases h with h | h <;> rw [h]
  · show (1 : Rat) * p.2 = p.2 - 0 * p.2
    rw [Rat.one_mul, Rat.zero_mul, Rat.sub_eq_add_neg, Rat.neg_zero, Rat.add_zero]
  · show (0 : Rat) * p.2 = p.2 - 1 * p.2
    rw [Rat.zero_mul, Rat.one_mul, Rat.sub_self]

/-- by the complementary sub-multiset -/
theorem generates_complement (g : List Rat) (x : Rat) (h : Generates g 1 x) :
    Generates g 1 (g.sum - x) := by
  obtain ⟨c, h1, h2, h3⟩ := h
  refine ⟨c.map fun ci => 1 - ci, by simpa using h1, ?_, ?_⟩
  · intro ci hci
    obtain ⟨d, _, rfl⟩ := List.mem_map.1 hci
    omega
  · rw [dot_complement c g h1 h2, h3]

/-- a permutation of `g` carries a list `c` paired with it along -/
theorem exists_zip_perm {α} {g g' : List Rat} (hp : g.Perm g') : ∀ c : List α, c.length = g.length →
    ∃ c' : List α, c'.length = g'.length ∧ c.Perm c' ∧ (c.zip g).Perm (c'.zip g') := by
  induction hp with
  | nil => intro c h; exact ⟨c, h, List.Perm.refl _, List.Perm.refl _⟩
  | cons a _ ih =>
    intro c h
    match c, h with
    | c0 :: cs, h =>
      obtain ⟨cs', h1, h2, h3⟩ := ih cs (by simpa using h)
      exact ⟨c0 :: cs', by simp [h1], h2.cons _, h3.cons _⟩
  | swap a b l =>
    intro c h
    match c, h with
    | c0 :: c1 :: cs, h => exact ⟨c1 :: c0 :: cs, by simpa using h, List.Perm.swap .., List.Perm.swap ..⟩
  | trans _ _ ih1 ih2 =>
    intro c h
    obtain ⟨c1, h1, q1, p1⟩ := ih1 c h
    obtain ⟨c2, h2, q2, p2⟩ := ih2 c1 h1
    exact ⟨c2, h2, q1.trans q2, p1.trans p2⟩

theorem generates_perm {g g' : List Rat} (hp : g.Perm g') (mult : Nat) (x : Rat)
    (h : Generates g mult x) : Generates g' mult x := by
  obtain ⟨c, h1, h2, h3⟩ := h
  obtain ⟨c', h1', hc, hz⟩ := exists_zip_perm hp c h1
  refine ⟨c', h1', fun ci hci => h2 ci (hc.mem_iff.2 hci), ?_⟩
  rw [← h3, dot_eq_zip_sum, dot_eq_zip_sum]
  exact (perm_sum (hz.map _)).symm

theorem isGenSet_perm {g g' : List Rat} (hp : g.Perm g') (total : Rat) (numbers : List Rat) (mult : Nat)
    (h : IsGenSet g total numbers mult) : IsGenSet g' total numbers mult := by
  obtain ⟨h1, h2, h3⟩ := h
  exact ⟨by rw [← perm_sum hp]; exact h1, fun x hx => h2 x (hp.mem_iff.2 hx),
    fun a ha => generates_perm hp mult a (h3 a ha)⟩

/-- padding with a zero keeps a generating multiset: feasibility is monotone in the size -/
theorem isGenSet_cons_zero (g : List Rat) (total : Rat) (numbers : List Rat) (mult : Nat)
    (h : IsGenSet g total numbers mult) : IsGenSet (0 :: g) total numbers mult := by
  obtain ⟨h1, h2, h3⟩ := h
  refine ⟨by rw [List.sum_cons, h1, Rat.zero_add], ?_, ?_⟩
  · intro x hx
    rcases List.mem_cons.1 hx with rfl | hm
    · exact Rat.le_refl
    · exact h2 x hm
  · intro a ha
    obtain ⟨c, hc1, hc2, hc3⟩ := h3 a ha
    refine ⟨0 :: c, by simp [hc1], ?_, by rw [dot_cons, hc3, Rat.mul_zero, Rat.zero_add]⟩
    intro ci hci
    rcases List.mem_cons.1 hci with rfl | hm
    · exact Nat.zero_le _
    · exact hc2 ci hm

theorem partSum_nil (g : List Rat) (j : Nat) : partSum [] g j = 0 := by simp [partSum]

theorem partSum_cons (p : Nat) (ps : List Nat) (x : Rat) (xs : List Rat) (j : Nat) :
    partSum (p :: ps) (x :: xs) j = (if p = j then x else 0) + partSum ps xs j := by
  simp [partSum]

theorem partSum_append (a1 a2 : List Nat) (g1 g2 : List Rat) (h : a1.length = g1.length) (j : Nat) :
    partSum (a1 ++ a2) (g1 ++ g2) j = partSum a1 g1 j + partSum a2 g2 j := by
  unfold partSum
  rw [List.zip_append h, List.map_append, List.sum_append]

theorem partSum_map_range (k : Nat) (asn : Nat → Nat) (g : Nat → Rat) (j : Nat) :
    partSum ((List.range k).map asn) ((List.range k).map g) j
      = ((List.range k).map fun i => if asn i = j then g i else 0).sum := by
  unfold partSum
  rw [List.zip_map', List.map_map]
  rfl

theorem dot_eq_sum_getD (c : List Nat) (g : List Rat) (h : c.length = g.length) :
    dot c g = ((List.range g.length).map fun i => (c.getD i 0 : Rat) * g.getD i 0).sum := by
  have e1 : (List.range g.length).map (fun i => c.getD i 0) = c := h ▸ range_map_getD c 0
  rw [← dot_map, e1, range_map_getD]

theorem partSum_eq_sum_getD (al : List Nat) (g : List Rat) (h : al.length = g.length) (j : Nat) :
    partSum al g j = ((List.range g.length).map fun i => if al.getD i 0 = j then g.getD i 0 else 0).sum := by
  have e1 : (List.range g.length).map (fun i => al.getD i 0) = al := h ▸ range_map_getD al 0
  rw [← partSum_map_range, e1, range_map_getD]

/-- double counting, by `sum_sum_fiber` -/
theorem partSum_total (assign : List Nat) (g : List Rat) (hlen : assign.length = g.length) (n : Nat) :
    ((List.range n).map fun j => partSum assign g j).sum
      + ((assign.zip g).map fun p => if p.1 < n then 0 else p.2).sum = g.sum := by
  have h1 : (fun j => partSum assign g j)
      = fun j => (((assign.zip g).filter fun p => p.1 = j).map Prod.snd).sum :=
    funext fun j => by
      rw [← sum_filter_ite]
      exact congrArg List.sum (List.map_congr_left fun p _ => by by_cases h : p.1 = j <;> simp [h])
  have h2 : ((assign.zip g).map fun p => if p.1 < n then 0 else p.2).sum
      = (((assign.zip g).filter fun p => !decide (p.1 ∈ List.range n)).map Prod.snd).sum := by
    rw [← sum_filter_ite]
    exact congrArg List.sum (List.map_congr_left fun p _ => by by_cases h : p.1 < n <;> simp [h])
  rw [h1, sum_sum_fiber _ _ List.nodup_range Prod.fst Prod.snd, h2, ← sum_filter_split,
    List.map_snd_zip (by omega)]

theorem partSum_replicate (g : List Rat) (p j : Nat) :
    partSum (List.replicate g.length p) g j = if p = j then g.sum else 0 := by
  induction g with
  | nil => simp [partSum]
  | cons x xs ih =>
    simp only [List.length_cons, List.replicate_succ, partSum_cons, ih, List.sum_cons]
    split
    · rfl
    · exact Rat.add_zero 0

theorem partSum_map (φ : Nat → Nat) (a : List Nat) (g : List Rat) (j : Nat) :
    partSum (a.map φ) g j = ((a.zip g).map fun p => if φ p.1 = j then p.2 else 0).sum := by
  unfold partSum; rw [List.zip_map_left, List.map_map]; rfl

theorem partSum_succ_zero (a : List Nat) (g : List Rat) : partSum (a.map (· + 1)) g 0 = 0 :=
  (partSum_map _ a g 0).trans (sum_map_zero fun p _ => if_neg (Nat.succ_ne_zero p.1))

theorem partSum_succ_succ (a : List Nat) (g : List Rat) (j : Nat) :
    partSum (a.map (· + 1)) g (j + 1) = partSum a g j := by
  rw [partSum_map]; simp only [Nat.add_right_cancel_iff]; rfl

theorem partSum_int (assign : List Nat) (g : List Rat) (j : Nat) (hg : AllInt g) :
    ∃ z : Int, partSum assign g j = z :=
  sum_map_isInt fun p hp => by
    split
    · exact hg _ (List.of_mem_zip hp).2
    · exact ⟨0, rfl⟩

theorem respectsPartition_perm {g g' : List Rat} (hp : g.Perm g') (con : List Rat)
    (h : RespectsPartition g con) : RespectsPartition g' con := by
  obtain ⟨c, h1, h2, h3⟩ := h
  obtain ⟨c', h1', hc, hz⟩ := exists_zip_perm hp c h1
  refine ⟨c', h1', fun p hp' => h2 p (hc.mem_iff.2 hp'), fun j hj => ?_⟩
  rw [← h3 j hj]
  exact (perm_sum (hz.map _)).symm

/-- padding with a zero (sent to part 0) -/
theorem respectsPartition_cons_zero (g con : List Rat) (hne : con ≠ []) (h : RespectsPartition g con) :
    RespectsPartition (0 :: g) con := by
  obtain ⟨a, h1, h2, h3⟩ := h
  refine ⟨0 :: a, by simp [h1], ?_, ?_⟩
  · intro p hp
    rcases List.mem_cons.1 hp with rfl | hp
    · exact List.length_pos_iff.2 hne
    · exact h2 p hp
  · intro j hj
    rw [partSum_cons, h3 j hj, ite_self, Rat.zero_add]

instance (g : List Rat) (total : Rat) (numbers : List Rat) (mult : Nat) :
    Decidable (IsGenSet g total numbers mult) := by unfold IsGenSet; infer_instance

theorem allInt_iff_den (g : List Rat) : AllInt g ↔ ∀ x ∈ g, x.den = 1 := by
  refine forall_congr' fun x => imp_congr_right fun _ => ⟨?_, isInt_of_den_one x⟩
  rintro ⟨z, rfl⟩
  rfl

instance (g : List Rat) : Decidable (AllInt g) := decidable_of_iff _ (allInt_iff_den g).symm

theorem generates_two (a b x : Rat) (h : Generates [a, b] 1 x) : x = 0 ∨ x = a ∨ x = b ∨ x = a + b := by
  obtain ⟨c, h1, h2, h3⟩ := h
  match c, h1, h2, h3 with
  | [c0, c1], _, h2, h3 =>
    have h0 := Nat.le_one_iff_eq_zero_or_eq_one.1 (h2 c0 (by simp))
    have h1 := Nat.le_one_iff_eq_zero_or_eq_one.1 (h2 c1 (by simp))
    rw [dot_cons, dot_cons, dot_nil_left, Rat.add_zero] at h3
    subst h3
    rcases h0 with rfl | rfl <;> rcases h1 with rfl | rfl <;> simp [Rat.zero_add, Rat.add_zero]

/-- more than two distinct values strictly between `0` and the sum cannot all be sub-sums of a multiset with at most
two elements: each would have to be one of the two elements -/
theorem no_small_genset_of_three {total : Rat} {numbers : List Rat} (l : List Rat) (hnd : l.Nodup)
    (h3 : 2 < l.length) (hl : ∀ w ∈ l, w ∈ numbers ∧ w ≠ 0 ∧ w ≠ total) (g : List Rat) (hlen : g.length ≤ 2) :
    ¬ IsGenSet g total numbers 1 := by
  have two : ∀ a b, ¬ IsGenSet [a, b] total numbers 1 := by
    rintro a b ⟨hs, _, hgen⟩
    have hs : a + b = total := by simpa [Rat.add_zero] using hs
    refine Nat.not_le_of_lt h3 (pigeon_boxes Eq [a, b] l hnd (fun w hw => ?_)
      fun _ _ _ _ _ _ hx hy => hx.trans hy.symm)
    obtain ⟨hw, h0, ht⟩ := hl w hw
    rcases generates_two a b w (hgen w hw) with h | h | h | h
    · exact absurd h h0
    · exact ⟨a, List.mem_cons_self .., h⟩
    · exact ⟨b, List.mem_cons_of_mem _ (List.mem_cons_self ..), h⟩
    · exact absurd (h.trans hs) ht
  intro h
  match g, hlen with
  | [], _ => exact two 0 0 (isGenSet_cons_zero _ _ _ _ (isGenSet_cons_zero _ _ _ _ h))
  | [a], _ => exact two 0 a (isGenSet_cons_zero _ _ _ _ h)
  | [a, b], _ => exact two a b h

end FP.Spec
