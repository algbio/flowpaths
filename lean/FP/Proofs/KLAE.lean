import FP.Proofs.ErrAsg
import FP.Proofs.KFD
import FP.Proofs.Optimum
import FP.Proofs.ExplainedFlow
/-!
k-Least-Absolute-Errors on DAGs. Soundness and completeness are read off `klae_sat_iff`, the LP part by part
in semantic terms; the bound `w_max` loses no optimum because clamping the weights to the largest flow value
increases no error; `get_objective_value` (`reportedObjective`) is the solver's objective at every assignment.
-/
namespace FP
open FP.Spec FP.Spec.LAE

theorem klaeObj_eval (inp : ErrInput) (a : Asg) :
    evalTerms a (klaeObj inp) = (inp.basicEdges.map fun e => inp.scale e * a (eeVar e)).sum :=
  evalTerms_map a _ _ _

theorem klaeObj_of_errs (inp : ErrInput) (a : Asg) (P : Nat → List Node) (w : Nat → Rat)
    (h : ∀ e ∈ inp.basicEdges, a (eeVar e) = absErr inp P w e) :
    evalTerms a (klaeObj inp) = totalErr inp P w := by
  rw [klaeObj_eval]
  exact congrArg List.sum (List.map_congr_left fun e he => by rw [h e he])

theorem klae_sat_iff (inp : ErrInput) (a : Asg) : Sat a (klaeLP inp) ↔
    Sat a (encodePaths inp.st inp.fi.cfg) ∧
    (∀ i, i < inp.k → ∀ e ∈ inp.st.g.edges, 0 ≤ a (piVar e i) ∧ a (piVar e i) ≤ inp.wmax none ∧
      (inp.fi.weightInt = true → IsInt (a (piVar e i)))) ∧
    (∀ i, i < inp.k → 0 ≤ a (weightsVar i) ∧ a (weightsVar i) ≤ inp.wmax none ∧
      (inp.fi.weightInt = true → IsInt (a (weightsVar i)))) ∧
    (∀ e ∈ inp.basicEdges, 0 ≤ a (eeVar e) ∧ a (eeVar e) ≤ inp.wmax none ∧
      (inp.fi.weightInt = true → IsInt (a (eeVar e)))) ∧
    (∀ e ∈ inp.basicEdges, ∀ i, i < inp.k →
      ∀ r ∈ binProd (edgeVar e i) (weightsVar i) (piVar e i) 0 (inp.wmax none), r.holds a) ∧
    (∀ e ∈ inp.basicEdges,
      (inp.fi.f e - evalTerms a (ones (List.range inp.k) (piVar e))).abs ≤ a (eeVar e)) := by
  unfold klaeLP
  rw [sat_append_iff]
  refine and_congr_right' ?_
  simp only [Sat, eeCols, List.forall_mem_append, List.forall_mem_flatMap, List.forall_mem_map,
    List.mem_range, col_holds_iff, coupleBin_holds, List.forall_mem_cons, List.not_mem_nil, false_imp_iff,
    implies_true, and_true, laeRows_iff, and_assoc]
  exact Iff.rfl

theorem klae_sound (inp : ErrInput) (a : Asg) (h : BaseWF inp.fi.base) (hac : Acyclic inp.fi.base)
    (hsat : Sat a (klaeLP inp)) :
    ∃ ps : List (List Node),
      decodePaths inp.st (fun e i => a (edgeVar e i)) inp.k = some ps ∧ ps.length = inp.k ∧
      Solution inp (fun i => ps.getD i []) (fun i => a (weightsVar i)) ∧
      (∀ i, i < inp.k → a (weightsVar i) ≤ inp.wmax none) ∧
      (∀ i, i < inp.k → ∀ e ∈ inp.st.g.edges, a (edgeVar e i) = trav inp.st (ps.getD i []) e) ∧
      (∀ e ∈ inp.basicEdges, ∀ i, i < inp.k → a (piVar e i) = a (edgeVar e i) * a (weightsVar i)) ∧
      (∀ e ∈ inp.basicEdges,
        absErr inp (fun i => ps.getD i []) (fun i => a (weightsVar i)) e ≤ a (eeVar e) ∧
        a (eeVar e) ≤ inp.wmax none ∧ (inp.fi.weightInt = true → IsInt (a (eeVar e)))) := by
  have hwf : STWF inp.st := h.stwf hac
  obtain ⟨henc, _, hwc, heec, hbin, herr⟩ := (klae_sat_iff inp a).1 hsat
  obtain ⟨ps, hps, hlen, hroutes, htrav⟩ := decode_routes a hwf henc
  have hc := fun e he => coupled_sound _ inp.k _ weightsVar (piVar e) hwf hroutes
    (mem_basicEdges he) htrav (hbin e he)
  refine ⟨ps, hps, hlen, ⟨hroutes, fun i hi => (hwc i hi).1, fun hint i hi => (hwc i hi).2.2 hint⟩,
    fun i hi => (hwc i hi).2.1, htrav, fun e he => (hc e he).1, fun e he => ⟨?_, (heec e he).2⟩⟩
  unfold absErr
  rw [← (hc e he).2]
  exact herr e he

theorem absErr_isInt (inp : ErrInput) (P : Nat → List Node) (w : Nat → Rat)
    (hw : ∀ i, i < inp.k → IsInt (w i)) (e : Edge) (hf : IsInt (inp.fi.f e)) : IsInt (absErr inp P w e) :=
  abs_isInt (sub_isInt hf
    (sum_map_isInt fun i hi => mul_isInt (hw i (List.mem_range.1 hi)) (natCast_isInt _)))

theorem klae_complete (inp : ErrInput) (P : Nat → List Node) (w : Nat → Rat)
    (h : BaseWF inp.fi.base) (hac : Acyclic inp.fi.base)
    (hcons : inp.fi.cfg.constraints = []) (hlen : inp.fi.cfg.lengths = none)
    (hfint : inp.fi.weightInt = true → ∀ e ∈ inp.basicEdges, IsInt (inp.fi.f e))
    (hb : Bounded inp P w) :
    ∃ a : Asg, Sat a (klaeLP inp) ∧
      (∀ i, i < inp.k → ∀ e ∈ inp.st.g.edges, a (edgeVar e i) = trav inp.st (P i) e) ∧
      (∀ i, i < inp.k → a (weightsVar i) = w i) ∧
      (∀ e ∈ inp.basicEdges, a (eeVar e) = absErr inp P w e) ∧
      evalTerms a (klaeLP inp).obj = totalErr inp P w := by
  have hwf : STWF inp.st := h.stwf hac
  let σ : ErrSol := { P := P, w := w, ee := absErr inp P w }
  obtain ⟨hwc, hpc, hbin, hsum⟩ := coupled_complete (solAsg inp.st σ) _ inp.k P weightsVar piVar w
    (inp.wmax none) inp.fi.weightInt hwf hb.routes (solAsg_edge inp.st σ) (solAsg_w inp.st σ)
    (solAsg_pi inp.st σ) fun i hi => ⟨hb.nonneg i hi, hb.wle i hi, fun hint => hb.integral hint i hi⟩
  have hee : ∀ e ∈ inp.basicEdges, solAsg inp.st σ (eeVar e) = absErr inp P w e :=
    fun e _ => solAsg_ee inp.st σ e
  refine ⟨solAsg inp.st σ, (klae_sat_iff inp _).2
    ⟨solAsg_sat_paths hwf hb.routes hcons hlen, hpc, hwc, fun e he => ?_,
      fun e he => hbin e (mem_basicEdges he), fun e he => ?_⟩,
    fun i _ e _ => solAsg_edge inp.st σ e i, fun i _ => solAsg_w inp.st σ i, hee,
    klaeObj_of_errs inp _ P w hee⟩
  · rw [hee e he]
    exact ⟨Rat.abs_nonneg, hb.errle e he,
      fun hint => absErr_isInt inp P w (hb.integral hint) e (hfint hint e he)⟩
  · rw [hsum, hee e he]
    exact Rat.le_refl

theorem klaeObj_ge (inp : ErrInput) (a : Asg) (P : Nat → List Node) (w : Nat → Rat)
    (hscale : ∀ e ∈ inp.basicEdges, 0 ≤ inp.scale e)
    (herr : ∀ e ∈ inp.basicEdges, absErr inp P w e ≤ a (eeVar e)) :
    totalErr inp P w ≤ evalTerms a (klaeObj inp) := by
  rw [klaeObj_eval]
  exact sum_map_le fun e he => Rat.mul_le_mul_of_nonneg_left (herr e he) (hscale e he)

theorem klaeObj_tight (inp : ErrInput) (a : Asg) (P : Nat → List Node) (w : Nat → Rat)
    (hscale : ∀ e ∈ inp.basicEdges, 0 ≤ inp.scale e)
    (herr : ∀ e ∈ inp.basicEdges, absErr inp P w e ≤ a (eeVar e))
    (hobj : evalTerms a (klaeObj inp) ≤ totalErr inp P w) :
    ∀ e ∈ inp.basicEdges, 0 < inp.scale e → a (eeVar e) = absErr inp P w e := by
  rw [klaeObj_eval] at hobj
  exact tight_of_sum_le _ _ _ _ hscale herr hobj

theorem klae_opt_transfer (inp : ErrInput) (a : Asg) (h : BaseWF inp.fi.base) (hac : Acyclic inp.fi.base)
    (hcons : inp.fi.cfg.constraints = []) (hlen : inp.fi.cfg.lengths = none)
    (hfint : inp.fi.weightInt = true → ∀ e ∈ inp.basicEdges, IsInt (inp.fi.f e))
    (hscale : ∀ e ∈ inp.basicEdges, 0 ≤ inp.scale e)
    (hsat : Sat a (klaeLP inp))
    (hopt : ∀ a', Sat a' (klaeLP inp) → evalTerms a (klaeLP inp).obj ≤ evalTerms a' (klaeLP inp).obj) :
    ∃ ps : List (List Node),
      decodePaths inp.st (fun e i => a (edgeVar e i)) inp.k = some ps ∧
      Bounded inp (fun i => ps.getD i []) (fun i => a (weightsVar i)) ∧
      (∀ P' w', Bounded inp P' w' →
        totalErr inp (fun i => ps.getD i []) (fun i => a (weightsVar i)) ≤ totalErr inp P' w') ∧
      (∀ e ∈ inp.basicEdges, 0 < inp.scale e →
        a (eeVar e) = absErr inp (fun i => ps.getD i []) (fun i => a (weightsVar i)) e) ∧
      evalTerms a (klaeLP inp).obj = totalErr inp (fun i => ps.getD i []) (fun i => a (weightsVar i)) := by
  obtain ⟨ps, hps, _, hsol, hwle, _, _, herr⟩ := klae_sound inp a h hac hsat
  have hbd : Bounded inp (fun i => ps.getD i []) (fun i => a (weightsVar i)) :=
    { toSolution := hsol, wle := hwle,
      errle := fun e he => Rat.le_trans (herr e he).1 (herr e he).2.1 }
  -- every bounded solution, the decoded one included, is represented with its total error as objective
  obtain ⟨heq, hmin⟩ := opt_transfer (fun a => Sat a (klaeLP inp)) (fun a => evalTerms a (klaeLP inp).obj)
    (fun x : (Nat → List Node) × (Nat → Rat) => Bounded inp x.1 x.2) (fun x => totalErr inp x.1 x.2)
    a (_, _) hopt
    (fun x hx => by
      obtain ⟨a', hs, _, _, _, ho⟩ := klae_complete inp x.1 x.2 h hac hcons hlen hfint hx
      exact ⟨a', hs, ho⟩)
    hbd (klaeObj_ge inp a _ _ hscale fun e he => (herr e he).1)
  exact ⟨ps, hps, hbd, fun P' w' hb' => hmin (P', w') hb',
    klaeObj_tight inp a _ _ hscale (fun e he => (herr e he).1) (heq ▸ Rat.le_refl), heq⟩

def clampW (inp : ErrInput) (w : Nat → Rat) : Nat → Rat := fun i => min (w i) inp.fmax

theorem clampW_cases (inp : ErrInput) (w : Nat → Rat) (i : Nat) :
    (clampW inp w i = w i ∧ w i ≤ inp.fmax) ∨ (clampW inp w i = inp.fmax ∧ inp.fmax < w i) := by
  unfold clampW; rw [Rat.min_def]; split <;> grind

theorem clampW_bounds (inp : ErrInput) (w : Nat → Rat) (i : Nat) (h0 : 0 ≤ w i) (hM0 : 0 ≤ inp.fmax) :
    0 ≤ clampW inp w i ∧ clampW inp w i ≤ w i ∧ clampW inp w i ≤ inp.fmax :=
  ⟨Std.le_min_iff.2 ⟨h0, hM0⟩, Std.min_le_left, Std.min_le_right⟩

/-- what clamping non-negative weights to `fmax` does to the explained value of an edge that every route
uses at most once: it shrinks, stays within `[0, k·fmax]`, and if it changes at all it stays at least `fmax` -/
theorem explained_clamp (inp : ErrInput) (P : Nat → List Node) (w : Nat → Rat) (e : Edge)
    (hw0 : ∀ i, i < inp.k → 0 ≤ w i) (hM0 : 0 ≤ inp.fmax)
    (h01 : ∀ i, i < inp.k → trav inp.st (P i) e = 0 ∨ trav inp.st (P i) e = 1) :
    explained inp.st inp.k P (clampW inp w) e ≤ explained inp.st inp.k P w e ∧
    0 ≤ explained inp.st inp.k P (clampW inp w) e ∧
    explained inp.st inp.k P (clampW inp w) e ≤ (inp.k : Rat) * inp.fmax ∧
    (explained inp.st inp.k P (clampW inp w) e = explained inp.st inp.k P w e ∨
      inp.fmax ≤ explained inp.st inp.k P (clampW inp w) e) := by
  have hc := fun i hi => clampW_bounds inp w i (hw0 i hi) hM0
  refine ⟨explained_mono _ _ _ _ _ e fun i hi => (hc i hi).2.1,
    explained_nonneg _ _ _ _ e fun i hi => (hc i hi).1, ?_, ?_⟩
  · have := Rat.le_trans (explained_mono _ _ P _ (fun _ => inp.fmax) e fun i hi => (hc i hi).2.2)
      (explained_le_sum _ _ P _ e h01 fun _ _ => hM0)
    rwa [sum_map_const, List.length_range] at this
  · by_cases hex : ∃ i, i < inp.k ∧ trav inp.st (P i) e = 1 ∧ inp.fmax < w i
    · -- a clamped weight on a route through `e` contributes `fmax` on its own
      obtain ⟨i, hi, ht, hlt⟩ := hex
      have hle := le_explained _ _ P (clampW inp w) e (fun i hi => (hc i hi).1) i hi ht
      rcases clampW_cases inp w i with ⟨_, h2⟩ | ⟨h1, _⟩
      · exact absurd hlt (Rat.not_lt.2 h2)
      · exact Or.inr (h1 ▸ hle)
    · -- no weight on a route through `e` is clamped
      refine Or.inl (explained_congr _ _ _ _ _ _ e fun i hi => ?_)
      rcases h01 i hi with h0 | h1
      · rw [h0, Rat.mul_zero, Rat.mul_zero]
      · rcases clampW_cases inp w i with ⟨hc1, _⟩ | ⟨_, hlt⟩
        · rw [hc1]
        · exact absurd ⟨i, hi, h1, hlt⟩ hex

/-- moving the explained value from `S` down to `S'`, not below a bound `M ≥ f`, brings it no further from `f` -/
theorem abs_sub_le_of_clamp (f M S S' : Rat) (hfM : f ≤ M) (hle : S' ≤ S) (h : S' = S ∨ M ≤ S') :
    (f - S').abs ≤ (f - S).abs := by
  rcases h with rfl | h
  · exact Rat.le_refl
  · have := neg_le_abs (f - S)
    apply abs_le <;> grind

/-- `f(e) ≤ fmax` in `hf` is automatic for `weight_type = float` and for integral flow values: `fmax` is
the largest flow value cast to the weight type -/
theorem wmax_adequate (inp : ErrInput) (P : Nat → List Node) (w : Nat → Rat)
    (h : BaseWF inp.fi.base) (hac : Acyclic inp.fi.base) (hk : 1 ≤ inp.k)
    (hf : ∀ e ∈ inp.basicEdges, 0 ≤ inp.fi.f e ∧ inp.fi.f e ≤ inp.fmax)
    (hsol : Solution inp P w) :
    Bounded inp P (clampW inp w) ∧
      ∀ e ∈ inp.basicEdges, absErr inp P (clampW inp w) e ≤ absErr inp P w e := by
  have hM0 := fmax_nonneg inp hf
  have hMw := fmax_le_wmax inp hk hM0
  have hS := fun e => explained_clamp inp P w e hsol.nonneg hM0
    fun i hi => trav01 (h.stwf hac) (hsol.routes i hi) e
  have hc := fun i hi => clampW_bounds inp w i (hsol.nonneg i hi) hM0
  refine ⟨{ routes := hsol.routes, nonneg := fun i hi => (hc i hi).1, integral := fun hint i hi =>
              min_isInt (hsol.integral hint i hi) (fmax_isInt inp hint),
            wle := fun i hi => Rat.le_trans (hc i hi).2.2 hMw, errle := fun e he => ?_ },
    fun e he => abs_sub_le_of_clamp _ _ _ _ (hf e he).2 (hS e).1 (hS e).2.2.2⟩
  exact abs_sub_le_of_bounds _ _ _ (hf e he).1 (Rat.le_trans (hf e he).2 hMw) (hS e).2.1
    (Rat.le_trans (hS e).2.2.1 (kfmax_le_wmax inp))

theorem objective_consistent (inp : ErrInput) (a : Asg) :
    reportedObjective inp a = evalTerms a (klaeLP inp).obj := by
  refine Eq.trans ?_ (klaeObj_eval inp a).symm
  unfold reportedObjective
  exact congrArg List.sum (List.map_congr_left fun e _ => by grind)

/-- the objective clause of `is_valid_solution(tolerance)`:
`abs(get_objective_value() - solver.get_objective_value()) > tolerance * original_k` → reject -/
def objectiveCheckPasses (inp : ErrInput) (a : Asg) (tol : Rat) (originalK : Nat) : Prop :=
  ¬ ((reportedObjective inp a - evalTerms a (klaeLP inp).obj).abs > tol * (originalK : Rat))

theorem objective_check_passes (inp : ErrInput) (a : Asg) (tol : Rat) (htol : 0 ≤ tol) (originalK : Nat) :
    objectiveCheckPasses inp a tol originalK := by
  unfold objectiveCheckPasses
  rw [objective_consistent, Rat.sub_self, Rat.abs_zero]
  exact Rat.not_lt.2 (Rat.mul_nonneg htol Rat.natCast_nonneg)

/-- the sum of the error columns without `error_scaling` is the solver's objective only when every
non-ignored edge has scale 1 or a zero error column (scales ≤ 1) -/
theorem unscaledErrorSum_eq_objective_iff (inp : ErrInput) (a : Asg) (hsat : Sat a (klaeLP inp))
    (hscale : ∀ e ∈ inp.basicEdges, inp.scale e ≤ 1) :
    unscaledErrorSum inp a = evalTerms a (klaeLP inp).obj ↔
      ∀ e ∈ inp.basicEdges, inp.scale e = 1 ∨ a (eeVar e) = 0 := by
  -- the difference of the two sums is a sum of non-negative terms `(1 − scale(e))·ee(e)`
  have hdiff : unscaledErrorSum inp a - evalTerms a (klaeLP inp).obj
      = (inp.basicEdges.map fun e => (1 - inp.scale e) * a (eeVar e)).sum := by
    rw [show evalTerms a (klaeLP inp).obj = _ from klaeObj_eval inp a]; unfold unscaledErrorSum
    rw [← sum_map_sub]
    exact congrArg List.sum (List.map_congr_left fun e _ => by grind)
  have hterm : ∀ e, (1 - inp.scale e) * a (eeVar e) = 0 ↔ inp.scale e = 1 ∨ a (eeVar e) = 0 :=
    fun e => by rw [Rat.mul_eq_zero]; exact or_congr ⟨fun h => by grind, fun h => by grind⟩ Iff.rfl
  have hnn : ∀ e ∈ inp.basicEdges, 0 ≤ (1 - inp.scale e) * a (eeVar e) := by
    intro e he
    have h0 := ((klae_sat_iff inp a).1 hsat).2.2.2.1 e he
    have h1 : 0 ≤ 1 - inp.scale e := by have := hscale e he; grind
    exact Rat.mul_nonneg h1 h0.1
  have hsub : unscaledErrorSum inp a = evalTerms a (klaeLP inp).obj ↔
      unscaledErrorSum inp a - evalTerms a (klaeLP inp).obj = 0 := by grind
  rw [hsub, hdiff]
  constructor
  · exact fun h0 e he => (hterm e).1 (all_zero_of_sum_zero hnn h0 e he)
  · exact fun hall => sum_map_zero fun e he => (hterm e).2 (hall e he)

end FP
