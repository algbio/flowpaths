import FP.Model.Width
import FP.Proofs.Cover
import FP.Proofs.FlowPeel
/-!
# FP.Proofs.FlowCover — from an integral flow to a path cover

On a well-formed s-t DAG a natural-number valued edge function that is conserved at the inner
nodes and has source out-flow `c` is the sum of the indicators of `c` source-to-sink paths
(`flow_decompose`); so a feasible flow of the min-flow instance of cost `c` yields a cover by `c`
paths of the edges with positive demand (`flow_to_cover`). The demands `stDAG.get_width` builds are
the indicator of the active edges (`dag_width_demands`). -/
namespace FP
open FP.Spec

-- trap: `WalkResidual` has `FP.outN` with the same body; once it is imported, `outN` below means that one and this fails
example : @outN = @FP.Spec.outN := by with_reducible rfl

theorem natVal_nonneg {y : Edge → Rat} {e : Edge} (h : ∃ n : Nat, y e = n) : 0 ≤ y e := by
  obtain ⟨n, hn⟩ := h
  rw [hn]; exact Rat.natCast_nonneg

theorem natVal_one_le {y : Edge → Rat} {e : Edge} (h : ∃ n : Nat, y e = n) (h0 : y e ≠ 0) :
    ∃ m : Nat, y e = (m : Rat) + 1 := by
  obtain ⟨n, hn⟩ := h
  cases n with
  | zero => exact absurd hn h0
  | succ m => exact ⟨m, by rw [hn, Rat.natCast_add]; rfl⟩

theorem flow_decompose {s : STGraph} (hwf : STWF s) : ∀ (c : Nat) (y : Edge → Rat),
    (∀ e ∈ s.g.edges, ∃ n : Nat, y e = n) →
    (∀ v ∈ s.g.nodes, v ≠ s.source → v ≠ s.sink → inflow s.g y v = outflow s.g y v) →
    outflow s.g y s.source = (c : Rat) →
    ∃ routes : List (List Node), routes.length = c ∧ (∀ r ∈ routes, IsSTWalk s r) ∧
      ∀ e ∈ s.g.edges, y e = (routes.map (fun r => cntR (walkEdges r) e)).sum := by
  intro c
  induction c with
  | zero =>
    intro y hy hcons hsrc
    refine ⟨[], rfl, fun r hr' => by simp at hr', fun e he => ?_⟩
    exact hwf.flow_zero y (fun e he => natVal_nonneg (hy e he)) hcons hsrc e he
  | succ c ih =>
    intro y hy hcons hsrc
    obtain ⟨p, hch⟩ := exists_pos_stwalk hwf (fun e he => natVal_nonneg (hy e he)) hcons
      (by rw [hsrc]; exact_mod_cast Nat.succ_pos c)
    have hw : IsWalkIn s.g (s.source :: p ++ [s.sink]) := fun e he => (hch e he).1
    have hnd := stwalk_nodup hwf hw
    have hPnd := walkEdges_nodup hnd
    -- take one unit off along the walk: again natural-valued and conserved, one unit less at the source
    have hy' : ∀ e ∈ s.g.edges, ∃ n : Nat, lowerAlong y 1 (walkEdges (s.source :: p ++ [s.sink])) e = n := by
      intro e he
      by_cases hm : e ∈ walkEdges (s.source :: p ++ [s.sink])
      · obtain ⟨m, hm'⟩ := natVal_one_le (hy e he) (Rat.ne_of_gt (hch e hm).2)
        exact ⟨m, by rw [lowerAlong_mem y 1 hPnd e hm, hm', Rat.add_sub_cancel]⟩
      · rw [lowerAlong_not_mem y 1 _ e hm]; exact hy e he
    have hsrc' : outflow s.g (lowerAlong y 1 (walkEdges (s.source :: p ++ [s.sink]))) s.source = (c : Rat) := by
      rw [peel_src 1 hwf.edgesNodup hw fun hm => (List.nodup_cons.1 hnd).1 (List.mem_append_left _ hm),
        hsrc, Rat.natCast_add]
      exact Rat.add_sub_cancel
    obtain ⟨routes, hlen, hrs, hdec⟩ := ih _ hy'
      (fun v hv h1 h2 => peel_cons 1 hwf.edgesNodup hw h1 h2 (hcons v hv h1 h2)) hsrc'
    refine ⟨(s.source :: p ++ [s.sink]) :: routes, by rw [List.length_cons, hlen], ?_, fun e he => ?_⟩
    · intro r hr'
      rcases List.mem_cons.1 hr' with rfl | hr'
      · exact isSTWalk_of_isWalkIn hw
      · exact hrs r hr'
    · rw [List.map_cons, List.sum_cons, ← hdec e he, ← Rat.one_mul (cntR _ e)]
      exact (add_lowerAlong y 1 _ e).symm

theorem flow_to_routes (s : STGraph) (hwf : STWF s) (f : Edge → Nat)
    (hcons : ∀ v ∈ s.g.nodes, v ≠ s.source → v ≠ s.sink → inN s.g f v = outN s.g f v) :
    ∃ routes : List (List Node), routes.length = outN s.g f s.source ∧
      (∀ r ∈ routes, IsSTWalk s r) ∧
      ∀ e ∈ s.g.edges, (f e : Rat) = (routes.map (fun r => cntR (walkEdges r) e)).sum := by
  have hin : ∀ v, inflow s.g (fun e => (f e : Rat)) v = ((inN s.g f v : Nat) : Rat) :=
    fun v => (natCast_sum _ f).symm
  have hout : ∀ v, outflow s.g (fun e => (f e : Rat)) v = ((outN s.g f v : Nat) : Rat) :=
    fun v => (natCast_sum _ f).symm
  exact flow_decompose hwf _ (fun e => (f e : Rat)) (fun e _ => ⟨f e, rfl⟩)
    (fun v hv h1 h2 => by rw [hin, hout, hcons v hv h1 h2]) (hout _)

open Classical in
/-- on a DAG a route has no repeated edge, so it counts 1 towards `e` exactly if it passes `e`: at least `demand e` of
the routes of `flow_to_routes` pass `e` -/
theorem flow_routes_through {s : STGraph} (hwf : STWF s) {demand f : Edge → Nat}
    (hf : CoveringFlow s demand f) :
    ∃ routes : List (List Node), routes.length = outN s.g f s.source ∧ (∀ r ∈ routes, IsSTWalk s r) ∧
      ∀ e ∈ s.g.edges, demand e ≤ (routes.filter fun r => decide (e ∈ walkEdges r)).length := by
  obtain ⟨routes, hlen, hrs, hdec⟩ := flow_to_routes s hwf f hf.cons
  refine ⟨routes, hlen, hrs, fun e he => ?_⟩
  have h1 := hdec e he
  rw [List.map_congr_left (g := fun r => if decide (e ∈ walkEdges r) then (1 : Rat) else 0) fun r hr => by
      rw [cntR_of_nodup _ (walkEdges_nodup (stwalk_nodup hwf (hrs r hr).walk))]
      simp only [decide_eq_true_eq],
    sum_ind_eq_countP, List.countP_eq_length_filter] at h1
  exact Nat.le_trans (hf.dem e he) (Nat.le_of_eq (by exact_mod_cast h1))

/-- a feasible integral flow of the min-flow instance with source out-flow `c` gives a cover
of the edges with positive demand by `c` source-to-sink paths -/
theorem flow_to_cover (s : STGraph) (hwf : STWF s) (demand f : Edge → Nat)
    (hf : CoveringFlow s demand f) (c : Nat) (hc : outN s.g f s.source = c) :
    HasCover s (s.g.edges.filter fun e => decide (1 ≤ demand e)) [] c := by
  obtain ⟨routes, hlen, hrs, hthru⟩ := flow_routes_through hwf hf
  refine ⟨routes, hlen.trans hc, hrs, fun e he => ?_, fun c hc' => nomatch hc'⟩
  obtain ⟨he, hd⟩ := List.mem_filter.1 he
  obtain ⟨r, hr⟩ := List.exists_mem_of_length_pos (Nat.le_trans (of_decide_eq_true hd) (hthru e he))
  obtain ⟨hr, hm⟩ := List.mem_filter.1 hr
  exact ⟨r, hr, of_decide_eq_true hm⟩

/-- a feasible integral flow of cost `c` together with an antichain of `c`
edges of positive demand certifies that `c` is the minimum size of a path cover — the run-time
certificate `compute_max_edge_antichain(get_antichain=True)` produces (flow from the network simplex,
antichain from the residual search, `assert minFlowCost == Σ weights`). -/
theorem width_certificate (s : STGraph) (hwf : STWF s) (demand f : Edge → Nat)
    (hf : CoveringFlow s demand f) (A : List Edge) (hA : Antichain s A)
    (hAact : ∀ e ∈ A, e ∈ s.g.edges.filter fun e => decide (1 ≤ demand e))
    (hcost : outN s.g f s.source = A.length) :
    IsMinCover s (s.g.edges.filter fun e => decide (1 ≤ demand e)) [] A.length :=
  ⟨flow_to_cover s hwf demand f hf _ hcost, no_cover_below_antichain hA hAact⟩

theorem dag_width_demands (inp : FlowInput) (e : Edge) (he : e ∈ inp.st.g.edges) :
    lookupD (dagWidthDemands inp.st (inp.st.sourceSinkEdges ++ inp.ignore)) e 0
      = if e ∈ inp.activeEdges then 1 else 0 := by
  have hwf : dagWeightFunction inp.st.g (inp.st.sourceSinkEdges ++ inp.ignore)
      = inp.activeEdges.map fun e => (e, (1 : Int)) :=
    congrArg (List.map _) (List.filter_congr fun x _ => by
      rw [FlowInput.ignored, List.contains_append])
  show lookupD (List.map (fun e => (e, lookupD _ e 0)) inp.st.g.edges) e 0 = _
  rw [lookupD_map_self _ he, hwf]
  by_cases ha : e ∈ inp.activeEdges
  · rw [if_pos ha, lookupD_map_self (fun _ => (1 : Int)) ha]
  · rw [if_neg ha, lookupD_map_self_of_not_mem (fun _ => (1 : Int)) ha]

end FP
