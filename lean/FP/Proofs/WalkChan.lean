import FP.Model.WalkDecode
import FP.Proofs.WrapperIntProd
/-!
A *product channel* of a walk model (`WalkChan`): continuous columns `cont i`, product columns `prod e i`, and per non-ignored edge and layer
the block `prod e i = edge e i · cont i`. `kfdcLP` has one (weights / `pi`), `klaecLP` one, `kmpecLP` two (weights / `pi`, slack / `gamma`).
What a satisfied channel says (`value`, `sum`, `mult_lt`), when explicit values satisfy it (`of_values`) and that it reads its own
columns only, also after a renaming of the layers (`transfer`), is proved here once.
-/
namespace FP
open FP.Spec

theorem sat_walkProducts_iff (a : Asg) (edges : List Edge) (k : Nat) (cont : Nat → Var)
    (prod : Edge → Nat → Var) (ub : Rat) (name : Edge → Nat → String) :
    Sat a (walkProducts edges k cont prod ub name) ↔
      ∀ e ∈ edges, ∀ i, i < k →
        Sat a (intProdQ (edgeVar e i) (cont i) (prod e i) 0 ub (name e i)) := by
  unfold walkProducts
  rw [sat_flatMap_lps]
  simp only [List.mem_flatMap, List.mem_map, List.mem_range, forall_exists_index, and_imp]
  exact ⟨fun h e he i hi => h _ e he i hi rfl, fun h p e he i hi hp => hp ▸ h e he i hi⟩

/-- a column within `[0, ub]` that carries the product `w · m` on the non-ignored edges and `0` elsewhere -/
theorem prodVal_box (a : Asg) (v : Var) (act : Prop) [Decidable act] (w : Rat) (m : Nat) (ub : Rat) (b : Bool)
    (hv : a v = if act then w * (m : Rat) else 0) (hw0 : 0 ≤ w) (hub : 0 ≤ ub)
    (hle : act → w * (m : Rat) ≤ ub) (hint : b = true → ∃ z : Int, w = z) :
    0 ≤ a v ∧ a v ≤ ub ∧ (b = true → ∃ z : Int, a v = z) := by
  rw [hv]
  split
  · rename_i h
    refine ⟨Rat.mul_nonneg hw0 Rat.natCast_nonneg, hle h, fun hb => ?_⟩
    obtain ⟨z, hz⟩ := hint hb
    exact ⟨z * (m : Int), by rw [hz, Rat.intCast_mul, Rat.intCast_natCast]⟩
  · exact ⟨Rat.le_refl, hub, fun _ => ⟨0, rfl⟩⟩

/-- the columns `cont`, `prod` are boxed by `ub` (integral if `ci`, `pi` say so) and every non-ignored edge has its block in every layer -/
structure WalkChan (a : Asg) (all act : List Edge) (k : Nat) (cont : Nat → Var) (prod : Edge → Nat → Var)
    (ub : Rat) (name : Edge → Nat → String) (ci pi : Bool) : Prop where
  contBox : ∀ i, i < k → 0 ≤ a (cont i) ∧ a (cont i) ≤ ub ∧ (ci = true → ∃ z : Int, a (cont i) = z)
  prodBox : ∀ i, i < k → ∀ e ∈ all, 0 ≤ a (prod e i) ∧ a (prod e i) ≤ ub ∧ (pi = true → ∃ z : Int, a (prod e i) = z)
  block : ∀ e ∈ act, ∀ i, i < k → Sat a (intProdQ (edgeVar e i) (cont i) (prod e i) 0 ub (name e i))

theorem prodFrag_transfer (a a' : Asg) (n c p n' c' p' : Var) (lb ub : Rat) (name name' : String) (nb : Nat)
    (hn : a' n = a n') (hc : a' c = a c') (hp : a' p = a p')
    (hbit : ∀ j, a' (bitVar name j) = a (bitVar name' j)) (hcomp : ∀ j, a' (compVar name j) = a (compVar name' j))
    (hb : lb ≤ a c' ∧ a c' ≤ ub)
    (h : Sat a (prodFrag n' c' p' lb ub name' nb)) : Sat a' (prodFrag n c p lb ub name nb) := by
  rw [sat_prodFrag_vals _ _ _ _ _ hb] at h
  rw [sat_prodFrag_vals a' _ _ _ _ (hc ▸ hb)]
  simp only [hn, hc, hp, hbit, hcomp]
  exact h

namespace WalkChan
variable {a : Asg} {all act : List Edge} {k : Nat} {cont : Nat → Var} {prod : Edge → Nat → Var}
  {ub : Rat} {name : Edge → Nat → String} {ci pi : Bool}

theorem value (h : WalkChan a all act k cont prod ub name ci pi) {e : Edge} (he : e ∈ act) {i : Nat} (hi : i < k)
    (hx : a (edgeVar e i) = (multOf a i e : Rat)) : a (prod e i) = a (cont i) * (multOf a i e : Rat) := by
  rw [intProdQ_prod (h.block e he i hi), hx, Rat.mul_comm]

theorem sum (h : WalkChan a all act k cont prod ub name ci pi) {s : STGraph} {e : Edge} (he : e ∈ act)
    (hl : ∀ i, i < k → traversals (s.source :: decodeWalkLayer s a i ++ [s.sink]) e = multOf a i e ∧
      a (edgeVar e i) = (multOf a i e : Rat)) :
    ((List.range k).map fun i => a (prod e i)).sum
      = walkExplained s.source s.sink k (decodeWalkLayer s a) (fun i => a (cont i)) e :=
  congrArg List.sum <| List.map_congr_left fun i hi => by
    rw [h.value he (List.mem_range.1 hi) (hl i (List.mem_range.1 hi)).2, ← (hl i (List.mem_range.1 hi)).1]

theorem mult_lt (h : WalkChan a all act k cont prod ub name ci pi) {e : Edge} (he : e ∈ act) {i : Nat} (hi : i < k)
    (hx : a (edgeVar e i) = (multOf a i e : Rat)) : multOf a i e < 2 ^ klaecBitsOf ub :=
  intProdQ_factor_lt (h.block e he i hi) hx

theorem of_values (m : Nat → Edge → Nat) (x : Nat → Rat)
    (hx : ∀ i e, a (edgeVar e i) = (m i e : Rat)) (hc : ∀ i, a (cont i) = x i)
    (hp : ∀ i e, a (prod e i) = if e ∈ act then x i * (m i e : Rat) else 0)
    (hbit : ∀ i, i < k → ∀ e ∈ act, ∀ j, a (bitVar (name e i) j) = bitOf (m i e) j)
    (hcomp : ∀ i, i < k → ∀ e ∈ act, ∀ j, a (compVar (name e i) j) = bitOf (m i e) j * x i)
    (hxb : ∀ i, i < k → 0 ≤ x i ∧ x i ≤ ub ∧ (ci = true → ∃ z : Int, x i = z))
    (hpi : pi = true → ci = true)
    (hmb : ∀ i, i < k → ∀ e ∈ act, m i e < 2 ^ klaecBitsOf ub)
    (hle : ∀ i, i < k → ∀ e ∈ act, x i * (m i e : Rat) ≤ ub) :
    WalkChan a all act k cont prod ub name ci pi ∧
    ∀ e ∈ act, ((List.range k).map fun i => a (prod e i)).sum = explainedM k m x e := by
  refine ⟨⟨fun i hi => (hc i).symm ▸ hxb i hi, fun i hi e _ => ?_, fun e he i hi => ?_⟩, fun e he => ?_⟩
  · exact prodVal_box a _ _ (x i) (m i e) _ _ (hp i e) (hxb i hi).1
      (Rat.le_trans (hxb i hi).1 (hxb i hi).2.1) (hle i hi e) (fun h => (hxb i hi).2.2 (hpi h))
  · apply intProdQ_sat_of_bits a _ _ _ _ _ (m i e) (hx i e) (hmb i hi e he)
    · rw [hc i]; exact ⟨(hxb i hi).1, (hxb i hi).2.1⟩
    · rw [hp i e, if_pos he, hx i e, hc i, Rat.mul_comm]
    · exact hbit i hi e he
    · intro j; rw [hcomp i hi e he j, hc i]
  · exact congrArg List.sum <| List.map_congr_left fun i _ => by rw [hp i e, if_pos he]

/-- a channel moves along a map `π` of the layers to any assignment whose columns at layer `i` carry the values of
the columns at layer `π i`: with `π = id` it reads its own columns only, with a permutation the layers can be renamed -/
theorem transfer (h : WalkChan a all act k cont prod ub name ci pi) (a' : Asg) (π : Nat → Nat)
    (hπ : ∀ i, i < k → π i < k)
    (hE : ∀ e i, a' (edgeVar e i) = a (edgeVar e (π i))) (hc : ∀ i, a' (cont i) = a (cont (π i)))
    (hp : ∀ e i, a' (prod e i) = a (prod e (π i)))
    (hbit : ∀ e ∈ act, ∀ i, i < k → ∀ j, a' (bitVar (name e i) j) = a (bitVar (name e (π i)) j))
    (hcomp : ∀ e ∈ act, ∀ i, i < k → ∀ j, a' (compVar (name e i) j) = a (compVar (name e (π i)) j)) :
    WalkChan a' all act k cont prod ub name ci pi := by
  refine ⟨fun i hi => ?_, fun i hi e he => ?_, fun e he i hi => ?_⟩
  · rw [hc]; exact h.contBox _ (hπ i hi)
  · rw [hp]; exact h.prodBox _ (hπ i hi) e he
  · have hb := h.block e he _ (hπ i hi)
    have hw := h.contBox _ (hπ i hi)
    rw [intProdQ_eq_frag] at hb ⊢
    exact prodFrag_transfer a a' _ _ _ _ _ _ _ _ _ _ _ (hE e i) (hc i) (hp e i) (hbit e he i hi) (hcomp e he i hi)
      ⟨hw.1, hw.2.1⟩ hb

end WalkChan

end FP
