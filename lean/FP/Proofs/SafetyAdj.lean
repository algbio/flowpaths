import FP.Model.SafetyAdj
import FP.Proofs.Lib.List
/-! What `out` and `keys` return after each operation on the adjacency dicts of `FP/Model/SafetyAdj.lean`. -/
namespace FP.Safety
variable {V : Type} [DecidableEq V]

theorem out_nil (v : V) : out ([] : Adj V) v = [] := rfl

theorem out_cons (k : V) (l : List V) (g : Adj V) (v : V) :
    out ((k, l) :: g) v = if v = k then l else out g v := by
  unfold out
  by_cases h : v = k
  · subst h; simp
  · have : (v == k) = false := by simpa using h
    simp [List.lookup_cons, this, h]

theorem keys_updOut (g : Adj V) (v : V) (f : List V → List V) : keys (updOut g v f) = keys g := by
  unfold keys updOut
  rw [List.map_map]
  apply List.map_congr_left
  intro kl _
  by_cases h : kl.1 = v <;> simp [h]

theorem updOut_cons (k : V) (l : List V) (g : Adj V) (v : V) (f : List V → List V) :
    updOut ((k, l) :: g) v f = (k, if k = v then f l else l) :: updOut g v f := by
  unfold updOut
  by_cases hk : k = v <;> simp [hk]

theorem out_updOut (g : Adj V) (v a : V) (f : List V → List V) :
    out (updOut g v f) a = if a = v ∧ v ∈ keys g then f (out g a) else out g a := by
  induction g with
  | nil => simp [updOut, keys]
  | cons kl g ih =>
    obtain ⟨k, l⟩ := kl
    have hkeys : v ∈ keys ((k, l) :: g) ↔ v = k ∨ v ∈ keys g := by simp [keys]
    rw [updOut_cons, out_cons, out_cons, ih]
    by_cases ha : a = k
    · subst ha
      by_cases hv : a = v
      · subst hv; simp [hkeys]
      · simp [hv]
    · simp only [if_neg ha]
      by_cases hv : a = v
      · subst hv; simp [hkeys, ha]
      · simp [hv]

theorem out_updOut_ne (g : Adj V) (v a : V) (f : List V → List V) (h : a ≠ v) :
    out (updOut g v f) a = out g a := by
  rw [out_updOut, if_neg fun h' => h h'.1]

theorem out_eq_nil_of_not_key (g : Adj V) (v : V) (h : v ∉ keys g) : out g v = [] := by
  have : g.lookup v = none := List.lookup_eq_none_iff.2 fun p hp => by
    simp only [bne_iff_ne, ne_eq]
    exact fun e => h (e ▸ List.mem_map_of_mem hp)
  simp [out, this]

theorem out_updOut_self (g : Adj V) (v : V) (f : List V → List V) (hf : f [] = []) :
    out (updOut g v f) v = f (out g v) := by
  rw [out_updOut]
  split
  · rfl
  · rename_i h
    rw [out_eq_nil_of_not_key g v fun hk => h ⟨rfl, hk⟩, hf]

theorem out_removeOut_self (g : Adj V) (v x : V) : out (removeOut g v x) v = (out g v).erase x :=
  out_updOut_self _ _ _ (by simp)
theorem out_removeOut_ne (g : Adj V) (v x a : V) (h : a ≠ v) : out (removeOut g v x) a = out g a :=
  out_updOut_ne _ _ _ _ h
theorem out_popOut_self (g : Adj V) (v : V) : out (popOut g v) v = (out g v).dropLast :=
  out_updOut_self _ _ _ (by simp)
theorem out_popOut_ne (g : Adj V) (v a : V) (h : a ≠ v) : out (popOut g v) a = out g a :=
  out_updOut_ne _ _ _ _ h
theorem out_appendOut_self (g : Adj V) (v x : V) (hk : v ∈ keys g) : out (appendOut g v x) v = out g v ++ [x] := by
  rw [appendOut, out_updOut, if_pos ⟨rfl, hk⟩]
theorem out_appendOut_ne (g : Adj V) (v x a : V) (h : a ≠ v) : out (appendOut g v x) a = out g a :=
  out_updOut_ne _ _ _ _ h

theorem out_popOut_sub (g : Adj V) (v a b : V) (h : b ∈ out g a) :
    b ∈ out (popOut g v) a ∨ (a = v ∧ (out g v).getLast? = some b) := by
  by_cases hav : a = v
  · subst hav
    rw [out_popOut_self]
    rcases List.eq_nil_or_concat (out g a) with h0 | ⟨l, x, hx⟩
    · rw [h0] at h; cases h
    · rw [List.concat_eq_append] at hx
      rw [hx] at h ⊢
      rw [List.dropLast_concat, List.getLast?_concat]
      rcases List.mem_append.1 h with h | h
      · exact Or.inl h
      · exact Or.inr ⟨rfl, by rw [List.mem_singleton.1 h]⟩
  · rw [out_popOut_ne _ _ _ hav]; exact Or.inl h

theorem out_popOut_mem (g : Adj V) (v a b : V) (h : b ∈ out (popOut g v) a) : b ∈ out g a := by
  by_cases hav : a = v
  · subst hav
    rw [out_popOut_self] at h
    exact List.dropLast_subset _ h
  · rwa [out_popOut_ne _ _ _ hav] at h

theorem out_appendOut_sub (g : Adj V) (v x a b : V) (h : b ∈ out g a) : b ∈ out (appendOut g v x) a := by
  unfold appendOut
  rw [out_updOut]
  split
  · exact List.mem_append_left _ h
  · exact h

theorem keys_appendOut (g : Adj V) (v x : V) : keys (appendOut g v x) = keys g := keys_updOut _ _ _
theorem keys_popOut (g : Adj V) (v : V) : keys (popOut g v) = keys g := keys_updOut _ _ _
theorem keys_removeOut (g : Adj V) (v x : V) : keys (removeOut g v x) = keys g := keys_updOut _ _ _

theorem mem_out_exists (g : Adj V) (a b : V) (h : b ∈ out g a) : ∃ kl ∈ g, kl.1 = a ∧ b ∈ kl.2 := by
  unfold out at h
  cases hl : g.lookup a with
  | none => rw [hl] at h; cases h
  | some l => rw [hl] at h; exact ⟨(a, l), mem_of_lookup_eq_some hl, rfl, h⟩

theorem wfAdj_out (g : Adj V) (s t : V) (h : wfAdj g s t = true) :
    s ∈ keys g ∧ t ∈ keys g ∧ ∀ a b, b ∈ out g a → b ∈ keys g := by
  unfold wfAdj at h
  simp only [Bool.and_eq_true, List.contains_iff_mem, List.all_eq_true] at h
  refine ⟨h.1.1, h.1.2, ?_⟩
  intro a b hb
  obtain ⟨kl, h1, _, h3⟩ := mem_out_exists g a b hb
  exact h.2 kl h1 b h3

end FP.Safety
