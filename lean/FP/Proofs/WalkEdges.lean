import FP.Spec.Walk
/-!
# FP.Proofs.WalkEdges — `walkEdges` over any vertex type: cutting a walk at one of its edges, pieces (`we_infix`), the
reversed walk (`we_reverse`), boundary crossing, and `Thru`: the edges every walk between two vertices meets, in order. Nothing here is about
safety; in namespace `FP.Safety` are only `we_nil`, `we_single` and `Thru` with its lemmas.
-/
namespace FP.Safety
open FP.Spec
variable {V : Type}

theorem we_nil : walkEdges ([] : List V) = [] := rfl
theorem we_single (a : V) : walkEdges [a] = [] := rfl

end FP.Safety

namespace FP
open FP.Spec FP.Safety
variable {V : Type}

theorem we_cons_cons (a b : V) (l : List V) : walkEdges (a :: b :: l) = (a, b) :: walkEdges (b :: l) := rfl

theorem we_append_cons (a : List V) (x : V) (m : List V) :
    walkEdges (a ++ x :: m) = walkEdges (a ++ [x]) ++ walkEdges (x :: m) := by
  induction a with
  | nil => simp [we_single]
  | cons y a ih =>
    cases a with
    | nil => simp [we_cons_cons, we_single]
    | cons z a =>
      simp only [List.cons_append, we_cons_cons] at ih ⊢
      rw [ih]

theorem we_mid (w1 w2 : List V) (a b : V) :
    walkEdges (w1 ++ a :: b :: w2) = walkEdges (w1 ++ [a]) ++ (a, b) :: walkEdges (b :: w2) := by
  rw [we_append_cons, we_cons_cons]

/-- a walk cut at its edge `(a, b)`: a property of all edges, the first and the last vertex pass to the pieces -/
theorem split_walk {P : V × V → Prop} {s t a b : V} {w1 w2 : List V}
    (hP : ∀ e ∈ walkEdges (w1 ++ a :: b :: w2), P e) (hs : (w1 ++ a :: b :: w2).head? = some s)
    (ht : (w1 ++ a :: b :: w2).getLast? = some t) :
    ((∀ e ∈ walkEdges (w1 ++ [a]), P e) ∧ (w1 ++ [a]).head? = some s) ∧
      ((∀ e ∈ walkEdges (b :: w2), P e) ∧ (b :: w2).getLast? = some t) := by
  rw [we_mid] at hP
  refine ⟨⟨fun e he => hP e (List.mem_append_left _ he), ?_⟩,
    ⟨fun e he => hP e (List.mem_append_right _ (List.mem_cons_of_mem _ he)), ?_⟩⟩
  · cases w1 <;> simpa using hs
  · simpa [List.getLast?_cons_cons] using ht

theorem sublist_mid {L R : List (V × V)} {w1 w2 : List V} {a b : V} (hL : L.Sublist (walkEdges (w1 ++ [a])))
    (hR : R.Sublist (walkEdges (b :: w2))) : (L ++ (a, b) :: R).Sublist (walkEdges (w1 ++ a :: b :: w2)) := by
  rw [we_mid]; exact hL.append (hR.cons_cons _)

theorem we_concat (l : List V) (a b : V) (h : l.getLast? = some a) :
    walkEdges (l ++ [b]) = walkEdges l ++ [(a, b)] := by
  obtain ⟨l', rfl⟩ := List.getLast?_eq_some_iff.1 h
  rw [List.append_assoc]
  show walkEdges (l' ++ a :: [b]) = _
  rw [we_append_cons l' a [b]]
  simp [we_cons_cons, we_single]

theorem we_count_inner [BEq (V × V)] [LawfulBEq (V × V)] (a b : V) (p : List V) (e : V × V) (h1 : e.1 ≠ a)
    (h2 : e.2 ≠ b) : (walkEdges (a :: p ++ [b])).count e = (walkEdges p).count e := by
  have hne1 : ∀ x, ((a, x) == e) = false := fun x => beq_false_of_ne fun h => h1 (h ▸ rfl)
  have hne2 : ∀ t, ((t, b) == e) = false := fun t => beq_false_of_ne fun h => h2 (h ▸ rfl)
  cases p with
  | nil => simp [walkEdges, List.count_cons, hne1]
  | cons x xs =>
    rw [List.cons_append, List.cons_append, we_cons_cons, ← List.cons_append,
      we_concat _ _ b (List.getLast?_eq_some_getLast (List.cons_ne_nil x xs))]
    simp [List.count_cons, List.count_append, hne1, hne2]

theorem we_mem_wrap (a b : V) (p : List V) (hp : p ≠ []) :
    ∃ u v, p.head? = some u ∧ p.getLast? = some v ∧
      ∀ e, e ∈ walkEdges (a :: p ++ [b]) ↔ e = (a, u) ∨ e ∈ walkEdges p ∨ e = (v, b) := by
  cases p with
  | nil => exact absurd rfl hp
  | cons x xs =>
    refine ⟨x, _, rfl, List.getLast?_eq_some_getLast hp, fun e => ?_⟩
    rw [List.cons_append, List.cons_append, we_cons_cons, ← List.cons_append,
      we_concat _ _ b (List.getLast?_eq_some_getLast hp)]
    simp

theorem we_mem_strip {a b : V} (p : List V) {e : V × V} (h1 : e.1 ≠ a) (h2 : e.2 ≠ b) :
    e ∈ walkEdges (a :: p ++ [b]) ↔ e ∈ walkEdges p := by
  cases p with
  | nil => exact ⟨fun h => absurd (List.mem_singleton.1 h ▸ rfl) h1, fun h => nomatch h⟩
  | cons x xs =>
    obtain ⟨u, v, -, -, h⟩ := we_mem_wrap a b (x :: xs) (List.cons_ne_nil x xs)
    rw [h]
    exact ⟨fun h => h.elim (fun h => absurd (h ▸ rfl) h1) fun h => h.elim id fun h => absurd (h ▸ rfl) h2,
      fun h => .inr (.inl h)⟩

theorem we_reverse (l : List V) : walkEdges l.reverse = ((walkEdges l).map fun e => (e.2, e.1)).reverse := by
  induction l with
  | nil => rfl
  | cons x l ih =>
    cases l with
    | nil => rfl
    | cons y l =>
      rw [List.reverse_cons, we_concat (y :: l).reverse y x (by simp), ih, we_cons_cons]
      simp

theorem mem_we_reverse {w : List V} {e : V × V} :
    e ∈ walkEdges w.reverse ↔ (e.2, e.1) ∈ walkEdges w := by
  rw [we_reverse, List.mem_reverse, List.mem_map]
  constructor
  · rintro ⟨e', he', rfl⟩; exact he'
  · intro h; exact ⟨_, h, rfl⟩

/-- `we_mid` read backwards: a position in the edge list is a position in the walk -/
theorem we_eq_append_cons {a : V × V} : ∀ {w : List V} {E1 E2 : List (V × V)}, walkEdges w = E1 ++ a :: E2 →
    ∃ w1 w2, w = w1 ++ a.1 :: a.2 :: w2 ∧ walkEdges (w1 ++ [a.1]) = E1 ∧ walkEdges (a.2 :: w2) = E2 := by
  intro w
  induction w with
  | nil => intro E1 E2 h; cases E1 <;> cases h
  | cons x w ih =>
    cases w with
    | nil => intro E1 E2 h; cases E1 <;> cases h
    | cons y w =>
      intro E1 E2 h
      rw [we_cons_cons] at h
      cases E1 with
      | nil =>
        injection h with h1 h2; subst h1
        exact ⟨[], w, rfl, rfl, h2⟩
      | cons c E1 =>
        injection h with h1 h2; subst h1
        obtain ⟨w1, w2, hw, h3, h4⟩ := ih h2
        refine ⟨x :: w1, w2, by rw [hw]; rfl, ?_, h4⟩
        -- `w1 ++ [a.1]` begins with `y`
        cases w1 with
        | nil => injection hw with hy _; subst hy; rw [← h3]; rfl
        | cons z w1 => injection hw with hy _; subst hy; rw [← h3]; rfl

theorem mem_we_split {e : V × V} {w : List V} (h : e ∈ walkEdges w) :
    ∃ w1 w2, w = w1 ++ e.1 :: e.2 :: w2 := by
  obtain ⟨E1, E2, hE⟩ := List.append_of_mem h
  obtain ⟨w1, w2, hw, _⟩ := we_eq_append_cons hE
  exact ⟨w1, w2, hw⟩

/-- the converse of `sublist_mid`: an embedding of `L ++ a :: R` into the edges of a walk splits the walk at the
image of `a` -/
theorem split_sublist {L R : List (V × V)} {a : V × V} {w : List V} (h : (L ++ a :: R).Sublist (walkEdges w)) :
    ∃ w1 w2, w = w1 ++ a.1 :: a.2 :: w2 ∧ L.Sublist (walkEdges (w1 ++ [a.1])) ∧
      R.Sublist (walkEdges (a.2 :: w2)) := by
  obtain ⟨l1, l2, hl, hL, haR⟩ := List.append_sublist_iff.1 h
  obtain ⟨r1, r2, hr, ha, hR⟩ := List.cons_sublist_iff.1 haR
  obtain ⟨p, q, rfl⟩ := List.append_of_mem ha
  obtain ⟨w1, w2, hw, h1, h2⟩ := we_eq_append_cons (a := a) (E1 := l1 ++ p) (E2 := q ++ r2) (by rw [hl, hr]; simp)
  exact ⟨w1, w2, hw, h1 ▸ hL.trans (List.sublist_append_left _ _), h2 ▸ hR.trans (List.sublist_append_right _ _)⟩

theorem mem_we_mid (w1 w2 : List V) (a b : V) : (a, b) ∈ walkEdges (w1 ++ a :: b :: w2) := by
  rw [we_mid]; simp

theorem we_fst_mem {e : V × V} {w : List V} (h : e ∈ walkEdges w) : e.1 ∈ w := by
  obtain ⟨w1, w2, rfl⟩ := mem_we_split h; simp

theorem we_snd_mem_tail {e : V × V} {w : List V} (h : e ∈ walkEdges w) : e.2 ∈ w.tail := by
  obtain ⟨w1, w2, rfl⟩ := mem_we_split h
  cases w1 <;> simp

theorem we_snd_mem {e : V × V} {w : List V} (h : e ∈ walkEdges w) : e.2 ∈ w :=
  List.mem_of_mem_tail (we_snd_mem_tail h)

theorem exists_we_into {w : List V} {v : V} (hv : v ∈ w.tail) : ∃ u, (u, v) ∈ walkEdges w := by
  induction w with
  | nil => cases hv
  | cons a w ih =>
    cases w with
    | nil => cases hv
    | cons b w =>
      rw [we_cons_cons]
      rcases List.mem_cons.1 hv with rfl | hv
      · exact ⟨a, List.mem_cons_self⟩
      · obtain ⟨u, hu⟩ := ih hv
        exact ⟨u, List.mem_cons_of_mem _ hu⟩

theorem we_sub_append_left (a m : List V) : ∀ e ∈ walkEdges m, e ∈ walkEdges (a ++ m) := by
  intro e he
  obtain ⟨w1, w2, rfl⟩ := mem_we_split he
  rw [← List.append_assoc]; exact mem_we_mid _ _ _ _

theorem we_sub_append_right (a m : List V) : ∀ e ∈ walkEdges a, e ∈ walkEdges (a ++ m) := by
  intro e he
  obtain ⟨w1, w2, rfl⟩ := mem_we_split he
  simp only [List.append_assoc, List.cons_append]; exact mem_we_mid _ _ _ _

theorem we_infix (a m b : List V) : walkEdges m <:+: walkEdges (a ++ m ++ b) := by
  cases m with
  | nil => simp [we_nil]
  | cons x m =>
    have h1 : a ++ (x :: m) ++ b = a ++ x :: (m ++ b) := by simp
    rw [h1, we_append_cons a x (m ++ b)]
    have h2 : walkEdges (x :: m) <+: walkEdges (x :: (m ++ b)) := by
      cases b with
      | nil => simp
      | cons y b =>
        rw [← List.cons_append, we_append_cons (x :: m) y b,
          we_concat (x :: m) _ y (List.getLast?_eq_some_getLast (List.cons_ne_nil x m)), List.append_assoc]
        exact List.prefix_append _ _
    obtain ⟨r, hr⟩ := h2
    rw [← hr]
    exact ⟨walkEdges (a ++ [x]), r, by simp⟩

theorem cut_edge (C : V → Prop) (w : List V) (s t : V) (hs : w.head? = some s) (ht : w.getLast? = some t)
    (hsC : C s) (htC : ¬ C t) : ∃ e ∈ walkEdges w, C e.1 ∧ ¬ C e.2 := by
  induction w generalizing s with
  | nil => simp at hs
  | cons x w ih =>
    simp at hs; subst hs
    cases w with
    | nil => simp at ht; subst ht; exact absurd hsC htC
    | cons y w =>
      by_cases hy : C y
      · have ht' : (y :: w).getLast? = some t := by simpa [List.getLast?_cons_cons] using ht
        obtain ⟨e, he, h1, h2⟩ := ih y rfl ht' hy
        exact ⟨e, by rw [we_cons_cons]; exact List.mem_cons_of_mem _ he, h1, h2⟩
      · exact ⟨(x, y), by rw [we_cons_cons]; simp, hsC, hy⟩

theorem mem_we_index {V : Type} (path : List V) (i : Nat) (h : i + 1 < path.length) :
    (path[i], path[i + 1]) ∈ walkEdges path := by
  have key : ∀ a b, path.drop i = a :: b :: path.drop (i + 1 + 1) → (a, b) ∈ walkEdges path := by
    intro a b hd
    rw [← List.take_append_drop i path, hd]; exact mem_we_mid _ _ _ _
  exact key _ _ (by rw [List.drop_eq_getElem_cons (by omega), List.drop_eq_getElem_cons h])

theorem count_we_reverse {V : Type} [DecidableEq V] (p : List V) (z u : V) :
    (walkEdges p.reverse).count (z, u) = (walkEdges p).count (u, z) := by
  rw [we_reverse, List.count_reverse, List.count_eq_countP, List.countP_map, List.count_eq_countP]
  apply List.countP_congr
  intro e _
  simp only [Function.comp, beq_iff_eq, Prod.ext_iff]
  exact And.comm

end FP

namespace FP.Safety
open FP.Spec
variable {V : Type}

/-! ## Cut edges in order

`Thru E a b L`: every walk from `a` to `b` along edges in `E` contains `L`, in order. The members of `L` are cut
edges between `a` and `b` (bridges, arc dominators). What `find_all_bridges`, the chains of `get_dominators` and the
sequences assembled from them assert are all of this form, for the edges of an adjacency dict or of a graph. -/

def Thru (E : V × V → Prop) (a b : V) (L : List (V × V)) : Prop :=
  ∀ w : List V, (∀ e ∈ walkEdges w, E e) → w.head? = some a → w.getLast? = some b → L.Sublist (walkEdges w)

variable {E E' : V × V → Prop} {a b s t : V} {L R : List (V × V)}

theorem Thru.nil : Thru E a b [] := fun _ _ _ _ => List.nil_sublist _

theorem Thru.mono (h : Thru E' a b L) (hE : ∀ e, E e → E' e) : Thru E a b L :=
  fun w hw => h w fun e he => hE e (hw e he)

section
variable {d : V × V} {w : List V} (hw : ∀ e ∈ walkEdges w, E e) (hs : w.head? = some s) (ht : w.getLast? = some t)
include hw hs ht

theorem Thru.before (hL : Thru E s d.1 L) (h : (d :: R).Sublist (walkEdges w)) :
    (L ++ d :: R).Sublist (walkEdges w) := by
  obtain ⟨w1, w2, rfl, -, h2⟩ := split_sublist (L := []) h
  exact sublist_mid (hL _ (split_walk hw hs ht).1.1 (split_walk hw hs ht).1.2 (by simp)) h2

theorem Thru.after (hR : Thru E d.2 t R) (h : (L ++ [d]).Sublist (walkEdges w)) :
    (L ++ d :: R).Sublist (walkEdges w) := by
  obtain ⟨w1, w2, rfl, h1, -⟩ := split_sublist (R := []) h
  exact sublist_mid h1 (hR _ (split_walk hw hs ht).2.1 rfl (split_walk hw hs ht).2.2)

end

theorem Thru.mid {d : V × V} (hd : Thru E a b [d]) (hL : Thru E a d.1 L) (hR : Thru E d.2 b R) :
    Thru E a b (L ++ d :: R) :=
  fun w hw hs ht => hR.after hw hs ht (hL.before hw hs ht (hd w hw hs ht))

theorem Thru.reverse (h : Thru E a b L) :
    Thru (fun e => E (e.2, e.1)) b a (L.map fun e => (e.2, e.1)).reverse := by
  intro w hw hs ht
  have h1 := h w.reverse (fun e he => hw _ (mem_we_reverse.1 he)) (by rw [List.head?_reverse]; exact ht)
    (by rw [List.getLast?_reverse]; exact hs)
  rw [we_reverse] at h1
  have h2 := (h1.map fun e => (e.2, e.1)).reverse
  rwa [List.map_reverse, List.reverse_reverse, List.map_map,
    show ((fun e : V × V => (e.2, e.1)) ∘ fun e => (e.2, e.1)) = id from rfl, List.map_id] at h2

end FP.Safety
