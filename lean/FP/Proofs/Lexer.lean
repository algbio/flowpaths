import FP.Model.Lexer
/-!
The character-level primitives of `FP/Model/Lexer.lean` on rendered lines: clean tokens joined by
single blanks (`Clean`, `joinSp`) and padded with whitespace are stripped, split and classified as
written.
-/
namespace FP.Lexer
open FP.Parser

/-- a token of `line.split()` -/
def Clean (t : List Char) : Prop := t ≠ [] ∧ ∀ c ∈ t, isPySpace c = false

/-- `" ".join(ts)` -/
def joinSp : List (List Char) → List Char
  | [] => []
  | [t] => t
  | t :: t' :: ts => t ++ ' ' :: joinSp (t' :: ts)

section Strip
variable (p : Char → Bool)

/-- `rstrip` for any set of characters to strip (`lstrip` is `dropWhile`); `FP/Proofs/Literals.lean`
uses it for `int()`'s narrower set of blanks as well -/
def rstripBy : List Char → List Char
  | [] => []
  | c :: cs => if (rstripBy cs).isEmpty && p c then [] else c :: rstripBy cs

theorem rstripBy_eq_nil_iff (l : List Char) : rstripBy p l = [] ↔ ∀ c ∈ l, p c = true := by
  induction l with
  | nil => simp [rstripBy]
  | cons c cs ih => simp [rstripBy, ← ih, and_comm]

theorem rstripBy_append_ws (x s : List Char) (hs : ∀ c ∈ s, p c = true) : rstripBy p (x ++ s) = rstripBy p x := by
  induction x with
  | nil => exact (rstripBy_eq_nil_iff p s).2 hs
  | cons c cs ih => simp [rstripBy, ih]

theorem rstripBy_append (a b : List Char) (hb : rstripBy p b = b) (hne : b ≠ []) : rstripBy p (a ++ b) = a ++ b := by
  induction a with
  | nil => exact hb
  | cons x a ih => simp [rstripBy, ih, hne]

theorem rstripBy_clean (t : List Char) (h : ∀ c ∈ t, p c = false) : rstripBy p t = t := by
  induction t with
  | nil => rfl
  | cons c cs ih => simp [rstripBy, h c (by simp), ih fun d hd => h d (by simp [hd])]

theorem stripBy_eq_nil_iff (l : List Char) : rstripBy p (l.dropWhile p) = [] ↔ ∀ c ∈ l, p c = true := by
  induction l with
  | nil => simp [rstripBy]
  | cons c cs ih =>
    by_cases h : p c = true
    · simp [List.dropWhile_cons_of_pos h, ih, h]
    · rw [List.dropWhile_cons_of_neg h, rstripBy_eq_nil_iff]

theorem dropWhile_pad (pre x post : List Char) (hpre : ∀ c ∈ pre, p c = true) (hl : x.dropWhile p = x)
    (hne : x ≠ []) : (pre ++ x ++ post).dropWhile p = x ++ post := by
  rw [List.append_assoc, List.dropWhile_append_of_pos hpre, List.dropWhile_append, hl]
  simp [hne]

theorem stripBy_pad (pre x post : List Char) (hpre : ∀ c ∈ pre, p c = true) (hpost : ∀ c ∈ post, p c = true)
    (hl : x.dropWhile p = x) (hr : rstripBy p x = x) : rstripBy p ((pre ++ x ++ post).dropWhile p) = x := by
  cases x with
  | nil => exact (stripBy_eq_nil_iff p _).2 (by simpa [or_imp, forall_and] using ⟨hpre, hpost⟩)
  | cons c r => rw [dropWhile_pad p _ _ _ hpre hl (by simp), rstripBy_append_ws p _ _ hpost, hr]
end Strip

theorem lstrip_eq (l : List Char) : lstrip l = l.dropWhile isPySpace := by
  induction l with
  | nil => rfl
  | cons c cs ih => rw [lstrip, ih, List.dropWhile_cons]

theorem rstrip_eq (l : List Char) : rstrip l = rstripBy isPySpace l := by
  induction l with
  | nil => rfl
  | cons c cs ih => rw [rstrip, ih, rstripBy]

theorem strip_eq (l : List Char) : strip l = rstripBy isPySpace (l.dropWhile isPySpace) := by
  rw [strip, lstrip_eq, rstrip_eq]

theorem strip_eq_nil_iff (l : List Char) : strip l = [] ↔ ∀ c ∈ l, isPySpace c = true := by
  rw [strip_eq, stripBy_eq_nil_iff]

theorem strip_pad (pre x post : List Char) (hpre : ∀ c ∈ pre, isPySpace c = true)
    (hpost : ∀ c ∈ post, isPySpace c = true) (hl : lstrip x = x) (hr : rstrip x = x) :
    strip (pre ++ x ++ post) = x := by
  rw [lstrip_eq] at hl; rw [rstrip_eq] at hr
  rw [strip_eq, stripBy_pad _ _ _ _ hpre hpost hl hr]

theorem splitWs_ws_append (p x : List Char) (hp : ∀ c ∈ p, isPySpace c = true) : splitWs (p ++ x) = splitWs x := by
  induction p with
  | nil => rfl
  | cons a p ih =>
    have ha : isPySpace a = true := hp a (by simp)
    simp only [List.cons_append, splitWs, ha, if_true]
    exact ih (fun c hc => hp c (by simp [hc]))

theorem Clean.cons {c : Char} (hc : ¬isPySpace c = true) {t : List Char} (ht : ∀ x ∈ t, isPySpace x = false) :
    Clean (c :: t) := ⟨by simp, by simpa using ⟨by simpa using hc, ht⟩⟩

theorem splitWs_token (t : List Char) (ht : Clean t) (rest : List Char)
    (hr : ∀ d ∈ rest.head?, isPySpace d = true) : splitWs (t ++ rest) = t :: splitWs rest := by
  obtain ⟨hne, hcl⟩ := ht
  induction t with
  | nil => exact absurd rfl hne
  | cons c t ih =>
    have hc : isPySpace c = false := hcl c (by simp)
    cases t with
    | nil =>
      cases rest with
      | nil => simp [splitWs, hc]
      | cons d r => simp [splitWs, hc, hr d rfl]
    | cons d t' =>
      have ih' := ih (by simp) (fun x hx => hcl x (by simp [hx]))
      rw [List.cons_append] at ih'
      rw [List.cons_append, List.cons_append, splitWs, ih']
      simp [hc, hcl d (by simp)]

theorem splitWs_joinSp_ws (ts : List (List Char)) (h : ∀ t ∈ ts, Clean t) (post : List Char)
    (hpost : ∀ c ∈ post, isPySpace c = true) : splitWs (joinSp ts ++ post) = ts := by
  have hnil : splitWs post = [] := by simpa [splitWs] using splitWs_ws_append post [] hpost
  induction ts with
  | nil => exact hnil
  | cons t ts ih =>
    have ht : Clean t := h t (by simp)
    cases ts with
    | nil => rw [joinSp, splitWs_token t ht post fun d hd => hpost d (List.mem_of_mem_head? hd), hnil]
    | cons t' ts' =>
      rw [joinSp, List.append_assoc, List.cons_append, splitWs_token t ht _ (by simp; decide)]
      exact congrArg (t :: ·) ((splitWs_ws_append [' '] _ (by simp; decide)).trans (ih fun x hx => h x (by simp [hx])))

theorem joinSp_head (c : Char) (t0 : List Char) (ts : List (List Char)) :
    ∃ r, joinSp ((c :: t0) :: ts) = c :: r := by
  cases ts with
  | nil => exact ⟨t0, rfl⟩
  | cons t2 ts' => exact ⟨t0 ++ ' ' :: joinSp (t2 :: ts'), by simp [joinSp]⟩

theorem lstrip_joinSp (ts : List (List Char)) (h : ∀ t ∈ ts, Clean t) : lstrip (joinSp ts) = joinSp ts := by
  cases ts with
  | nil => rfl
  | cons t ts =>
    obtain ⟨hne, hcl⟩ := h t (by simp)
    cases t with
    | nil => exact absurd rfl hne
    | cons c t0 =>
      obtain ⟨r, e⟩ := joinSp_head c t0 ts
      rw [e, lstrip, hcl c (by simp)]; rfl

theorem rstrip_joinSp (ts : List (List Char)) (h : ∀ t ∈ ts, Clean t) : rstrip (joinSp ts) = joinSp ts := by
  rw [rstrip_eq]
  induction ts with
  | nil => rfl
  | cons t ts ih =>
    cases ts with
    | nil => exact rstripBy_clean _ t (h t (by simp)).2
    | cons t' ts' =>
      cases t' with
      | nil => exact absurd rfl (h [] (by simp)).1
      | cons c t0 =>
        obtain ⟨r, e⟩ := joinSp_head c t0 ts'
        rw [joinSp, List.append_cons]
        exact rstripBy_append _ _ _ (ih fun x hx => h x (by simp [hx])) (by simp [e])

theorem strip_joinSp (ts : List (List Char)) (h : ∀ t ∈ ts, Clean t) : strip (joinSp ts) = joinSp ts := by
  unfold strip; rw [lstrip_joinSp ts h, rstrip_joinSp ts h]

theorem classifyL_of_not_hash (l : List Char) (h : startsWith (lstrip l) ['#'] = false) :
    classifyL l = if (strip l).isEmpty then .blank else .data (strip l) (splitWs l) := by
  rw [classifyL, if_neg (by simp [h])]

theorem classifyL_data (c : Char) (t0 : List Char) (ts : List (List Char)) (pre post : List Char)
    (hc : c ≠ '#') (h0 : Clean (c :: t0)) (h : ∀ t ∈ ts, Clean t)
    (hpre : ∀ x ∈ pre, isPySpace x = true) (hpost : ∀ x ∈ post, isPySpace x = true) :
    classifyL (pre ++ joinSp ((c :: t0) :: ts) ++ post)
      = .data (joinSp ((c :: t0) :: ts)) ((c :: t0) :: ts) := by
  have hall : ∀ t ∈ (c :: t0) :: ts, Clean t := by simpa using ⟨h0, h⟩
  obtain ⟨r, er⟩ := joinSp_head c t0 ts
  have hl : lstrip (pre ++ joinSp ((c :: t0) :: ts) ++ post) = joinSp ((c :: t0) :: ts) ++ post := by
    rw [lstrip_eq, dropWhile_pad _ _ _ _ hpre (by rw [← lstrip_eq, lstrip_joinSp _ hall]) (by simp [er])]
  have hne : (c == '#') = false := by simpa using hc
  rw [classifyL_of_not_hash _ (by rw [hl, er]; simp [startsWith, hne]),
    strip_pad pre _ post hpre hpost (lstrip_joinSp _ hall) (rstrip_joinSp _ hall),
    List.append_assoc, splitWs_ws_append _ _ hpre, splitWs_joinSp_ws _ hall post hpost, er]
  rfl

theorem classifyL_subpath (ns : List (List Char)) (pre sp post : List Char) (h : ∀ t ∈ ns, Clean t)
    (hpre : ∀ x ∈ pre, isPySpace x = true) (hsp : ∀ x ∈ sp, isPySpace x = true)
    (hpost : ∀ x ∈ post, isPySpace x = true) :
    classifyL (pre ++ '#' :: 'S' :: (sp ++ joinSp ns ++ post)) = .subpath ns := by
  have hl : lstrip (pre ++ '#' :: 'S' :: (sp ++ joinSp ns ++ post)) = '#' :: 'S' :: (sp ++ joinSp ns ++ post) := by
    rw [lstrip_eq, List.dropWhile_append_of_pos hpre, List.dropWhile_cons_of_neg (by decide)]
  have key : splitWs (strip (sp ++ (joinSp ns ++ post))) = ns := by
    rw [← List.append_assoc, strip_pad sp _ post hsp hpost (lstrip_joinSp _ h) (rstrip_joinSp _ h)]
    simpa using splitWs_joinSp_ws ns h [] (by simp)
  rw [classifyL, hl]
  simp [startsWith, key]

theorem classifyL_blank_iff (l : List Char) : classifyL l = .blank ↔ ∀ c ∈ l, isPySpace c = true := by
  rw [← strip_eq_nil_iff]
  cases hh : startsWith (lstrip l) ['#'] with
  | false => rw [classifyL_of_not_hash l hh]; split <;> simp_all
  | true =>
    have : strip l ≠ [] := fun e => by
      have := (strip_eq_nil_iff l).1 e
      rw [lstrip_eq, ← List.append_nil l, List.dropWhile_append_of_pos this] at hh
      cases hh
    simp only [classifyL, hh, if_true, this, iff_false]
    split <;> simp

end FP.Lexer
