import FP.Proofs.C09WalkComplete
import FP.Proofs.WalkCoreExample
/-! A concrete `kcovercLP`: the looped graph of `WalkCoreExample` with the subset constraint `{(a, a)}`, a satisfying assignment, and a
family of walks within the caps. -/
namespace FP
open FP.Spec

namespace C09WalkExample
open FP.WalkCoreExample

/-- the user's graph of `WalkCoreExample` (`s → a → t` with a self-loop at `a`), one walk, the loop required
by the subset constraint `{(a, a)}` -/
def inpC : WalkInput :=
  { base := base, flow := [], cfg := { k := 1, constraints := [[("a", "a")]] } }

/-- `WalkCoreExample.asg` (the walk `source, s, a, a, a, t, sink`) with `used_edge` = indicator of a positive
multiplicity and `r(0,0) = 1` -/
def asgC : Asg := fun v =>
  if v ∈ [usedVar ("source", "s") 0, usedVar ("s", "a") 0, usedVar ("a", "a") 0, usedVar ("a", "t") 0,
      usedVar ("t", "sink") 0, rVar 0 0] then 1
  else asg v

/-- the finite facts about `inpC`, in one kernel evaluation (augmented graph, reach table and caps are built once) -/
theorem table : inpC.activeEdges false = [("s", "a"), ("a", "a"), ("a", "t")] ∧
    (inpC.st.g.edges.map fun e => kcovercCap inpC e) = [1, 25, 1, 1, 1] ∧
    satCheck asgC (kcovercLP inpC) = true ∧
    decodeWalks inpC.st asgC inpC.k = [["s", "a", "a", "a", "t"]] := by decide +kernel

theorem inpC_active : inpC.activeEdges false = [("s", "a"), ("a", "a"), ("a", "t")] := table.1

/-- the loop may be repeated `|E|·|V| = 25` times, every other edge once -/
theorem inpC_caps : (inpC.st.g.edges.map fun e => kcovercCap inpC e) = [1, 25, 1, 1, 1] := table.2.1

theorem satC : Sat asgC (kcovercLP inpC) := satCheck_sound _ _ table.2.2.1

theorem decodeC : decodeWalks inpC.st asgC inpC.k = [["s", "a", "a", "a", "t"]] := table.2.2.2

/-- inner vertex sequence of the one walk: the loop at `a` twice (cap `|E|·|V| = 25`) -/
def walkC : Nat → List Node := fun _ => ["s", "a", "a", "a", "t"]

theorem withinC : WalkCoverWithin inpC walkC := by
  -- the four clauses for the one walk, in one evaluation of the instance
  have h : (∀ e ∈ walkEdges (inpC.st.source :: walkC 0 ++ [inpC.st.sink]), e ∈ inpC.st.g.edges) ∧
      (∀ e ∈ inpC.st.g.edges,
        (traversals (inpC.st.source :: walkC 0 ++ [inpC.st.sink]) e : Rat) ≤ kcovercCap inpC e) ∧
      (∀ e ∈ [("s", "a"), ("a", "a"), ("a", "t")], e ∈ walkEdges (inpC.st.source :: walkC 0 ++ [inpC.st.sink])) ∧
      coversB (multsOf inpC.st.source inpC.st.sink walkC 0) [("a", "a")] inpC.cfg.coverage = true := by
    decide +kernel
  refine ⟨fun _ _ => h.1, fun _ _ => h.2.1, fun e he => ⟨0, Nat.one_pos, h.2.2.1 e (inpC_active ▸ he)⟩,
    fun j hj => ?_⟩
  have : j = 0 := Nat.lt_one_iff.1 hj
  subst this
  exact ⟨0, Nat.one_pos, h.2.2.2⟩

theorem walkAsgC_loop : kcovercWalkAsg inpC walkC (edgeVar ("a", "a") 0) = 2 := by
  rw [kcovercWalkAsg_edge]; decide +kernel

end C09WalkExample

end FP
