import FP.Model.MFD
import FP.Proofs.WrapperIntProd
import FP.Spec.Decomp
import FP.Proofs.PathCore
/-!
# FP.Proofs.DecompBounds — why the lower bounds of `MinFlowDecomp.get_lowerbound_k` are lower bounds

At the end, what the status script driving the search of `MinFlowDecomp` may be assumed to say about the k-models
(`Faithful`, `Decisive`): the hypotheses of the search theorems of `Props/C03`.
-/
namespace FP
open FP.Spec FP.MFD

theorem length_subsetSums (w : Nat → Rat) (k : Nat) : (subsetSums w k).length = 2 ^ k := by
  induction k with
  | zero => rfl
  | succ k ih => rw [subsetSums, List.length_append, List.length_map, ih, Nat.pow_succ, Nat.mul_two]

theorem mem_subsetSums (w : Nat → Rat) (b : Nat → Rat) (k : Nat)
    (hb : ∀ i, i < k → b i = 0 ∨ b i = 1) :
    ((List.range k).map fun i => w i * b i).sum ∈ subsetSums w k := by
  induction k with
  | zero => simp [subsetSums]
  | succ k ih =>
    have ih' := ih (fun i hi => hb i (Nat.lt_succ_of_lt hi))
    rw [List.range_succ, List.map_append, List.sum_append, List.map_singleton, List.sum_singleton]
    unfold subsetSums
    rcases hb k (Nat.lt_succ_self k) with h0 | h1
    · rw [h0, Rat.mul_zero, Rat.add_zero]; exact List.mem_append_left _ ih'
    · rw [h1, Rat.mul_one]; exact List.mem_append_right _ (List.mem_map.2 ⟨_, ih', rfl⟩)

theorem flow_values_subset_sums (inp : FlowInput) (k : Nat)
    (h : BaseWF inp.base) (hac : Acyclic inp.base) (P : Nat → List Node) (w : Nat → Rat)
    (hd : IsDecomp inp k P w) : ∀ e ∈ inp.activeEdges, inp.f e ∈ subsetSums w k := by
  intro e he
  rw [← hd.explains e he]
  exact mem_subsetSums w (fun i => ((traversals (inp.st.source :: P i ++ [inp.st.sink]) e : Nat) : Rat)) k
    (fun i hi => by
      rw [traversals, (walkEdges_nodup (stwalk_nodup (h.stwf hac) (hd.walk i hi))).count]; split <;> simp)

theorem lb_antichain_valid (inp : FlowInput) (k : Nat) (P : Nat → List Node) (w : Nat → Rat)
    (hd : IsDecomp inp k P w) (A : List Edge) (hA : IsAntichain inp.st A)
    (hact : ∀ e ∈ A, e ∈ inp.activeEdges) (hpos : ∀ e ∈ A, 0 < inp.f e) : A.length ≤ k := by
  apply pigeon A k (fun e i => e ∈ walkEdges (inp.st.source :: P i ++ [inp.st.sink])) hA.1
  · intro e he
    obtain ⟨i, hi, hterm⟩ := exists_ne_zero_of_sum_ne_zero
      (by rw [hd.explains e (hact e he)]; exact Rat.ne_of_gt (hpos e he))
    refine ⟨i, List.mem_range.1 hi, Classical.byContradiction fun hnot => hterm ?_⟩
    show w i * trav inp.st (P i) e = 0
    rw [trav_eq_zero_of_not_mem hnot]
    exact Rat.mul_zero _
  · intro a ha b hb i hi hai hbi
    apply Classical.byContradiction
    intro hab
    exact hA.2 a ha b hb hab (P i) (hd.walk i hi) ⟨hai, hbi⟩

/-- two edge sets that leave a common node by different edges -/
def DecompManyPaths.Incompat (c1 c2 : List Edge) : Bool :=
  c1.any fun e1 => c2.any fun e2 => decide (e1.1 = e2.1 ∧ e1 ≠ e2)

/-- pairwise incompatible subpath constraints need one path each -/
theorem lb_constraints (inp : FlowInput) (h : BaseWF inp.base) (hac : Acyclic inp.base) (k : Nat)
    (P : Nat → List Node) (w : Nat → Rat) (hd : IsDecomp inp k P w) (C : List (List Edge))
    (hC : ∀ c ∈ C, c ∈ inp.cfg.constraints) (hnd : C.Nodup)
    (hinc : ∀ c1 ∈ C, ∀ c2 ∈ C, c1 ≠ c2 → DecompManyPaths.Incompat c1 c2 = true) : C.length ≤ k := by
  apply pigeon C k (fun c i => ∀ e ∈ c, e ∈ walkEdges (inp.st.source :: P i ++ [inp.st.sink])) hnd
  · exact fun c hc => hd.constraints c (hC c hc)
  · intro c1 h1 c2 h2 i hi hc1 hc2
    apply Classical.byContradiction
    intro hne
    have hI := hinc c1 h1 c2 h2 hne
    unfold DecompManyPaths.Incompat at hI
    obtain ⟨e1, he1, hI⟩ := List.any_eq_true.1 hI
    obtain ⟨e2, he2, hI⟩ := List.any_eq_true.1 hI
    have hI' : e1.1 = e2.1 ∧ e1 ≠ e2 := by simpa using hI
    have hnd' := stwalk_nodup (h.stwf hac) (hd.walk i hi)
    exact hI'.2 (walkEdges_fst_inj _ hnd' e1 e2 (hc1 e1 he1) (hc2 e2 he2) hI'.1)

theorem clog2_le (n k : Nat) (hn : 1 ≤ n) (h : n ≤ 2 ^ k) : clog2 n ≤ k := by
  unfold clog2
  exact (numBits_spec (n - 1)).2 k (by omega)

theorem clog2_spec (n : Nat) (hn : 1 ≤ n) : n ≤ 2 ^ clog2 n := by
  unfold clog2
  have := (numBits_spec (n - 1)).1
  omega

theorem lowerboundN_valid (x : LBIn) (m : Nat) (hopt : x.optLb.getD 1 ≤ m)
    (hlog : distinctInt x.flows ≤ 2 ^ m) (hwidth : x.width ≤ m)
    (hmgs : x.ignoreEmpty = true → x.useMgs = true → ∀ s, x.mgs = some s → s ≤ m)
    (hscan : x.useScan = true → ∀ s, x.scan = some s → s ≤ m) : lowerboundN x ≤ m := by
  unfold lowerboundN
  extract_lets lb0 n lb1 lb2 lb3
  have h1 : lb1 ≤ m := by
    unfold lb1
    split
    · exact hopt
    · exact Nat.max_le.2 ⟨hopt, clog2_le _ _ (Nat.pos_of_ne_zero ‹_›) hlog⟩
  have h2 : lb2 ≤ m := Nat.max_le.2 ⟨h1, hwidth⟩
  have h3 : lb3 ≤ m := by
    unfold lb3
    split
    · rename_i hu
      rw [Bool.and_eq_true] at hu
      refine Nat.max_le.2 ⟨h2, ?_⟩
      cases hm : x.mgs with
      | none => exact Nat.zero_le _
      | some s => exact hmgs hu.1 hu.2 s hm
    · exact h2
  split
  · rename_i hu
    split
    · rename_i s hs
      exact Nat.max_le.2 ⟨h3, hscan hu s hs⟩
    · exact h3
  · exact h3

section Solver
open FP.Search

def KFeasible (inp : FlowInput) (j : Nat) : Prop := ∃ a, Sat a (kfdLP (inp.withK j))

/-- the status script tells the truth about the k-models: `optimal` only for feasible ones,
`infeasible` only for infeasible ones (any other status may appear anywhere) -/
def Faithful (inp : FlowInput) (σ : Nat → Status) : Prop :=
  ∀ j, (σ j = .optimal → KFeasible inp j) ∧ (σ j = .infeasible → ¬ KFeasible inp j)

/-- a solver that always finishes: every status is the truth -/
def Decisive (inp : FlowInput) (σ : Nat → Status) : Prop :=
  ∀ j, (KFeasible inp j → σ j = .optimal) ∧ (¬ KFeasible inp j → σ j = .infeasible)

end Solver

end FP
