import FP.Model.WalkCore
import FP.Proofs.ReachLemmas
import FP.Proofs.FlowLemmas
/-!
`reachFrom g v` iterates `stepClosure` `|V|` times. Each round either adds a vertex or has reached a
fixpoint, and a fixpoint is closed under the edges, so after `|V|` rounds everything reachable from `v`
is in the list (`reachFrom_complete`); every round adds only reachable vertices (`reachFrom_sound`). Together: membership in
`reachFrom` is `Reach` (`mem_reachFrom`), and the test behind `isSccEdge` is mutual reachability (`sameScc_iff`). Consequences:
an edge that a walk runs through twice closes a cycle (`reach_back_of_twice`), so a walk runs through an edge outside the SCCs
at most once (`nonScc_once`); an SCC edge has an edge into its tail and an edge out of its head
(`scc_edge_in_out`); of two edges of one walk the head of one reaches the tail of the other
(`reach_of_common_walk`). On a graph whose edges join its nodes (`Safety.GraphWF`) `reaching` contains everything that reaches the node (`reaching_complete`).
-/
namespace FP
open FP.Spec

/-- the fold body of `stepClosure` -/
def stepOne (acc : List Node) (e : Edge) : List Node :=
  if acc.contains e.1 && !acc.contains e.2 then acc ++ [e.2] else acc

theorem stepClosure_eq (es : List Edge) (seen : List Node) :
    stepClosure es seen = es.foldl stepOne seen := rfl

/-- a step adds at most the head of its edge, and that exactly when the tail is there -/
theorem mem_stepOne {acc : List Node} {e : Edge} {x : Node} :
    x ∈ stepOne acc e ↔ x ∈ acc ∨ (x = e.2 ∧ e.1 ∈ acc) := by
  unfold stepOne
  by_cases h1 : e.1 ∈ acc <;> by_cases h2 : e.2 ∈ acc <;> simp [h1, h2]
  exact fun h => h ▸ h2

theorem stepOne_nodup (acc : List Node) (e : Edge) (h : acc.Nodup) : (stepOne acc e).Nodup := by
  unfold stepOne; split
  · rename_i hc
    have h2 : e.2 ∉ acc := by
      rw [Bool.and_eq_true] at hc
      simpa using hc.2
    exact List.nodup_append.2 ⟨h, by simp, fun a ha b hb => by
      have : b = e.2 := by simpa using hb
      subst this
      exact fun hab => h2 (hab ▸ ha)⟩
  · exact h

theorem stepClosure_mono (es : List Edge) : ∀ (seen : List Node) (x : Node), x ∈ seen → x ∈ stepClosure es seen :=
  fun seen x => foldl_inv (x ∈ ·) stepOne es (fun _ _ _ h => mem_stepOne.2 (.inl h)) seen

theorem stepClosure_edge (es : List Edge) (seen : List Node) : ∀ e ∈ es, e.1 ∈ seen → e.2 ∈ stepClosure es seen := by
  intro e he h1
  -- the tail is there before the round reaches `e`, the head from then on
  obtain ⟨l1, l2, rfl⟩ := List.append_of_mem he
  rw [stepClosure_eq, List.foldl_append, List.foldl_cons]
  exact stepClosure_mono l2 _ _ (mem_stepOne.2 (.inr ⟨rfl, stepClosure_mono l1 _ _ h1⟩))

theorem stepClosure_prefix (es : List Edge) : ∀ seen : List Node, ∃ extra, stepClosure es seen = seen ++ extra :=
  fun seen => foldl_inv (fun acc => ∃ extra, acc = seen ++ extra) stepOne es
    (fun b e _ ⟨x, hx⟩ => by
      unfold stepOne; split
      · exact ⟨x ++ [e.2], by rw [hx, List.append_assoc]⟩
      · exact ⟨x, hx⟩)
    seen ⟨[], (List.append_nil _).symm⟩

theorem stepClosure_nodup (es : List Edge) : ∀ seen : List Node, seen.Nodup → (stepClosure es seen).Nodup :=
  foldl_inv List.Nodup stepOne es fun b e _ => stepOne_nodup b e

/-- a property of the start set that every edge carries from tail to head holds throughout a round -/
theorem stepClosure_forall (es : List Edge) (P : Node → Prop) (hP : ∀ e ∈ es, P e.1 → P e.2) :
    ∀ seen : List Node, (∀ x ∈ seen, P x) → ∀ x ∈ stepClosure es seen, P x :=
  foldl_inv (fun acc => ∀ x ∈ acc, P x) stepOne es fun _ e he hb x hx =>
    (mem_stepOne.1 hx).elim (hb x) fun h => h.1 ▸ hP e he (hb _ h.2)

theorem stepClosure_fix_of_length (es : List Edge) (seen : List Node)
    (h : (stepClosure es seen).length ≤ seen.length) : stepClosure es seen = seen := by
  obtain ⟨extra, he⟩ := stepClosure_prefix es seen
  rw [he] at h ⊢
  rw [List.length_append] at h
  have : extra = [] := List.eq_nil_of_length_eq_zero (by omega)
  rw [this]; simp

theorem closed_of_fix (es : List Edge) (S : List Node) (h : stepClosure es S = S) :
    ∀ e ∈ es, e.1 ∈ S → e.2 ∈ S := by
  intro e he h1
  have := stepClosure_edge es S e he h1
  rwa [h] at this

/-- what every round keeps, `closure` keeps -/
theorem closure_inv (es : List Edge) (P : List Node → Prop) (hP : ∀ seen, P seen → P (stepClosure es seen))
    (n : Nat) (seen : List Node) : P seen → P (closure es n seen) := by
  fun_induction closure es n seen with
  | case1 => exact id
  | case2 n seen ih => exact fun h => ih (hP seen h)

/-- a round adds a vertex or is a fixpoint, and `seen` stays inside `U`: once `|U| ≤ |seen| + n`, `n` more rounds reach a
fixpoint, which is closed under the edges -/
theorem closure_closed (es : List Edge) (U : List Node) (hU : ∀ e ∈ es, e.2 ∈ U) :
    ∀ (n : Nat) (seen : List Node), seen.Nodup → (∀ x ∈ seen, x ∈ U) → U.length ≤ seen.length + n →
      ∀ e ∈ es, e.1 ∈ closure es n seen → e.2 ∈ closure es n seen := by
  intro n seen
  fun_induction closure es n seen with
  | case1 seen =>
    intro hnd hsub hlen
    have hS := stepClosure_nodup es seen hnd
    have hSU := stepClosure_forall es (· ∈ U) (fun e he _ => hU e he) seen hsub
    have hle : (stepClosure es seen).length ≤ U.length := hS.length_le_of_subset (fun x hx => hSU x hx)
    have hfix := stepClosure_fix_of_length es seen (by omega)
    exact closed_of_fix es seen hfix
  | case2 n seen ih =>
    intro hnd hsub hlen
    by_cases hl : (stepClosure es seen).length ≤ seen.length
    · have hfix := stepClosure_fix_of_length es seen hl
      rw [hfix, closure_inv es (· = seen) (fun _ hs => hs ▸ hfix) n seen rfl]
      exact closed_of_fix es seen hfix
    · exact ih (stepClosure_nodup es seen hnd)
        (stepClosure_forall es (· ∈ U) (fun e he _ => hU e he) seen hsub) (by omega)

theorem reachFrom_complete {g : Graph} (hcl : ∀ e ∈ g.edges, e.1 ∈ g.nodes ∧ e.2 ∈ g.nodes) {v : Node} (y : Node)
    (hv : v ∈ g.nodes) (h : Reach g.edges v y) : y ∈ reachFrom g v := by
  unfold reachFrom
  have hclosed := closure_closed g.edges g.nodes (fun e he => (hcl e he).2) g.nodes.length [v]
    (by simp) (by intro x hx; have : x = v := by simpa using hx
                  rw [this]; exact hv) (by simp)
  exact reach_closed (S := (· ∈ closure g.edges g.nodes.length [v])) hclosed h
    (closure_inv g.edges (v ∈ ·) (fun s => stepClosure_mono g.edges s v) _ [v] (by simp))

theorem lookup_reachTable (g : Graph) (v : Node) (hv : v ∈ g.nodes) :
    lookupD (reachTable g) v [] = reachFrom g v :=
  lookupD_map_self _ hv []

theorem reachFrom_sound (g : Graph) (v y : Node) (h : y ∈ reachFrom g v) : Reach g.edges v y :=
  closure_inv g.edges (fun s => ∀ y ∈ s, Reach g.edges v y)
    (stepClosure_forall g.edges (Reach g.edges v) fun _ he h => h.step he) g.nodes.length [v] (fun y hy => by
    have : y = v := by simpa using hy
    rw [this]; exact Reach.refl _) y h

theorem mem_reachFrom (g : Graph) (hcl : ∀ e ∈ g.edges, e.1 ∈ g.nodes ∧ e.2 ∈ g.nodes) {v y : Node}
    (hv : v ∈ g.nodes) : y ∈ reachFrom g v ↔ Reach g.edges v y :=
  ⟨reachFrom_sound g v y, reachFrom_complete hcl y hv⟩

/-- a labelling that agrees with mutual reachability as `reachFrom` computes it is an SCC labelling -/
theorem scc_of_reachFrom {α} (g : Graph) (hcl : ∀ e ∈ g.edges, e.1 ∈ g.nodes ∧ e.2 ∈ g.nodes) (lab : Node → α)
    (h : ∀ u ∈ g.nodes, ∀ v ∈ g.nodes, lab u = lab v ↔ (v ∈ reachFrom g u ∧ u ∈ reachFrom g v)) :
    ∀ u ∈ g.nodes, ∀ v ∈ g.nodes, lab u = lab v ↔ (Reach g.edges u v ∧ Reach g.edges v u) := by
  intro u hu v hv
  rw [h u hu v hv, mem_reachFrom g hcl hu, mem_reachFrom g hcl hv]

/-- `mapping[u] == mapping[v]` as the model computes it is mutual reachability -/
theorem sameScc_iff (g : Graph) (hcl : ∀ e ∈ g.edges, e.1 ∈ g.nodes ∧ e.2 ∈ g.nodes) {u v : Node}
    (hu : u ∈ g.nodes) (hv : v ∈ g.nodes) :
    sameScc (reachTable g) u v = true ↔ Reach g.edges u v ∧ Reach g.edges v u := by
  unfold sameScc
  rw [lookup_reachTable g u hu, lookup_reachTable g v hv, Bool.and_eq_true, List.contains_iff_mem,
    List.contains_iff_mem, mem_reachFrom g hcl hu, mem_reachFrom g hcl hv]

/-- mutual reachability makes an SCC edge in the sense of `stDiGraph.is_scc_edge` -/
theorem isSccEdge_of_reach (g : Graph) (hcl : ∀ e ∈ g.edges, e.1 ∈ g.nodes ∧ e.2 ∈ g.nodes) (e : Edge)
    (he : e ∈ g.edges) (hback : Reach g.edges e.2 e.1) : isSccEdge g e = true :=
  (sameScc_iff g hcl (hcl e he).1 (hcl e he).2).2 ⟨Reach.single he, hback⟩

theorem reach_tail_of_walk (g : Graph) : ∀ (L : List Node) (x : Node), IsWalkIn g (x :: L) →
    ∀ e ∈ walkEdges (x :: L), Reach g.edges x e.1 := by
  intro L
  induction L with
  | nil => intro x _ e he; simp [walkEdges] at he
  | cons y ys ih =>
    intro x hW e he
    rw [we_cons_cons] at he
    rcases List.mem_cons.1 he with h | h
    · rw [h]; exact Reach.refl _
    · obtain ⟨hxy, hW'⟩ := isWalkIn_cons_cons.1 hW
      exact Reach.head hxy (ih y hW' e h)

theorem reach_back_of_twice (g : Graph) : ∀ (L : List Node), IsWalkIn g L → ∀ e : Edge,
    2 ≤ (walkEdges L).count e → Reach g.edges e.2 e.1 := by
  intro L
  induction L with
  | nil => intro _ e h; simp [walkEdges] at h
  | cons x L ih =>
    intro hW e h
    cases L with
    | nil => simp [walkEdges] at h
    | cons y ys =>
      rw [we_cons_cons] at h
      have hW' := hW.tail
      by_cases hxy : (x, y) = e
      · subst hxy
        rw [List.count_cons_self] at h
        exact reach_tail_of_walk g ys y hW' _ (List.count_pos_iff.1 (by omega))
      · rw [List.count_cons_of_ne hxy] at h
        exact ih hW' e h

theorem nonScc_once (g : Graph) (hcl : ∀ e ∈ g.edges, e.1 ∈ g.nodes ∧ e.2 ∈ g.nodes)
    (L : List Node) (hW : IsWalkIn g L) (e : Edge) (he : e ∈ g.edges) (hscc : isSccEdge g e = false) :
    traversals L e ≤ 1 := by
  apply Classical.byContradiction
  intro hgt
  have h2 : 2 ≤ (walkEdges L).count e := by unfold traversals at hgt; omega
  have := isSccEdge_of_reach g hcl e he (reach_back_of_twice g L hW e h2)
  rw [hscc] at this
  cases this

theorem scc_edge_in_out (g : Graph) (hcl : ∀ e ∈ g.edges, e.1 ∈ g.nodes ∧ e.2 ∈ g.nodes) (e : Edge)
    (he : e ∈ g.edges) (hs : isSccEdge g e = true) :
    (∃ e' ∈ g.edges, e'.2 = e.1) ∧ ∃ e' ∈ g.edges, e'.1 = e.2 := by
  have hback := ((sameScc_iff g hcl (hcl e he).1 (hcl e he).2).1 hs).2
  constructor
  · rcases reach_tail_cases hback with h1 | ⟨u, _, hu⟩
    · exact ⟨e, he, h1⟩
    · exact ⟨(u, e.1), hu, rfl⟩
  · rcases reach_head_cases hback with h1 | ⟨w, hw, _⟩
    · exact ⟨e, he, h1.symm⟩
    · exact ⟨(e.2, w), hw, rfl⟩

theorem reach_of_common_walk (g : Graph) (l : List Node) (hw : IsWalkIn g l)
    (e1 e2 : Edge) (h1 : e1 ∈ walkEdges l) (h2 : e2 ∈ walkEdges l) (hne : e1 ≠ e2) :
    Reach g.edges e1.2 e2.1 ∨ Reach g.edges e2.2 e1.1 := by
  induction l with
  | nil => simp [walkEdges] at h1
  | cons a l ih =>
    cases l with
    | nil => simp [walkEdges] at h1
    | cons c l =>
      have hw' := hw.tail
      rw [we_cons_cons] at h1 h2
      rcases List.mem_cons.1 h1 with rfl | h1
      · rcases List.mem_cons.1 h2 with rfl | h2
        · exact absurd rfl hne
        · exact Or.inl (reach_tail_of_walk g l c hw' e2 h2)
      · rcases List.mem_cons.1 h2 with rfl | h2
        · exact Or.inr (reach_tail_of_walk g l c hw' e1 h1)
        · exact ih hw' h1 h2

/-- the head of an edge entering a later component does not reach the tail of an edge leaving an
earlier one: in particular parallel edges between the same two components are pairwise unreachable,
so each of them needs a walk of its own (the multiplicities `stDiGraph.get_width` uses as demands) -/
theorem inter_scc_unreachable (es : List Edge) (comp : Node → Nat) (rank : Nat → Nat)
    (hmono : ∀ e ∈ es, comp e.1 = comp e.2 ∨ rank (comp e.1) < rank (comp e.2)) (e1 e2 : Edge)
    (h : rank (comp e2.1) < rank (comp e1.2)) : ¬ Reach es e1.2 e2.1 := by
  intro hr
  have := reach_rank_mono es comp rank hmono hr
  omega

end FP

namespace FP.Safety
open FP FP.Spec

/-- the well-formedness hypothesis of the safety theorems -/
def GraphWF (g : Graph) : Prop := ∀ e ∈ g.edges, e.1 ∈ g.nodes ∧ e.2 ∈ g.nodes

theorem reaching_complete (g : Graph) (hg : GraphWF g) (v a : Node) (hv : v ∈ g.nodes)
    (h : Reach g.edges a v) : a ∈ reaching g v := by
  show a ∈ reachFrom ⟨g.nodes, g.edges.map fun e => (e.2, e.1)⟩ v
  refine reachFrom_complete (fun e he => ?_) a hv (reach_swap.2 h)
  obtain ⟨e', he', rfl⟩ := List.mem_map.1 he
  exact ⟨(hg e' he').2, (hg e' he').1⟩

end FP.Safety
