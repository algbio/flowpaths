import FP.Proofs.STWF
/-!
# FP.Proofs.FlowPeel — a flow on an s-t graph is a sum of few paths and cycles

On an s-t graph (cycles allowed) a non-negative edge function that is conserved at the inner nodes and positive
somewhere is positive along a *piece*: a source-to-sink path or a simple closed walk (`exists_pos_piece`; follow
positive edges from the source, or backwards from a positive edge once nothing leaves the source, until the sink is
reached or a vertex repeats, `exists_stop_or_cycle`). Lowering the function along a piece by at most its least value
keeps a flow (`FlowOn.lower`). On the shape `augment` produces without additional starts/ends (`Thin`) every edge of a
positive piece dominates an inner edge of it (`inner_below_piece`), so lowering by the least inner value empties an
inner edge: at most `#inner edges with positive flow` pieces (`flow_pieces`, integral for an integral flow).
On a DAG every piece is a path (`STWF.piece_path`, `exists_pos_stwalk`); lowering along a path by `m` takes `m` off the
out-flow of its first node (`peel_src`).
-/
namespace FP
open FP.Spec

theorem closed_mem {x : Node} {b : List Node} {v : Node} : v ∈ x :: b ++ [x] ↔ v ∈ x :: b := by
  simp only [List.cons_append, List.mem_cons, List.mem_append, List.mem_nil_iff, or_false]
  exact ⟨fun h => h.elim Or.inl fun h => h.elim Or.inr Or.inl, fun h => h.elim Or.inl fun h => Or.inr (Or.inl h)⟩

theorem closed_ne_nil (x : Node) (b : List Node) : walkEdges (x :: b ++ [x]) ≠ [] := by
  cases b <;> simp [walkEdges]

theorem simple_closed_nodup {x : Node} {b : List Node} (hnd : (x :: b).Nodup) :
    (walkEdges (x :: b ++ [x])).Nodup := by
  apply nodup_of_map (·.1)
  rw [walkEdges_map_fst, List.dropLast_concat]; exact hnd

theorem closed_cons {g : Graph} (hnd : g.edges.Nodup) {x : Node} {b : List Node}
    (hW : IsWalkIn g (x :: b ++ [x])) (v : Node) :
    inflow g (cntR (walkEdges (x :: b ++ [x]))) v = outflow g (cntR (walkEdges (x :: b ++ [x]))) v :=
  Rat.add_right_cancel _ (walk_cons hnd hW rfl List.getLast?_concat v)

theorem closed_avoids {s : STGraph} (hwf : STWFc s) {x : Node} {b : List Node}
    (hW : IsWalkIn s.g (x :: b ++ [x])) {y : Node} (hy : y ∈ x :: b ++ [x]) : y ≠ s.source ∧ y ≠ s.sink := by
  have hy' := closed_mem.1 hy
  -- `y` is entered and left on the walk
  obtain ⟨u, hu⟩ := exists_we_into (w := x :: b ++ [x]) (v := y) (by
    show y ∈ b ++ [x]
    rcases List.mem_cons.1 hy' with h | h
    · exact List.mem_append_right _ (h ▸ List.mem_singleton_self x)
    · exact List.mem_append_left _ h)
  obtain ⟨w, hw⟩ := exists_walkEdge_from (x :: b ++ [x]) y (by rw [List.dropLast_concat]; exact hy')
  exact ⟨hwf.srcNoIn _ (hW _ hu), hwf.snkNoOut _ (hW _ hw)⟩

/-- Following a relation `P` on pairs in which every pair that does not end in a stopping vertex has a successor,
within finitely many vertices and from a duplicate-free sequence `w` already walked: a stopping vertex is reached
without repetition, or a vertex repeats and closes a simple closed walk. No measure on the vertices falls as in
`exists_chain`: the search ends because `nodes` is finite (induction on the room `w` leaves in it). -/
theorem exists_stop_or_cycle (nodes : List Node) (P : Edge → Prop) (stop : Node → Prop)
    (hnodes : ∀ u v, P (u, v) → v ∈ nodes) (hnext : ∀ u v, P (u, v) → ¬ stop v → ∃ x, P (v, x)) :
    ∀ (w : List Node) (v : Node), w.getLast? = some v →
      w.Nodup → (∀ u ∈ w, u ∈ nodes) → (∀ e ∈ walkEdges w, P e) → (stop v ∨ ∃ x, P (v, x)) →
      (∃ r t, (w ++ r).Nodup ∧ (∀ e ∈ walkEdges (w ++ r), P e) ∧ (w ++ r).getLast? = some t ∧ stop t) ∨
      ∃ x b, (x :: b).Nodup ∧ ∀ e ∈ walkEdges (x :: b ++ [x]), P e := by
  intro w
  induction hd : nodes.length - w.length using Nat.strongRecOn generalizing w with
  | ind d ih =>
    intro v hlast hnd hsub hpos hv
    by_cases hs : stop v
    · exact Or.inl ⟨[], v, by rwa [List.append_nil], by rwa [List.append_nil], by rwa [List.append_nil], hs⟩
    obtain ⟨x, hx⟩ := hv.resolve_left hs
    have hall : ∀ e ∈ walkEdges (w ++ [x]), P e := by
      intro e he
      rw [we_concat _ v x hlast] at he
      rcases List.mem_append.1 he with h | h
      · exact hpos e h
      · exact List.mem_singleton.1 h ▸ hx
    by_cases hmem : x ∈ w
    · obtain ⟨a, b, rfl⟩ := List.append_of_mem hmem
      refine Or.inr ⟨x, b, (List.nodup_append.1 hnd).2.1, fun e he => hall e ?_⟩
      rw [List.append_assoc]
      exact we_sub_append_left a _ e he
    · have hnd' : (w ++ [x]).Nodup := List.nodup_append.2 ⟨hnd, List.pairwise_singleton _ x,
        fun a ha b hb hab => hmem (List.mem_singleton.1 hb ▸ hab ▸ ha)⟩
      have hsub' : ∀ u ∈ w ++ [x], u ∈ nodes := fun u hu =>
        (List.mem_append.1 hu).elim (hsub u) fun h => List.mem_singleton.1 h ▸ hnodes v x hx
      -- the longer sequence still fits into `nodes`, so less room is left
      have hfit := hnd'.length_le_of_subset hsub'
      rw [List.length_append, List.length_singleton] at hfit
      rcases ih _ (by rw [← hd, List.length_append, List.length_singleton]; omega) (w ++ [x]) rfl x
          List.getLast?_concat hnd' hsub' hall ((Classical.em (stop x)).imp_right (hnext v x hx))
        with ⟨r, t, h1, h2, h3, h4⟩ | h
      · rw [List.append_assoc] at h1 h2 h3
        exact Or.inl ⟨[x] ++ r, t, h1, h2, h3, h4⟩
      · exact Or.inr h

/-- the shape of `augment base [] []` (`thin_augment`): a node fed by the source has no other in-edge, a
node feeding the sink no other out-edge -/
structure Thin (s : STGraph) : Prop where
  s1 : ∀ v, (s.source, v) ∈ s.g.edges → ∀ u, (u, v) ∈ s.g.edges → u = s.source
  s2 : ∀ v, (v, s.sink) ∈ s.g.edges → ∀ x, (v, x) ∈ s.g.edges → x = s.sink

/-- a non-negative edge function conserved at every node but the source and the sink; `s3`: a node joined to both
synthetic endpoints (an isolated node of the user's graph) carries nothing -/
structure FlowOn (s : STGraph) (φ : Edge → Rat) : Prop where
  nonneg : ∀ e ∈ s.g.edges, 0 ≤ φ e
  cons : ∀ v ∈ s.g.nodes, v ≠ s.source → v ≠ s.sink → inflow s.g φ v = outflow s.g φ v
  s3 : ∀ v, (s.source, v) ∈ s.g.edges → (v, s.sink) ∈ s.g.edges → φ (s.source, v) = 0

def isInner (s : STGraph) (e : Edge) : Bool := decide (e.1 ≠ s.source) && decide (e.2 ≠ s.sink)

/-- number of inner edges carrying positive flow: the measure of `flow_pieces` -/
def posInner (s : STGraph) (φ : Edge → Rat) : Nat :=
  s.g.edges.countP (fun e => decide (0 < φ e) && isInner s e)

theorem posInner_le (s : STGraph) (φ : Edge → Rat) :
    posInner s φ ≤ (s.g.edges.filter (isInner s)).length := by
  unfold posInner
  rw [← List.countP_eq_length_filter]
  apply List.countP_mono_left
  intro e _ h
  simp only [Bool.and_eq_true] at h
  exact h.2

/-- what is peeled off a flow: a source-to-sink walk or a closed walk, without a repeated edge -/
def IsPiece (s : STGraph) (l : List Node) : Prop :=
  IsWalkIn s.g l ∧ (walkEdges l).Nodup ∧ ((∃ p, l = s.source :: p ++ [s.sink]) ∨ ∃ x b, l = x :: b ++ [x])

section Find
variable {s : STGraph} {φ : Edge → Rat} (hwf : STWFc s) (hnn : ∀ e ∈ s.g.edges, 0 ≤ φ e)
  (hcons : ∀ v ∈ s.g.nodes, v ≠ s.source → v ≠ s.sink → inflow s.g φ v = outflow s.g φ v)
include hwf hnn hcons

theorem pos_next {u v : Node} (he : (u, v) ∈ s.g.edges) (hpos : 0 < φ (u, v)) (hv : v ≠ s.sink) :
    ∃ x, (v, x) ∈ s.g.edges ∧ 0 < φ (v, x) := by
  apply pos_out_edge hnn
  rw [← hcons v (hwf.closed _ he).2 (hwf.srcNoIn _ he) hv]
  exact Std.lt_of_lt_of_le hpos (le_inflow_of_mem hnn he)

theorem pos_prev {u v : Node} (he : (u, v) ∈ s.g.edges) (hpos : 0 < φ (u, v)) (hu : u ≠ s.source) :
    ∃ x, (x, u) ∈ s.g.edges ∧ 0 < φ (x, u) := by
  apply pos_in_edge hnn
  rw [hcons u (hwf.closed _ he).1 hu (hwf.snkNoOut _ he)]
  exact Std.lt_of_lt_of_le hpos (le_outflow_of_mem hnn he)

theorem exists_pos_piece (h : ∃ e ∈ s.g.edges, 0 < φ e) :
    ∃ l, IsPiece s l ∧ ∀ e ∈ walkEdges l, 0 < φ e := by
  have hcyc : ∀ x b, (x :: b).Nodup → (∀ e ∈ walkEdges (x :: b ++ [x]), e ∈ s.g.edges ∧ 0 < φ e) →
      ∃ l, IsPiece s l ∧ ∀ e ∈ walkEdges l, 0 < φ e := fun x b hnd hall =>
    ⟨_, ⟨fun e he => (hall e he).1, simple_closed_nodup hnd, Or.inr ⟨x, b, rfl⟩⟩, fun e he => (hall e he).2⟩
  by_cases hsrc : 0 < outflow s.g φ s.source
  · obtain ⟨v, he, hpos⟩ := pos_out_edge hnn _ hsrc
    have hc := hwf.closed _ he
    rcases exists_stop_or_cycle s.g.nodes (fun e => e ∈ s.g.edges ∧ 0 < φ e) (· = s.sink)
        (fun u v h => (hwf.closed _ h.1).2) (fun u v h hv => pos_next hwf hnn hcons h.1 h.2 hv)
        [s.source, v] v rfl
        (by simpa using Ne.symm (hwf.srcNoIn _ he))
        (by simp [hc.1, hc.2]) (by simp [walkEdges, he, hpos])
        ((Classical.em (v = s.sink)).imp_right (pos_next hwf hnn hcons he hpos))
      with ⟨r, t, hnd, hall, hlast, rfl⟩ | ⟨x, b, hnd, hall⟩
    · change (s.source :: v :: r).getLast? = _ at hlast
      rw [List.getLast?_cons_cons] at hlast
      refine ⟨s.source :: v :: r, ⟨fun e he => (hall e he).1, walkEdges_nodup hnd,
        Or.inl ⟨(v :: r).dropLast, ?_⟩⟩, fun e he => (hall e he).2⟩
      rw [List.cons_append, ← getLast?_eq_some_split hlast]
    · exact hcyc x b hnd hall
  · -- nothing leaves the source, so backwards from a positive edge the search never stops (forwards it could
    -- end in the sink with a walk that does not start at the source)
    obtain ⟨⟨u, v⟩, he, hpos⟩ := h
    have hprev : ∀ a b, (b, a) ∈ s.g.edges ∧ 0 < φ (b, a) → ∃ x, (x, b) ∈ s.g.edges ∧ 0 < φ (x, b) :=
      fun a b h => pos_prev hwf hnn hcons h.1 h.2 fun hb =>
        hsrc (Std.lt_of_lt_of_le h.2 (hb ▸ le_outflow_of_mem hnn h.1))
    rcases exists_stop_or_cycle s.g.nodes (fun e => (e.2, e.1) ∈ s.g.edges ∧ 0 < φ (e.2, e.1)) (fun _ => False)
        (fun a b h => (hwf.closed _ h.1).1) (fun a b h _ => hprev a b h)
        [u] u rfl (by simp)
        (by simp [(hwf.closed _ he).1]) (by simp [walkEdges]) (Or.inr (hprev v u ⟨he, hpos⟩))
      with ⟨_, _, _, _, _, hf⟩ | ⟨x, b, hnd, hall⟩
    · exact hf.elim
    · have hnd' := List.nodup_cons.1 hnd
      refine hcyc x b.reverse (List.nodup_cons.2 ⟨fun h => hnd'.1 (List.mem_reverse.1 h),
        (List.reverse_perm b).nodup_iff.2 hnd'.2⟩) fun e he => hall (e.2, e.1) (mem_we_reverse.1 ?_)
      simpa using he

end Find

section Below
variable {s : STGraph} {φ : Edge → Rat} (hwf : STWFc s) (hth : Thin s) (hf : FlowOn s φ)
include hwf hth hf

theorem inflow_le_of_src {v : Node} (hsv : (s.source, v) ∈ s.g.edges) : inflow s.g φ v ≤ φ (s.source, v) :=
  sum_le_of_all_eq _ (hwf.edgesNodup.sublist List.filter_sublist) φ _ (hf.nonneg _ hsv)
    (fun ⟨a, b⟩ he => by
      obtain ⟨hm, h2⟩ := List.mem_filter.1 he
      obtain rfl : b = v := of_decide_eq_true h2
      rw [hth.s1 _ hsv a hm])

theorem outflow_le_of_snk {v : Node} (hvt : (v, s.sink) ∈ s.g.edges) : outflow s.g φ v ≤ φ (v, s.sink) :=
  sum_le_of_all_eq _ (hwf.edgesNodup.sublist List.filter_sublist) φ _ (hf.nonneg _ hvt)
    (fun ⟨a, b⟩ he => by
      obtain ⟨hm, h1⟩ := List.mem_filter.1 he
      obtain rfl : a = v := of_decide_eq_true h1
      rw [hth.s2 _ hvt b hm])

/-- on a positive walk every non-inner edge dominates some inner edge of the walk: after the first
edge `(source, v)` comes an inner edge out of `v`, before the last edge `(z, sink)` an inner edge
into `z`, and `Thin` makes the synthetic edge carry everything that passes `v` resp. `z` -/
theorem inner_below (p : List Node)
    (hw : ∀ e ∈ walkEdges (s.source :: p ++ [s.sink]), e ∈ s.g.edges ∧ 0 < φ e)
    (e : Edge) (he : e ∈ walkEdges (s.source :: p ++ [s.sink])) (hni : isInner s e = false) :
    ∃ e' ∈ walkEdges (s.source :: p ++ [s.sink]), isInner s e' = true ∧ φ e' ≤ φ e := by
  obtain ⟨u, v⟩ := e
  obtain ⟨hee, hpos⟩ := hw _ he
  by_cases h1 : u = s.source
  · subst h1
    have hvne : v ≠ s.sink := fun h2 => hwf.noDirect (h2 ▸ hee)
    have hvs : v ≠ s.source := hwf.srcNoIn _ hee
    obtain ⟨x, hx⟩ := exists_walkEdge_from (s.source :: p ++ [s.sink]) v (by
      rw [List.dropLast_concat]
      exact (List.mem_append.1 (we_snd_mem he)).resolve_right fun h => hvne (List.mem_singleton.1 h))
    have hxe := (hw _ hx).1
    refine ⟨(v, x), hx, ?_, ?_⟩
    · have hxs : x ≠ s.sink := by
        intro hxs
        subst hxs
        rw [hf.s3 v hee hxe] at hpos
        exact absurd hpos (by decide)
      simp [isInner, hvs, hxs]
    · refine Rat.le_trans (le_outflow_of_mem hf.nonneg hxe) ?_
      rw [← hf.cons v (hwf.closed _ hee).2 hvs hvne]
      exact inflow_le_of_src hwf hth hf hee
  · have h2 : v = s.sink := by simpa [isInner, h1] using hni
    subst h2
    have hune : u ≠ s.sink := hwf.snkNoOut _ hee
    obtain ⟨y, hy⟩ := exists_we_into (w := s.source :: p ++ [s.sink])
      ((List.mem_cons.1 (we_fst_mem he)).resolve_left h1)
    obtain ⟨hye, hypos⟩ := hw _ hy
    refine ⟨(y, u), hy, ?_, ?_⟩
    · have hys : y ≠ s.source := by
        intro hys
        subst hys
        rw [hf.s3 u hye hee] at hypos
        exact absurd hypos (by decide)
      simp [isInner, hys, hune]
    · refine Rat.le_trans (le_inflow_of_mem hf.nonneg hye) ?_
      rw [hf.cons u (hwf.closed _ hee).1 h1 hune]
      exact outflow_le_of_snk hwf hth hf hee

/-- every edge of a positive piece dominates an inner edge of it; a closed walk has inner edges only -/
theorem inner_below_piece {l : List Node} (hl : IsPiece s l) (hpos : ∀ e ∈ walkEdges l, 0 < φ e)
    (e : Edge) (he : e ∈ walkEdges l) : ∃ e' ∈ walkEdges l, isInner s e' = true ∧ φ e' ≤ φ e := by
  by_cases hi : isInner s e = true
  · exact ⟨e, he, hi, Rat.le_refl⟩
  rcases hl.2.2 with ⟨p, rfl⟩ | ⟨x, b, rfl⟩
  · exact inner_below hwf hth hf p (fun e he => ⟨hl.1 e he, hpos e he⟩) e he (by simpa using hi)
  · have h1 := closed_avoids hwf hl.1 (we_fst_mem he)
    have h2 := closed_avoids hwf hl.1 (we_snd_mem he)
    exact absurd (by simp [isInner, h1.1, h2.2]) hi

end Below

theorem IsPiece.ne_nil {s : STGraph} {l : List Node} (hl : IsPiece s l) : walkEdges l ≠ [] := by
  rcases hl.2.2 with ⟨p, rfl⟩ | ⟨x, b, rfl⟩
  · cases p <;> simp [walkEdges]
  · exact closed_ne_nil x b

theorem FlowOn.lower {s : STGraph} {φ : Edge → Rat} (hwf : STWFc s) (hf : FlowOn s φ) {l : List Node}
    (hl : IsPiece s l) {m : Rat} (hm0 : 0 ≤ m) (hmin : ∀ e ∈ walkEdges l, m ≤ φ e) :
    FlowOn s (lowerAlong φ m (walkEdges l)) := by
  have hnn : ∀ e ∈ s.g.edges, 0 ≤ lowerAlong φ m (walkEdges l) e := by
    intro e he
    by_cases hmem : e ∈ walkEdges l
    · rw [lowerAlong_mem φ m hl.2.1 e hmem]; exact (Rat.le_iff_sub_nonneg _ _).1 (hmin e hmem)
    · rw [lowerAlong_not_mem φ m _ e hmem]; exact hf.nonneg e he
  refine ⟨hnn, fun v hv h1 h2 => ?_, fun v hsv hvs => ?_⟩
  · rw [inflow_lowerAlong, outflow_lowerAlong, hf.cons v hv h1 h2]
    rcases hl.2.2 with ⟨p, rfl⟩ | ⟨x, b, rfl⟩
    · rw [path_cons hwf.edgesNodup hl.1 h1 h2]
    · rw [closed_cons hwf.edgesNodup hl.1]
  · exact Rat.le_antisymm (hf.s3 v hsv hvs ▸ lowerAlong_le φ hm0 hl.2.1 _) (hnn _ hsv)

/-- Strong induction on the number of inner edges with positive flow: lowering the flow along a positive piece by
the least value of its inner edges, which is the least value of the piece, empties one of them. -/
theorem flow_pieces (s : STGraph) (hwf : STWFc s) (hth : Thin s) (isInt : Bool) :
    ∀ (φ : Edge → Rat), FlowOn s φ → (isInt = true → ∀ e ∈ s.g.edges, ∃ z : Int, φ e = z) →
      ∃ D : List (List Node × Rat), D.length ≤ posInner s φ ∧
        (∀ d ∈ D, IsPiece s d.1 ∧ (∃ e ∈ walkEdges d.1, isInner s e = true) ∧ 0 < d.2 ∧
          (isInt = true → ∃ z : Int, d.2 = z)) ∧
        ∀ e ∈ s.g.edges, (D.map fun d => d.2 * cntR (walkEdges d.1) e).sum = φ e := by
  intro φ
  induction hk : posInner s φ using Nat.strongRecOn generalizing φ with
  | ind k ih =>
    intro hf hint
    by_cases hz : ∃ e ∈ s.g.edges, 0 < φ e
    · obtain ⟨l, hl, hpos⟩ := exists_pos_piece hwf hf.nonneg hf.cons hz
      have hdom := inner_below_piece hwf hth hf hl hpos
      obtain ⟨e1, he1⟩ := List.exists_mem_of_ne_nil _ hl.ne_nil
      obtain ⟨eb, heb, hbb, _⟩ := hdom e1 he1
      obtain ⟨em, hem, hmin⟩ := exists_min _ φ (List.ne_nil_of_mem (List.mem_filter.2 ⟨heb, hbb⟩))
      obtain ⟨hemw, hemi⟩ := List.mem_filter.1 hem
      have hminall : ∀ e ∈ walkEdges l, φ em ≤ φ e := fun e he =>
        let ⟨e', he', hb', hle'⟩ := hdom e he
        Rat.le_trans (hmin e' (List.mem_filter.2 ⟨he', hb'⟩)) hle'
      have hmpos : 0 < φ em := hpos em hemw
      have hm0 := Rat.le_of_lt hmpos
      have h0 : lowerAlong φ (φ em) (walkEdges l) em = 0 := by
        rw [lowerAlong_mem φ _ hl.2.1 em hemw]; exact Rat.sub_self
      have hlt : posInner s (lowerAlong φ (φ em) (walkEdges l)) < k := by
        rw [← hk]
        refine countP_lt_countP _ _ _ (fun e _ he => ?_) em (hl.1 em hemw) (by simp [hemi, hmpos])
          (by rw [h0]; rfl)
        simp only [Bool.and_eq_true, decide_eq_true_eq] at he ⊢
        exact ⟨Std.lt_of_lt_of_le he.1 (lowerAlong_le φ hm0 hl.2.1 e), he.2⟩
      have hint' : isInt = true → ∀ e ∈ s.g.edges, ∃ z : Int, lowerAlong φ (φ em) (walkEdges l) e = z := by
        intro hI e he
        by_cases hmem : e ∈ walkEdges l
        · rw [lowerAlong_mem φ _ hl.2.1 e hmem]
          exact sub_isInt (hint hI e he) (hint hI em (hl.1 em hemw))
        · rw [lowerAlong_not_mem φ _ _ e hmem]
          exact hint hI e he
      obtain ⟨D', hlen, hD', hex⟩ := ih _ hlt _ rfl (hf.lower hwf hl hm0 hminall) hint'
      refine ⟨(l, φ em) :: D', by simp only [List.length_cons]; omega,
        List.forall_mem_cons.2 ⟨⟨hl, ⟨em, hemw, hemi⟩, hmpos, fun hI => hint hI em (hl.1 em hemw)⟩, hD'⟩,
        fun e he => ?_⟩
      simp only [List.map_cons, List.sum_cons]
      rw [hex e he]
      exact add_lowerAlong φ _ _ e
    · exact ⟨[], Nat.zero_le _, fun _ hd => absurd hd List.not_mem_nil, fun e he =>
        (Rat.le_antisymm (Rat.not_lt.1 fun h => hz ⟨e, he, h⟩) (hf.nonneg e he)).symm⟩

theorem STWF.piece_path {s : STGraph} (hwf : STWF s) {l : List Node} (hl : IsPiece s l) :
    ∃ p, l = s.source :: p ++ [s.sink] := by
  obtain ⟨hW, _, hp | ⟨x, b, rfl⟩⟩ := hl
  · exact hp
  · have := stwalk_nodup hwf hW
    rw [List.cons_append, List.nodup_cons] at this
    exact absurd (List.mem_append_right _ (List.mem_singleton_self x)) this.1

theorem exists_pos_stwalk {s : STGraph} {φ : Edge → Rat} (hwf : STWF s) (hnn : ∀ e ∈ s.g.edges, 0 ≤ φ e)
    (hcons : ∀ v ∈ s.g.nodes, v ≠ s.source → v ≠ s.sink → inflow s.g φ v = outflow s.g φ v)
    (hsrc : 0 < outflow s.g φ s.source) :
    ∃ p, ∀ e ∈ walkEdges (s.source :: p ++ [s.sink]), e ∈ s.g.edges ∧ 0 < φ e := by
  obtain ⟨v, he, hpos⟩ := pos_out_edge hnn _ hsrc
  obtain ⟨l, hl, hpl⟩ := exists_pos_piece hwf.toC hnn hcons ⟨_, he, hpos⟩
  obtain ⟨p, rfl⟩ := hwf.piece_path hl
  exact ⟨p, fun e he => ⟨hl.1 e he, hpl e he⟩⟩

section Peel
variable {φ : Edge → Rat} (m : Rat) {g : Graph} {a b : Node} {p : List Node} (hnd : g.edges.Nodup)
  (hW : IsWalkIn g (a :: p ++ [b]))
include hnd hW

theorem peel_cons {v : Node} (ha : v ≠ a) (hb : v ≠ b) (hc : inflow g φ v = outflow g φ v) :
    inflow g (lowerAlong φ m (walkEdges (a :: p ++ [b]))) v
      = outflow g (lowerAlong φ m (walkEdges (a :: p ++ [b]))) v := by
  rw [inflow_lowerAlong, outflow_lowerAlong, hc, path_cons hnd hW ha hb]

theorem peel_src (ha : a ∉ p) :
    outflow g (lowerAlong φ m (walkEdges (a :: p ++ [b]))) a = outflow g φ a - m := by
  rw [outflow_lowerAlong, path_src hnd hW ha, Rat.mul_one]

end Peel

end FP
