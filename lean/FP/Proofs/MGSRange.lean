import FP.Proofs.MGS
import FP.Proofs.MGSPartitionRangeCut
import FP.Proofs.Search
/-! The search range of `MinGenSet.solve` contains the optimum:
`upper = #distinct numbers + 1 + Σ (len(con) − 1)` (fix 6c30e65), loop `range(lowerbound, max(lowerbound, upper) + 1)`.
`[total]` cut at every distinct number and at every inner prefix sum of every constraint is a solution with exactly
`upper` elements, in which every number and every part is a run of consecutive pieces; padding with zeros gives
every larger size. -/
namespace FP.GS
open FP FP.Spec FP.Search

/-- `len(set(self.numbers))` -/
def distinctCount (numbers : List Rat) : Nat := numbers.eraseDups.length

/-- exclusive upper end of the loop: `max(lowerbound, upper) + 1` -/
def mgsHi (inp : MGSInput) (lb : Nat) : Nat :=
  let parts : Nat := match inp.partition with
    | none => 0
    | some cons => (cons.map fun c => c.length - 1).sum
  max lb (distinctCount inp.numbers + 1 + parts) + 1

/-- `upper` of `solve()`: `len(set(numbers)) + 1 + Σ (len(con) − 1)` -/
def mgsUpper (inp : MGSInput) : Nat :=
  distinctCount inp.numbers + 1 + match inp.partition with
    | none => 0
    | some cons => (cons.map fun c => c.length - 1).sum

theorem mgsHi_eq (inp : MGSInput) (lb : Nat) : mgsHi inp lb = max lb (mgsUpper inp) + 1 := rfl

/-- hypotheses on the data under which a solution exists at all: numbers within `[0, total]`, integral data
for `weight_type=int`, a multiplicity the encoding can express at least once -/
structure MgsData (inp : MGSInput) : Prop where
  total_nonneg : 0 ≤ inp.total
  bounded : ∀ x ∈ inp.numbers, 0 ≤ x ∧ x ≤ inp.total
  mult_pos : 1 ≤ inp.maxMult
  eff : inp.maxMult = 1 ∨ 0 < inp.total
  integral : inp.weightInt = true → AllInt inp.numbers ∧ ∃ z : Int, inp.total = z

/-- what the constructor checks (`sum(con) == total`) and what the docstring asks of partition constraints
(number partitions of `total`: at least one part, non-negative parts; integral parts for `weight_type=int`) -/
def MgsPartData (inp : MGSInput) : Prop :=
  ∀ cons, inp.partition = some cons → ∀ con ∈ cons,
    con ≠ [] ∧ con.sum = inp.total ∧ (∀ x ∈ con, 0 ≤ x) ∧ (inp.weightInt = true → AllInt con)

theorem forall_partition {inp : MGSInput} {cs : List (List Rat)} (h : inp.partition = some cs)
    {P : List (List Rat) → List Rat → Prop} (hP : ∀ con ∈ cs, P cs con) :
    ∀ cons, inp.partition = some cons → ∀ con ∈ cons, P cons con := by
  intro cons hc
  rw [h] at hc
  cases hc
  exact hP

/-- the elements the LP sends to a part without a sum row carry the value 0 and are re-assigned -/
theorem mgs_respects {inp : MGSInput} {k : Nat} (a : Asg) (h : Sat a (mgsLP inp k))
    {cons : List (List Rat)} (hp : inp.partition = some cons) {con : List Rat} (hcon : con ∈ cons)
    (hs : con ≠ [] ∧ con.sum = inp.total) : RespectsPartition (mgsGen a k) con := by
  obtain ⟨asg, ha1, _, ha3⟩ := mgs_parts_of_sat a h hp hcon
  obtain ⟨⟨h1, h2, _⟩, _⟩ := mgs_sound_effMult inp k a h
  exact respectsPartition_reassign _ _ asg hs.1 h2 (by rw [h1, hs.2]) (by simp [mgsGen, ha1]) ha3

/-- `hresp`: whatever shows that the satisfying assignments respect the partition constraints of this input -/
theorem mgs_feasible_iff_of (inp : MGSInput) (k : Nat)
    (hside : inp.maxMult = 1 ∨ ∀ x ∈ inp.numbers, x ≤ inp.total)
    (hresp : ∀ a, Sat a (mgsLP inp k) → ∀ cons, inp.partition = some cons → ∀ con ∈ cons,
      RespectsPartition (mgsGen a k) con) :
    (∃ a, Sat a (mgsLP inp k)) ↔ SolvableAt inp k := by
  constructor
  · rintro ⟨a, h⟩
    obtain ⟨h1, h2⟩ := mgs_sound_effMult inp k a h
    exact ⟨mgsGen a k, by simp [mgsGen], h1, h2, hresp a h⟩
  · rintro ⟨g, rfl, hg⟩
    obtain ⟨a, ha, _⟩ := mgs_complete_sorted inp g hg hside
    exact ⟨a, ha⟩

/-- the inner prefix sums `c₀, c₀+c₁, …` of a constraint (without `0` and `Σ con`) -/
def mgsp_inner (con : List Rat) : List Rat :=
  (List.range (con.length - 1)).map fun m => (con.take (m + 1)).sum

/-- all break points: the distinct numbers and the inner prefix sums of every constraint -/
def mgsp_breaks (inp : MGSInput) : List Rat :=
  inp.numbers.eraseDups ++
    (match inp.partition with
     | none => []
     | some cons => cons.flatMap mgsp_inner)

/-- `[total]` cut at every point of `bs`: the gaps between the sorted points -/
def gaps (total : Rat) (bs : List Rat) : List Rat := diffs 0 (sortRat bs ++ [total])

theorem gaps_total (total : Rat) (h0 : 0 ≤ total) (bs : List Rat) (hb : ∀ b ∈ bs, 0 ≤ b ∧ b ≤ total) :
    (gaps total bs).length = bs.length + 1 ∧ (gaps total bs).sum = total ∧
      (∀ y ∈ gaps total bs, 0 ≤ y) ∧ (∀ b ∈ bs, IsPrefixSum (gaps total bs) b) ∧
      ((∃ z : Int, total = z) → AllInt bs → AllInt (gaps total bs)) := by
  have hp := sortRat_perm bs
  have hb' : ∀ b ∈ sortRat bs, 0 ≤ b ∧ b ≤ total := fun b h => hb b (hp.mem_iff.1 h)
  obtain ⟨h1, h2, h3, h4, h5⟩ := gaps_spec total (sortRat bs) (List.pairwise_cons.2
    ⟨fun y hy => (List.mem_append.1 hy).elim (fun h => (hb' y h).1) fun h => List.mem_singleton.1 h ▸ h0,
     List.pairwise_append.2 ⟨sortRat_pairwise bs, List.pairwise_singleton _ _,
       fun y hy z hz => List.mem_singleton.1 hz ▸ (hb' y hy).2⟩⟩)
  exact ⟨by rw [← hp.length_eq]; exact h1, h2, h3, fun b h => h4 b (hp.mem_iff.2 h),
    fun hz hi => h5 hz fun y hy => hi y (hp.mem_iff.1 hy)⟩

def mgsp_pieces (inp : MGSInput) : List Rat := gaps inp.total (mgsp_breaks inp)

theorem mem_mgsp_breaks (inp : MGSInput) (b : Rat) :
    b ∈ mgsp_breaks inp ↔ b ∈ inp.numbers ∨ ∃ cons, inp.partition = some cons ∧
      ∃ con ∈ cons, ∃ m, m < con.length - 1 ∧ (con.take (m + 1)).sum = b := by
  unfold mgsp_breaks
  cases inp.partition with
  | none => simp only [List.append_nil, List.mem_eraseDups, reduceCtorEq, false_and, exists_false, or_false]
  | some cons =>
    simp only [List.mem_append, List.mem_eraseDups, List.mem_flatMap, mgsp_inner, List.mem_map, List.mem_range,
      Option.some.injEq, exists_eq_left']

theorem mgsp_breaks_length (inp : MGSInput) : (mgsp_breaks inp).length + 1 = mgsUpper inp := by
  unfold mgsp_breaks mgsUpper distinctCount
  cases inp.partition with
  | none => simp
  | some cons =>
    simp only [List.length_append, List.length_flatMap]
    have : (cons.map fun c => (mgsp_inner c).length) = cons.map fun c => c.length - 1 := by
      apply List.map_congr_left
      intro c _
      simp [mgsp_inner]
    rw [this]; omega

theorem mgsp_pieces_solution (inp : MGSInput) (hd : MgsData inp)
    (hpd : MgsPartData inp) : (mgsp_pieces inp).length = mgsUpper inp ∧ MgsSolution inp (mgsp_pieces inp) := by
  have hbounds : ∀ b ∈ mgsp_breaks inp, 0 ≤ b ∧ b ≤ inp.total := by
    intro b hb
    rcases (mem_mgsp_breaks inp b).1 hb with h | ⟨cons, hp, con, hcon, m, _, rfl⟩
    · exact hd.bounded b h
    · obtain ⟨_, hs, hnn, _⟩ := hpd cons hp con hcon
      rw [← hs]
      exact sum_take_le con hnn (m + 1)
  obtain ⟨h1, h2, h3, h5, h6⟩ := gaps_total inp.total hd.total_nonneg (mgsp_breaks inp) hbounds
  refine ⟨by rw [← mgsp_breaks_length]; exact h1, ⟨h2, h3, ?_⟩, ?_, ?_⟩
  · intro a ha
    exact generates_mono _ (mgsEffMult_pos inp hd.mult_pos hd.eff)
      (generates_of_isPrefixSum _ a (h5 a ((mem_mgsp_breaks inp a).2 (Or.inl ha))))
  · intro hw
    obtain ⟨hnum, hztot⟩ := hd.integral hw
    refine h6 hztot fun b hb => ?_
    rcases (mem_mgsp_breaks inp b).1 hb with h | ⟨cons, hp, con, hcon, m, _, rfl⟩
    · exact hnum b h
    · rw [← List.map_id (con.take (m + 1))]
      exact sum_map_isInt fun y hy => (hpd cons hp con hcon).2.2.2 hw y (List.mem_of_mem_take hy)
  · intro cons hp con hcon
    obtain ⟨hne, hs, hnn, _⟩ := hpd cons hp con hcon
    exact respectsPartition_of_prefix con _ hne h3 hnn (by rw [hs]; exact h2) fun m hlt =>
      h5 _ ((mem_mgsp_breaks inp _).2 (Or.inr ⟨cons, hp, con, hcon, m, Nat.lt_sub_of_add_lt hlt, rfl⟩))

theorem mgsp_solvable_mono (inp : MGSInput)
    (hne : ∀ cons, inp.partition = some cons → ∀ con ∈ cons, con ≠ []) (k k' : Nat) (hk : k ≤ k')
    (h : SolvableAt inp k) : SolvableAt inp k' := by
  induction hk with
  | refl => exact h
  | step _ ih =>
    -- one more element: a zero, sent to part 0
    obtain ⟨g, hlen, hg, hint, hpart⟩ := ih
    refine ⟨0 :: g, by simp [hlen], isGenSet_cons_zero g _ _ _ hg, ?_, ?_⟩
    · intro hw x hx
      rcases List.mem_cons.1 hx with rfl | hm
      · exact ⟨0, rfl⟩
      · exact hint hw x hm
    · intro cons hc con hcon
      exact respectsPartition_cons_zero g con (hne cons hc con hcon) (hpart cons hc con hcon)

/-- of the solver only this is used: a feasible size is reported optimal, an infeasible one infeasible -/
theorem mgsp_range_least (inp : MGSInput) (σ : Nat → Status)
    (hopt : ∀ k, (∃ a, Sat a (mgsLP inp k)) → σ k = .optimal)
    (hinf : ∀ k, (¬ ∃ a, Sat a (mgsLP inp k)) → σ k = .infeasible)
    (hd : MgsData inp) (hpd : MgsPartData inp) (lb : Nat) :
    ∃ m, (stopSearch σ lb (mgsHi inp lb)).solved = some m ∧ SolvableAt inp m ∧ lb ≤ m ∧
      ∀ j, lb ≤ j → j < m → ¬ SolvableAt inp j := by
  have hne : ∀ cons, inp.partition = some cons → ∀ con ∈ cons, con ≠ [] :=
    fun cons hc con hcon => (hpd cons hc con hcon).1
  have hiff : ∀ k, (∃ a, Sat a (mgsLP inp k)) ↔ SolvableAt inp k := fun k =>
    mgs_feasible_iff_of inp k (Or.inr fun x hx => (hd.bounded x hx).2) fun a h cons hc con hcon =>
      mgs_respects a h hc hcon ⟨(hpd cons hc con hcon).1, (hpd cons hc con hcon).2.1⟩
  have htop : SolvableAt inp (max lb (mgsUpper inp)) :=
    mgsp_solvable_mono inp hne _ _ (Nat.le_max_right _ _) ⟨_, mgsp_pieces_solution inp hd hpd⟩
  obtain ⟨m, hm2, ⟨hm1, hm3⟩, hmin⟩ := exists_least (fun j => lb ≤ j ∧ SolvableAt inp j) _
    ⟨Nat.le_max_left lb (mgsUpper inp), htop⟩
  have hm4 : ∀ j, lb ≤ j → j < m → ¬ SolvableAt inp j := fun j h1 h2 h3 => hmin j h2 ⟨h1, h3⟩
  refine ⟨m, ?_, hm3, hm1, hm4⟩
  refine (stopLoop_solved_iff σ _ _ _ _).2 ⟨hm1, ?_, ?_, ?_⟩
  · rw [mgsHi_eq]; omega
  · exact hopt m ((hiff m).2 hm3)
  · intro j hj1 hj2
    exact hinf j (fun hf => hm4 j hj1 hj2 ((hiff j).1 hf))

/-- an empty constraint `[]` (accepted by the constructor when `total = 0`) is respected by the empty multiset
only: no solution of size `≥ 1` -/
theorem mgsp_empty_constraint_unsolvable (inp : MGSInput) (cons : List (List Rat))
    (hp : inp.partition = some cons) (h : [] ∈ cons) (m : Nat) (hm : 1 ≤ m) : ¬ SolvableAt inp m := by
  rintro ⟨g, hlen, _, _, hpart⟩
  obtain ⟨asg, h1, h2, _⟩ := hpart cons hp [] h
  cases asg with
  | nil => simp at h1; omega
  | cons p ps => exact absurd (h2 p (List.mem_cons_self ..)) (by simp)

/-- `total = 0`: the empty multiset is a solution (also with empty constraints) and `lowerbound = 0` finds it -/
theorem mgsp_range_zero (inp : MGSInput) (σ : Nat → Status)
    (hopt : (∃ a, Sat a (mgsLP inp 0)) → σ 0 = .optimal) (hb : ∀ x ∈ inp.numbers, 0 ≤ x ∧ x ≤ inp.total)
    (hpd : ∀ cons, inp.partition = some cons → ∀ con ∈ cons, con.sum = inp.total ∧ ∀ x ∈ con, 0 ≤ x)
    (hz : inp.total = 0) :
    (stopSearch σ 0 (mgsHi inp 0)).solved = some 0 ∧ SolvableAt inp 0 := by
  have hsol : MgsSolution inp [] := by
    refine ⟨⟨by rw [hz]; rfl, fun x hx => by simp at hx, ?_⟩, fun _ x hx => by simp at hx, ?_⟩
    · intro a ha
      have := hb a ha
      rw [hz] at this
      rw [Rat.le_antisymm this.2 this.1]; exact generates_zero _ _
    · intro cons hp con hcon
      obtain ⟨hs, hnn⟩ := hpd cons hp con hcon
      refine ⟨[], rfl, fun p hp' => by simp at hp', fun j hj => ?_⟩
      rw [partSum_nil]
      exact (all_zero_of_sum_zero (f := id) hnn (by rw [List.map_id, hs, hz]) _ (getD_mem 0 hj)).symm
  refine ⟨?_, [], rfl, hsol⟩
  refine (stopLoop_solved_iff σ _ _ _ _).2 ⟨Nat.le_refl _, ?_, ?_, ?_⟩
  · rw [mgsHi_eq]; omega
  · obtain ⟨a, ha, _⟩ := mgs_complete_sorted inp [] hsol
      (Or.inr fun x hx => (hb x hx).2)
    exact hopt ⟨a, ha⟩
  · intro j hj1 hj2; omega

theorem isGenSet_124 : IsGenSet [1, 2, 4] 7 [1, 2, 4] 1 := by decide +kernel

/-- numbers `[1, 2, 4]`, total `7`, multiplicity 1: `{1, 2, 4}` is a solution as soon as it respects the
constraints, and no smaller multiset is one -/
theorem solvable_124 (inp : MGSInput) (hn : inp.numbers = [1, 2, 4]) (ht : inp.total = 7) (hm : inp.maxMult = 1)
    (hpart : ∀ cons, inp.partition = some cons → ∀ con ∈ cons, RespectsPartition [1, 2, 4] con) :
    SolvableAt inp 3 ∧ ∀ j, j < 3 → ¬ SolvableAt inp j := by
  have heff := mgsEffMult_one inp hm
  refine ⟨⟨[1, 2, 4], rfl, ?_, fun _ => by decide, hpart⟩, ?_⟩
  · rw [heff, ht, hn]; exact isGenSet_124
  · rintro j hj ⟨g, hlen, hg, _⟩
    rw [heff, ht, hn] at hg
    exact no_small_genset_of_three [1, 2, 4] (by decide) (by decide) (by decide) g (by omega) hg

end FP.GS
