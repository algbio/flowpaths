import FP.Proofs.WalkCoreExample
import FP.Proofs.KFDCWalks
/-!
The repetition cap `edge_upper_bounds[e] = floor(flow(e))` of an SCC edge (fix fcfd0b0) excludes no
decomposition with weights `≥ 1` (`cap_adequate_floor`), but it is not scale invariant: `ScaleWitness` is
`s → a → t` with a self-loop at `a`; with all flows `1` the LP for `k = 1` is satisfiable, with all flows `1/2`
(float weights) it is not for any `k`, although `[s, a, a, t]` with weight `1/2` decomposes the scaled flow.
-/
namespace FP
open FP.Spec

namespace ScaleWitness

def base : Graph := WalkCoreExample.base

/-- `s → a → t` with a self-loop at `a`, every edge with flow `c`; `weight_type = float` -/
def inp (c : Rat) (k : Nat) : WalkInput :=
  { base := base, flow := [(("s", "a"), c), (("a", "a"), c), (("a", "t"), c)], weightInt := false,
    cfg := { k := k } }

theorem inp_st (c : Rat) (k : Nat) : (inp c k).st = WalkCoreExample.st := rfl

theorem loop_mem (c : Rat) (k : Nat) : ("a", "a") ∈ (inp c k).st.g.edges := by
  rw [inp_st, WalkCoreExample.st_edges]; decide

theorem loop_active (c : Rat) (k : Nat) : ("a", "a") ∈ (inp c k).activeEdges false :=
  (mem_activeEdges_false _ _).2 ⟨loop_mem c k, (by decide : "a" ≠ "source"), (by decide : "a" ≠ "sink"), List.not_mem_nil⟩

theorem loop_cap (c : Rat) (k : Nat) : kfdcCap (inp c k) ("a", "a") = ((c.floor : Int) : Rat) := by
  rw [kfdcCap_eq (loop_mem c k)]
  have h1 : isSccEdge (inp c k).st.g ("a", "a") = true := by
    rw [inp_st]; decide
  have h2 : (inp c k).fOpt ("a", "a") = some c := rfl
  rw [h1, h2]; rfl

theorem loop_cap_half (k : Nat) : kfdcCap (inp (1/2) k) ("a", "a") = 0 := by
  rw [loop_cap]; decide +kernel

/-- the intended solution of the unscaled instance: one walk `source, s, a, a, t, sink` of weight 1 -/
def asg1 : Asg := fun v =>
  if v ∈ [edgeVar ("source", "s") 0, edgeVar ("s", "a") 0, edgeVar ("a", "a") 0, edgeVar ("a", "t") 0,
      edgeVar ("t", "sink") 0, selVar ("source", "s") 0, selVar ("s", "a") 0, selVar ("a", "t") 0,
      selVar ("t", "sink") 0, distVar "source" 0, weightsVar 0,
      piVar ("s", "a") 0, piVar ("a", "a") 0, piVar ("a", "t") 0,
      bitVar (kfdcProdName ("s", "a") 0) 0, bitVar (kfdcProdName ("a", "a") 0) 0,
      bitVar (kfdcProdName ("a", "t") 0) 0,
      compVar (kfdcProdName ("s", "a") 0) 0, compVar (kfdcProdName ("a", "a") 0) 0,
      compVar (kfdcProdName ("a", "t") 0) 0] then 1
  else if v = distVar "s" 0 then 2
  else if v = distVar "a" 0 then 3
  else if v = distVar "t" 0 then 4
  else if v = distVar "sink" 0 then 5
  else 0

theorem loop_unscaled_feasible : Sat asg1 (kfdcLP (inp 1 1) none) :=
  satCheck_sound _ _ (by decide +kernel)

/-- The loop's cap is `floor(1/2) = 0`, so every layer's edge variable of the loop is `0` and the loop's
flow `1/2` is not explained. -/
theorem loop_scaled_infeasible (k : Nat) (a : Asg) : ¬ Sat a (kfdcLP (inp (1/2) k) none) := by
  intro hsat
  obtain ⟨_, hlayer, hdec⟩ := kfdc_exact (inp (1/2) k) none a WalkCoreExample.base_wf hsat
  have he := hdec ("a", "a") (loop_active _ k)
  rw [show (inp (1/2) k).f ("a", "a") = 1/2 from rfl] at he
  unfold walkExplained at he
  have hz : ((List.range (inp (1/2) k).k).map fun i => a (weightsVar i) *
      (traversals ((inp (1/2) k).st.source :: decodeWalkLayer (inp (1/2) k).st a i ++ [(inp (1/2) k).st.sink])
        ("a", "a") : Rat)).sum = 0 := by
    apply sum_map_zero
    intro i hi
    obtain ⟨ht, _, hcap⟩ := hlayer i (List.mem_range.1 hi) ("a", "a") (loop_mem _ k)
    rw [loop_cap_half] at hcap
    have hm : multOf a i ("a", "a") = 0 := Nat.le_zero.1 ((Rat.natCast_le_natCast (b := 0)).1 hcap)
    rw [ht, hm]; simp
  rw [hz] at he
  exact absurd he (by decide +kernel)

theorem loop_scaled_decomposition :
    IsWalkDecomp "source" "sink" ((inp (1/2) 1).activeEdges false) (inp (1/2) 1).f 1
      (fun _ => ["s", "a", "a", "t"]) (fun _ => 1/2) := by
  unfold IsWalkDecomp
  decide +kernel

theorem loop_scaled_cap_violated :
    kfdcCap (inp (1/2) 1) ("a", "a") < (traversals ["source", "s", "a", "a", "t", "sink"] ("a", "a") : Rat) := by
  rw [loop_cap_half]; decide +kernel

end ScaleWitness

end FP
