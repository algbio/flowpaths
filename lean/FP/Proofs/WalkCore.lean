import FP.Proofs.WalkCoreEnc
import FP.Proofs.WalkDecodeMult
/-!
Soundness of the walk encoding (`_encode_walks`) and of the decoded walks. A satisfying assignment gives natural
multiplicities `m = multOf a i` with flow conservation and a distance witness (`WalkFacts`). Descending along the distance witness, every edge of positive
multiplicity is reachable from the source along such edges (`reach_tail`); a layer that leaves the source therefore
meets the hypotheses `MultST` of C14 (`multST_of_walkFacts`), and the decoded walk traverses every edge as often as
its multiplicity says (`WDM.walkOfMult_count`).
-/
namespace FP
open FP.Spec

section Layer
variable {s : STGraph} {ae : Bool} {m : Edge → Nat}

/-- conservation holds at every vertex other than the synthetic ones (trivially outside the graph) -/
theorem cons_all (hwf : STWFc s) (hf : WalkFacts s ae m) (v : Node) (h1 : v ≠ s.source)
    (h2 : v ≠ s.sink) : inN s.g m v = outN s.g m v := by
  by_cases hv : v ∈ s.g.nodes
  · exact hf.cons v hv h1 h2
  · rw [inN_eq_zero s.g m v (fun e he h => hv (h ▸ (hwf.closed e he).2)),
      outN_eq_zero s.g m v (fun e he h => hv (h ▸ (hwf.closed e he).1))]

/-- a tail other than the source passes on what it receives, so it has in-flow and with it an entering edge of positive
multiplicity from a vertex of smaller distance -/
theorem reach_tail (hwf : STWFc s) (hf : WalkFacts s ae m) :
    ∀ e ∈ s.g.edges, m e ≠ 0 → Reach (multEdges s.g m) s.source e.1 := by
  obtain ⟨dist, hd⟩ := hf.conn
  suffices h : ∀ n, ∀ e ∈ s.g.edges, m e ≠ 0 → dist e.1 < n → Reach (multEdges s.g m) s.source e.1 from
    fun e he hm => h _ e he hm (Nat.lt_succ_self _)
  intro n
  induction n with
  | zero => intro e _ _ h; omega
  | succ n ih =>
    intro e he hm hlt
    by_cases hs : e.1 = s.source
    · rw [hs]; exact Reach.refl _
    · have hcons := cons_all hwf hf e.1 hs (hwf.snkNoOut _ he)
      have hle := le_outN s.g m he
      obtain ⟨u, hu, hmu, hdu⟩ := hd e.1 (hwf.closed _ he).1 hs (by omega)
      exact Reach.step (ih (u, e.1) hu hmu (show dist u < n by omega)) (mem_expand.2 ⟨hu, hmu⟩)

theorem multST_of_walkFacts (hwf : STWFc s) (hf : WalkFacts s ae m) (hsm : s.source ∈ s.g.nodes)
    (h1 : outN s.g m s.source = 1) : WDM.MultST s.g m s.source s.sink := by
  have inner : ∀ x, x ≠ s.source → x ≠ s.sink → bal (multEdges s.g m) x = 0 := fun x h1 h2 => by
    rw [WDM.bal_multEdges, cons_all hwf hf x h1 h2]; omega
  have src : bal (multEdges s.g m) s.source = 1 := by
    rw [WDM.bal_multEdges, h1, inN_eq_zero s.g m s.source hwf.srcNoIn]; rfl
  refine ⟨hwf.nodesNodup, hwf.edgesNodup, hwf.closed, hsm, hwf.ne, inner, src, ?_,
    fun e he hm => reach_tail hwf hf e he (Nat.ne_of_gt hm)⟩
  -- the sink: the balances sum to zero over the nodes; all but those of source and sink vanish and the source
  -- has `1`, which leaves `-1`
  have hsum := sum_bal_zero s.g.nodes hwf.nodesNodup (multEdges s.g m)
    (fun e he => hwf.closed e (mem_expand.1 he).1)
  have hfun : ∀ v ∈ s.g.nodes, bal (multEdges s.g m) v
      = Euler.ind' (s.source = v) + bal (multEdges s.g m) s.sink * Euler.ind' (s.sink = v) := by
    intro v _
    by_cases hvs : v = s.source
    · subst hvs
      have : ¬ s.sink = s.source := fun h => hwf.ne h.symm
      rw [src]; simp [Euler.ind', this]
    · by_cases hvt : v = s.sink
      · subst hvt
        simp [Euler.ind', hwf.ne]
      · have h3 : ¬ s.source = v := fun h => hvs h.symm
        have h4 : ¬ s.sink = v := fun h => hvt h.symm
        rw [inner v hvs hvt]; simp [Euler.ind', h3, h4]
  rw [List.map_congr_left hfun, sum_map_add, sum_ind' _ hwf.nodesNodup, if_pos hsm] at hsum
  generalize bal (multEdges s.g m) s.sink = b at hsum ⊢
  rw [sum_map_mul_left, sum_ind' _ hwf.nodesNodup] at hsum
  split at hsum <;> omega

theorem layer_walk_sound (hwf : STWFc s) (hf : WalkFacts s ae m) :
    ((∀ v ∈ s.g.succ s.source, m (s.source, v) = 0) →
        ae = true ∧ Euler.reconstruct (buildResidual s.g m) s.source s.sink = [] ∧
          ∀ e ∈ s.g.edges, m e = 0) ∧
    ((∃ v ∈ s.g.succ s.source, m (s.source, v) ≠ 0) →
        ∀ e : Edge,
          traversals (s.source :: Euler.reconstruct (buildResidual s.g m) s.source s.sink ++ [s.sink]) e
            = if e ∈ s.g.edges then m e else 0) := by
  constructor
  · intro h0
    have hall : ∀ e ∈ s.g.edges, m e = 0 := by
      intro e he
      apply Classical.byContradiction
      intro hm
      have hex : ∃ w, (s.source, w) ∈ multEdges s.g m := by
        rcases reach_head_cases (reach_tail hwf hf e he hm) with h | ⟨w, hw, _⟩
        · exact ⟨e.2, by rw [h]; exact mem_expand.2 ⟨he, hm⟩⟩
        · exact ⟨w, hw⟩
      obtain ⟨w, hw⟩ := hex
      obtain ⟨hw1, hw2⟩ := mem_expand.1 hw
      exact hw2 (h0 w (mem_succ.2 hw1))
    have hout : outN s.g m s.source = 0 :=
      sum_map_zero (fun e he => hall e (List.mem_filter.1 he).1)
    refine ⟨?_, ?_, hall⟩
    · have := hf.src
      cases hae : ae
      · rw [hae, hout] at this; simp at this
      · rfl
    · apply Euler.reconstruct_nil
      apply List.eq_nil_iff_forall_not_mem.2
      intro e he
      obtain ⟨he1, he2⟩ := mem_expand.1
        ((WDM.edges_buildResidual_perm s.g m hwf.nodesNodup hwf.edgesNodup hwf.tails).mem_iff.1 he)
      exact he2 (hall e he1)
  · rintro ⟨v, hv, hm⟩
    have he : (s.source, v) ∈ s.g.edges := mem_succ.1 hv
    have hsm : s.source ∈ s.g.nodes := (hwf.closed _ he).1
    have hout : outN s.g m s.source = 1 := by
      have hle := le_outN s.g m he
      have := hf.src
      cases hae : ae
      · rw [hae] at this; simpa using this
      · rw [hae] at this
        simp only [if_true] at this
        simp only at hle; omega
    exact WDM.walkOfMult_count s.g m s.source s.sink (multST_of_walkFacts hwf hf hsm hout)

end Layer

theorem walkcore_sound (s : STGraph) (c : WalkCfg) (ub : Edge → Rat) (a : Asg) (hwf : STWFc s)
    (hsat : Sat a (encodeWalks s c ub)) (i : Nat) (hi : i < c.k) :
    (∀ e ∈ s.g.edges, a (edgeVar e i) = (multOf a i e : Rat)) ∧
    ((∀ v ∈ s.g.succ s.source, multOf a i (s.source, v) = 0) →
        c.allowEmpty = true ∧ decodeWalkLayer s a i = [] ∧ ∀ e ∈ s.g.edges, multOf a i e = 0) ∧
    ((∃ v ∈ s.g.succ s.source, multOf a i (s.source, v) ≠ 0) →
        ∀ e : Edge, traversals (s.source :: decodeWalkLayer s a i ++ [s.sink]) e
          = if e ∈ s.g.edges then multOf a i e else 0) :=
  ⟨fun _ he => edge_col hsat hi he,
    layer_walk_sound hwf (walkFacts_of_sat hwf.closed hsat i hi)⟩

theorem walkcore_layer_cases (s : STGraph) {c : WalkCfg} (ub : Edge → Rat) (a : Asg) (hwf : STWFc s)
    (hsat : Sat a (encodeWalks s c ub)) {i : Nat} (hi : i < c.k) :
    (IsWalkIn s.g (s.source :: decodeWalkLayer s a i ++ [s.sink]) ∧
      ∀ e ∈ s.g.edges, traversals (s.source :: decodeWalkLayer s a i ++ [s.sink]) e = multOf a i e) ∨
    (c.allowEmpty = true ∧ decodeWalkLayer s a i = [] ∧ ∀ e ∈ s.g.edges, multOf a i e = 0) := by
  obtain ⟨_, hempty, hwalk⟩ := walkcore_sound s c ub a hwf hsat i hi
  by_cases hex : ∃ v ∈ s.g.succ s.source, multOf a i (s.source, v) ≠ 0
  · have htrav := hwalk hex
    -- a pair outside the graph is traversed 0 times, so it is not among the walk's pairs
    exact .inl ⟨fun e he => Classical.byContradiction fun hne =>
        List.count_eq_zero.1 ((htrav e).trans (if_neg hne)) he,
      fun e he => by rw [htrav e, if_pos he]⟩
  · exact .inr (hempty fun v hv => Classical.byContradiction fun hm => hex ⟨v, hv, hm⟩)

/-- `walkcore_layer_cases` with no mention of the decoder's answer in the empty case: then `L = [source, sink]`,
which `noDirect` keeps out of the graph. -/
theorem walkcore_layer (s : STGraph) {c : WalkCfg} (ub : Edge → Rat) (a : Asg) (hwf : STWFc s)
    (hsat : Sat a (encodeWalks s c ub)) {i : Nat} (hi : i < c.k) :
    (∀ e ∈ s.g.edges, traversals (s.source :: decodeWalkLayer s a i ++ [s.sink]) e = multOf a i e) ∧
    (IsWalkIn s.g (s.source :: decodeWalkLayer s a i ++ [s.sink]) ∨
      (c.allowEmpty = true ∧
        ∀ e ∈ s.g.edges, traversals (s.source :: decodeWalkLayer s a i ++ [s.sink]) e = 0)) := by
  rcases walkcore_layer_cases s ub a hwf hsat hi with ⟨hW, htrav⟩ | ⟨hae, hnil, hall⟩
  · exact ⟨htrav, .inl hW⟩
  · have h0 : ∀ e ∈ s.g.edges, traversals (s.source :: decodeWalkLayer s a i ++ [s.sink]) e = 0 := by
      intro e he
      rw [hnil]
      exact List.count_eq_zero.2 fun hmem => hwf.noDirect (List.mem_singleton.1 hmem ▸ he)
    exact ⟨fun e he => by rw [h0 e he, hall e he], .inr ⟨hae, h0⟩⟩

theorem decoded_isWalk (s : STGraph) (c : WalkCfg) (ub : Edge → Rat) (a : Asg) (hwf : STWFc s)
    (hsat : Sat a (encodeWalks s c ub)) (hae : c.allowEmpty = false) (i : Nat) (hi : i < c.k) :
    IsWalkIn s.g (s.source :: decodeWalkLayer s a i ++ [s.sink]) :=
  (walkcore_layer s ub a hwf hsat hi).2.resolve_right fun h => Bool.false_ne_true (hae ▸ h.1)

/-- what every walk class reads off a layer: the traversal counts of the decoded walk are the layer's
multiplicities (also for an empty layer), these are the values of the edge columns, and they respect the caps -/
theorem walkcore_layer_mults (s : STGraph) {c : WalkCfg} (ub : Edge → Rat) (a : Asg) (hwf : STWFc s)
    (hsat : Sat a (encodeWalks s c ub)) (i : Nat) (hi : i < c.k) (e : Edge) (he : e ∈ s.g.edges) :
    traversals (s.source :: decodeWalkLayer s a i ++ [s.sink]) e = multOf a i e ∧
      a (edgeVar e i) = (multOf a i e : Rat) ∧ (multOf a i e : Rat) ≤ ub e := by
  have hcol := edge_col hsat hi he
  refine ⟨(walkcore_layer s ub a hwf hsat hi).1 e he, hcol, ?_⟩
  rw [← hcol]; exact ((encFacts_of_sat hsat hi).edgeCol e he).2.1

theorem decoded_withinCap (s : STGraph) {c : WalkCfg} (ub : Edge → Rat) (a : Asg) (hwf : STWFc s)
    (hsat : Sat a (encodeWalks s c ub)) (i : Nat) (hi : i < c.k) (e : Edge) (he : e ∈ s.g.edges) :
    (traversals (s.source :: decodeWalkLayer s a i ++ [s.sink]) e : Rat) ≤ ub e := by
  obtain ⟨h1, _, h3⟩ := walkcore_layer_mults s ub a hwf hsat i hi e he
  rw [h1]; exact h3

theorem walk_routes_valid (base : Graph) (starts ends : List Node) (c : WalkCfg) (ub : Edge → Rat)
    (a : Asg) (h : BaseWF base)
    (hsat : Sat a (encodeWalks (augment base starts ends) c ub)) (i : Nat) (hi : i < c.k) :
    let w := decodeWalkLayer (augment base starts ends) a i
    (w = [] → c.allowEmpty = true) ∧ (w ≠ [] → ValidRoute base starts ends w) := by
  intro w
  have hwf : STWFc (augment base starts ends) := h.stwfc
  rcases walkcore_layer_cases (augment base starts ends) ub a hwf hsat hi with ⟨hW, _⟩ | ⟨hae, hnil, _⟩
  · have hv := validRoute_of_augWalk h hW
    exact ⟨fun hw => absurd hw hv.nonempty, fun _ => hv⟩
  · exact ⟨fun _ => hae, fun hw => absurd hnil hw⟩

/-- `edge_upper_bounds[e]` after the loop at the end of the bounds part of `__init__`: the floor of the raw value
inside an SCC (`math.floor`, fix fcfd0b0), `1` outside -/
theorem lookupD_capBounds (g : Graph) (raw : Edge → Rat) (e : Edge) (he : e ∈ g.edges) :
    lookupD (capBounds g raw) e 1 = if isSccEdge g e then (((raw e).floor : Int) : Rat) else 1 := by
  unfold capBounds isSccEdge
  exact lookupD_map_self _ he 1

theorem lookupD_capBounds_int (g : Graph) (raw : Edge → Rat) (e : Edge) :
    ∃ z : Int, lookupD (capBounds g raw) e 1 = (z : Rat) := by
  by_cases he : e ∈ g.edges
  · rw [lookupD_capBounds g raw e he]
    by_cases hs : isSccEdge g e = true
    · rw [if_pos hs]; exact ⟨_, rfl⟩
    · rw [if_neg hs]; exact ⟨1, rfl⟩
  · refine ⟨1, ?_⟩
    exact lookupD_map_self_of_not_mem _ he 1

end FP
