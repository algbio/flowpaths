import FP.Proofs.WalkCoreComplete
/-!
`klaecBaseAsg` gives the edge, selected-edge, used-edge, distance, `r`, `pi`, `gamma`, weight, slack and `ee` columns
of both cyclic error models their values (`klaecBaseAsg_core`, `klaecBaseAsg_chan`), and `klaecProdAsg` on top of it leaves them alone
(`CoreCols.prodAsg`, `ChanCols.prodAsg`); `klaecBits` is the number of bit columns of every product block
(`⌈log2(w_max + 1)⌉`, as `intProdQ` computes it).
-/
namespace FP
open FP.Spec

/-- the number of bit columns of every product block of `kLeastAbsErrorsCycles` /
`kMinPathErrorCycles`: `⌈log2(w_max + 1)⌉` -/
def klaecBits (inp : WalkInput) : Nat := klaecBitsOf (inp.wmax true)

/-- values of the structured columns of both cyclic error models: multiplicities `m`, weights `w`,
slacks `sl`, error values `ee`, connectivity witnesses `sel`, `dist` -/
def klaecBaseAsg (inp : WalkInput) (m : Nat → Edge → Nat) (w sl : Nat → Rat) (ee : Edge → Rat)
    (sel : Nat → Edge → Bool) (dist : Nat → Node → Nat) : Asg := fun v =>
  match v with
  | .uvi pfx x y i =>
    if pfx = "edge" then (m i (x, y) : Rat)
    else if pfx = "selected_edge" then (if sel i (x, y) then 1 else 0)
    else if pfx = "used_edge" then (if m i (x, y) = 0 then 0 else 1)
    else if pfx = "pi" then (if (x, y) ∈ inp.activeEdges true then w i * (m i (x, y) : Rat) else 0)
    else if pfx = "gamma" then (if (x, y) ∈ inp.activeEdges true then sl i * (m i (x, y) : Rat) else 0)
    else 0
  | .uv pfx x y => if pfx = "ee" then ee (x, y) else 0
  | .vi pfx x i => if pfx = "distance" then (dist i x : Rat) else 0
  | .ix pfx i => if pfx = "weights" then w i else if pfx = "slack" then sl i else 0
  | .ij pfx i j =>
    if pfx = "r" then
      (if coversB (m i) (inp.cfg.constraints.getD j []) inp.cfg.coverage then 1 else 0)
    else 0
  | _ => 0

/-- `a` has the weights `w`, slacks `sl`, error values `ee` and, on the non-ignored edges, their products with the
multiplicities `m` on the columns of the two channels and the error block -/
structure ChanCols (inp : WalkInput) (a : Asg) (m : Nat → Edge → Nat) (w sl : Nat → Rat) (ee : Edge → Rat) : Prop where
  weights : ∀ i, a (weightsVar i) = w i
  slack : ∀ i, a (slackVar i) = sl i
  pi : ∀ i e, a (piVar e i) = if e ∈ inp.activeEdges true then w i * (m i e : Rat) else 0
  gamma : ∀ i e, a (gammaVar e i) = if e ∈ inp.activeEdges true then sl i * (m i e : Rat) else 0
  ee : ∀ e, a (eeVar e) = ee e

/-- the digits of product blocks stand on other columns -/
theorem ChanCols.prodAsg {inp : WalkInput} {base : Asg} {m : Nat → Edge → Nat} {w sl : Nat → Rat} {ee : Edge → Rat}
    (h : ChanCols inp base m w sl ee) {ι : Type} (idx : List ι) (name : ι → String) (mult : ι → Nat) (cont : ι → Rat) :
    ChanCols inp (klaecProdAsg idx name mult cont base) m w sl ee :=
  ⟨fun i => (klaecProdAsg_ix_other _ _ _ _ _ "weights" i binary_ne_weights comp_ne_weights).trans (h.weights i),
   fun i => (klaecProdAsg_ix_other _ _ _ _ _ "slack" i binary_ne_slack comp_ne_slack).trans (h.slack i),
   h.pi, h.gamma, h.ee⟩

section BaseAsg
variable (inp : WalkInput) (m : Nat → Edge → Nat) (w sl : Nat → Rat) (ee : Edge → Rat)
  (sel : Nat → Edge → Bool) (dist : Nat → Node → Nat)

theorem klaecBaseAsg_core : CoreCols inp (klaecBaseAsg inp m w sl ee sel dist) m sel dist where
  edge i e := by simp [klaecBaseAsg, edgeVar]
  sel i e := by simp [klaecBaseAsg, selVar]
  dist i v := by simp [klaecBaseAsg, distVar]
  used i e := by simp [klaecBaseAsg, usedVar]
  r i j := by simp [klaecBaseAsg, rVar]

theorem klaecBaseAsg_chan : ChanCols inp (klaecBaseAsg inp m w sl ee sel dist) m w sl ee where
  weights i := by simp [klaecBaseAsg, weightsVar]
  slack i := by simp [klaecBaseAsg, slackVar]
  pi i e := by simp [klaecBaseAsg, piVar]
  gamma i e := by simp [klaecBaseAsg, gammaVar]
  ee e := by simp [klaecBaseAsg, eeVar]

end BaseAsg

end FP
