import FP.Proofs.SafetyAdj
import FP.Proofs.WalkEdges
/-!
The neighbour lists after the two passes of `find_idom` over its path, exactly. Each pass changes, for an edge
`(x, y)` of a simple path, the list of `x` and the list of `y` and no other (`pathFold_out`). `reversePath` appends
the predecessor `prv p u` to the list of `u` and erases the successor `nxt p u`; `restore` pops the reversed edge and
appends the removed one: the list of `u` ends as `erase (nxt p u) ++ [nxt p u]` (`restore_reversePath_out`). In between
the dict is a residual graph along the path (`reversePath_residual`).
-/
namespace FP.Safety
open FP.Spec
variable {V : Type} [DecidableEq V]

/-- successor of `u` on the path -/
def nxt : List V → V → Option V
  | x :: y :: r, u => if u = x then some y else nxt (y :: r) u
  | _, _ => none

/-- predecessor of `u` on the path -/
def prv : List V → V → Option V
  | x :: y :: r, u => if u = y then some x else prv (y :: r) u
  | _, _ => none

theorem prv_not_mem_tail (p : List V) (u : V) : u ∉ p.tail → prv p u = none := by
  fun_induction prv p u with
  | case1 x y r => exact fun hu => absurd List.mem_cons_self hu
  | case2 x y r u h ih => exact fun hu => ih fun h' => hu (List.mem_cons_of_mem _ h')
  | case3 => exact fun _ => rfl

theorem nxt_edge (p : List V) (u n : V) : nxt p u = some n → (u, n) ∈ walkEdges p := by
  fun_induction nxt p u with
  | case1 x y r => exact fun h => Option.some.inj h ▸ List.mem_cons_self
  | case2 x y r u h ih => exact fun h => List.mem_cons_of_mem _ (ih h)
  | case3 => exact fun h => nomatch h

theorem nxt_not_mem (p : List V) (u : V) (hu : u ∉ p) : nxt p u = none :=
  match h : nxt p u with
  | none => rfl
  | some n => absurd (we_fst_mem (nxt_edge p u n h)) hu

theorem prv_of_edge : ∀ (p : List V), p.Nodup → ∀ e ∈ walkEdges p, prv p e.2 = some e.1 := by
  intro p
  induction p with
  | nil => intro _ e he; simp [we_nil] at he
  | cons x p ih =>
    cases p with
    | nil => intro _ e he; simp [we_single] at he
    | cons y r =>
      intro hnd e he
      rw [we_cons_cons] at he
      rw [List.nodup_cons] at hnd
      rcases List.mem_cons.1 he with rfl | he
      · simp [prv]
      · have hne : e.2 ≠ y := by
          intro h
          have h2 := we_snd_mem_tail he
          simp only [List.tail_cons] at h2
          rw [h] at h2
          exact (List.nodup_cons.1 hnd.2).1 h2
        simp only [prv, if_neg hne]
        exact ih hnd.2 e he

/-- how `nxt` and `prv` of `u` change when the first vertex of a simple path is dropped: the case split of
`pathFold_out` -/
theorem nxt_prv_cons {x y : V} {r : List V} (hnd : (x :: y :: r).Nodup) (u : V) :
    (u = x ∧ nxt (x :: y :: r) u = some y ∧ prv (x :: y :: r) u = none ∧
      nxt (y :: r) u = none ∧ prv (y :: r) u = none) ∨
    (u = y ∧ u ≠ x ∧ nxt (x :: y :: r) u = nxt (y :: r) u ∧ prv (x :: y :: r) u = some x ∧
      prv (y :: r) u = none) ∨
    (u ≠ x ∧ u ≠ y ∧ nxt (x :: y :: r) u = nxt (y :: r) u ∧ prv (x :: y :: r) u = prv (y :: r) u) := by
  obtain ⟨hxn, hnd'⟩ := List.nodup_cons.1 hnd
  have hxy : x ≠ y := fun h => hxn (h ▸ List.mem_cons_self)
  by_cases hux : u = x
  · subst hux
    have h2 : prv (y :: r) u = none := prv_not_mem_tail _ _ fun h => hxn (List.mem_of_mem_tail h)
    exact Or.inl ⟨rfl, if_pos rfl, (if_neg hxy).trans h2, nxt_not_mem _ _ hxn, h2⟩
  · by_cases huy : u = y
    · subst huy
      exact Or.inr (Or.inl ⟨rfl, hux, if_neg hux, if_pos rfl,
        prv_not_mem_tail _ _ (List.nodup_cons.1 hnd').1⟩)
    · exact Or.inr (Or.inr ⟨hux, huy, if_neg hux, if_neg huy⟩)

/-- `f n` applied when `o = some n`, nothing when `o = none` -/
def onSome (o : Option V) (f : V → List V → List V) (l : List V) : List V :=
  match o with
  | some n => f n l
  | none => l

/-- A pass over the edges of a simple path in which the edge `(x, y)` changes the list of `x` by `F y` and the list
of `y` by `B x` and no other: the list of `u` is changed by `B` of its predecessor, then by `F` of its successor. -/
theorem pathFold_out (F B : V → List V → List V) (step : Adj V → V × V → Adj V)
    (hkeys : ∀ g e, keys (step g e) = keys g)
    (hstep : ∀ g x y, x ≠ y → x ∈ keys g → y ∈ keys g → ∀ u, out (step g (x, y)) u =
      if u = x then F y (out g u) else if u = y then B x (out g u) else out g u) :
    ∀ (p : List V) (g : Adj V), p.Nodup → (∀ b ∈ p, b ∈ keys g) → ∀ u,
      out ((walkEdges p).foldl step g) u = onSome (nxt p u) F (onSome (prv p u) B (out g u)) := by
  intro p
  induction p with
  | nil => intro g _ _ u; rfl
  | cons x p ih =>
    cases p with
    | nil => intro g _ _ u; rfl
    | cons y r =>
      intro g hnd hk u
      have hxy : x ≠ y := fun h => (List.nodup_cons.1 hnd).1 (h ▸ List.mem_cons_self)
      have h1 := hstep g x y hxy (hk x List.mem_cons_self) (hk y (by simp)) u
      rw [we_cons_cons, List.foldl_cons, ih _ (List.nodup_cons.1 hnd).2
        (fun b hb => by rw [hkeys]; exact hk b (List.mem_cons_of_mem _ hb)) u, h1]
      rcases nxt_prv_cons hnd u with ⟨rfl, h4, h3, h1, h2⟩ | ⟨rfl, hux, h4, h3, h2⟩ | ⟨hux, huy, h4, h3⟩
      · rw [h1, h2, h3, h4, if_pos rfl]; rfl
      · rw [h2, h3, h4, if_neg hux, if_pos rfl]; rfl
      · rw [h3, h4, if_neg hux, if_neg huy]

theorem reversePath_out (p : List V) (g : Adj V) (hnd : p.Nodup) (hk : ∀ b ∈ p, b ∈ keys g) (u : V) :
    out (reversePath g p) u =
      onSome (nxt p u) (fun n l => l.erase n) (onSome (prv p u) (fun q l => l ++ [q]) (out g u)) := by
  refine pathFold_out _ _ _ (fun g e => by rw [keys_appendOut, keys_removeOut]) ?_ p g hnd hk u
  intro g x y hxy _ hy u
  by_cases hux : u = x
  · subst hux; rw [if_pos rfl, out_appendOut_ne _ _ _ _ hxy, out_removeOut_self]
  · rw [if_neg hux]
    by_cases huy : u = y
    · subst huy
      rw [if_pos rfl, out_appendOut_self _ _ _ (by rw [keys_removeOut]; exact hy), out_removeOut_ne _ _ _ _ hux]
    · rw [if_neg huy, out_appendOut_ne _ _ _ _ huy, out_removeOut_ne _ _ _ _ hux]

theorem restore_out (p : List V) (R : Adj V) (hnd : p.Nodup) (hk : ∀ b ∈ p, b ∈ keys R) (u : V) :
    out (restore R p) u =
      onSome (nxt p u) (fun n l => l ++ [n]) (onSome (prv p u) (fun _ l => l.dropLast) (out R u)) := by
  refine pathFold_out _ _ _ (fun g e => by rw [keys_appendOut, keys_popOut]) ?_ p R hnd hk u
  intro g x y hxy hx _ u
  by_cases hux : u = x
  · subst hux
    rw [if_pos rfl, out_appendOut_self _ _ _ (by rw [keys_popOut]; exact hx), out_popOut_ne _ _ _ hxy]
  · rw [if_neg hux, out_appendOut_ne _ _ _ _ hux]
    by_cases huy : u = y
    · subst huy; rw [if_pos rfl, out_popOut_self]
    · rw [if_neg huy, out_popOut_ne _ _ _ huy]

theorem keys_reversePath (g : Adj V) (p : List V) : keys (reversePath g p) = keys g := by
  unfold reversePath
  generalize walkEdges p = es
  induction es generalizing g with
  | nil => rfl
  | cons e es ih => rw [List.foldl_cons, ih, keys_appendOut, keys_removeOut]

/-- the residual graph of a simple path: what `bridge_of_cut` (`FP/Proofs/SafetyBridges.lean`) asks of it -/
theorem reversePath_residual (g : Adj V) (p : List V) (hnd : p.Nodup) (hk : ∀ b ∈ p, b ∈ keys g)
    (he : ∀ e ∈ walkEdges p, e.2 ∈ out g e.1) :
    (∀ a b, b ∈ out g a → b ∈ out (reversePath g p) a ∨ (a, b) ∈ walkEdges p) ∧
    ∀ e ∈ walkEdges p, e.1 ∈ out (reversePath g p) e.2 := by
  have hA := reversePath_out p g hnd hk
  refine ⟨fun a b hb => ?_, fun e hep => ?_⟩
  · have hb' : b ∈ onSome (prv p a) (fun q l => l ++ [q]) (out g a) := by
      cases prv p a with
      | none => exact hb
      | some q => exact List.mem_append_left _ hb
    rw [hA a]
    cases hn : nxt p a with
    | none => exact Or.inl hb'
    | some n =>
      by_cases hbn : b = n
      · subst hbn; exact Or.inr (nxt_edge p a b hn)
      · exact Or.inl ((List.mem_erase_of_ne hbn).2 hb')
  · rw [hA e.2, prv_of_edge p hnd e hep]
    cases hn : nxt p e.2 with
    | none => exact List.mem_append_right _ List.mem_cons_self
    | some n =>
      show e.1 ∈ (out g e.2 ++ [e.1]).erase n
      rw [List.erase_append_left _ (he (e.2, n) (nxt_edge _ _ _ hn))]
      exact List.mem_append_right _ List.mem_cons_self

/-- the round trip of `find_idom` over a simple path of the dict moves `next u` to the end of the list of `u` -/
theorem restore_reversePath_out (p : List V) (g : Adj V) (hnd : p.Nodup) (hk : ∀ b ∈ p, b ∈ keys g)
    (he : ∀ e ∈ walkEdges p, e.2 ∈ out g e.1) (u : V) :
    out (restore (reversePath g p) p) u = onSome (nxt p u) (fun n l => l.erase n ++ [n]) (out g u) := by
  rw [restore_out p _ hnd (fun x hx => by rw [keys_reversePath]; exact hk x hx), reversePath_out p g hnd hk]
  cases hn : nxt p u with
  | none => cases prv p u <;> simp [onSome]
  | some n =>
    have hmem : n ∈ out g u := he (u, n) (nxt_edge _ _ _ hn)
    cases prv p u with
    | none => rfl
    | some q => simp [onSome, List.erase_append_left _ hmem]

end FP.Safety
