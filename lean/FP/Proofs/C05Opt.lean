import FP.Proofs.C05Bounds
import FP.Proofs.C05Slots
import FP.Proofs.C10Subset
import FP.Proofs.Optimum
/-!
# FP.Proofs.C05Opt — `create_solver_and_walks` with and without the safety step

A solution of `_encode_walks` that covers every subset constraint in some layer solves `create_solver_and_walks` with new values for the `r` /
`used_edge` columns (`subsetAsg`, `subsetAsg_complete` of `C10Subset`), all other columns unchanged; hence constraints each of which some layer
traverses completely can be appended, and dropping appended constraints keeps an assignment feasible.
With `SafetyData` (what the safety step computes, with what `FP/Props/C06.lean` proves about it) this gives
`c05w_generic_preserves`: a walk model is `create_solver_and_walks` followed by a class-specific part, and if that part
is layer-symmetric, does not read the `r` / `used_edge` columns and follows the simplifications the fragment allows
(`WalkRest`), the model built with the fragment has a solution iff the model built without it has one, with the same
minimum. Forwards the layers are permuted into the slots and the columns of the appended constraints re-chosen;
backwards the appended constraints are dropped.
-/
namespace FP
open FP.Spec

/-- `subset_variants_extend`: a satisfying assignment of `create_solver_and_walks` stays one — with new values on the
`r` and `used_edge` columns only — when subset constraints are appended each of which is traversed completely by some
layer. -/
theorem subset_extend (s : STGraph) (c : WalkCfg) (ub : Edge → Rat) (a : Asg) (E : List (List Edge))
    (hsat : Sat a (walkCore s c ub))
    (hcons : ∀ con ∈ c.constraints, ∀ e ∈ con, e ∈ s.g.edges)
    (hcov1 : c.coverage ≤ 1)
    (hE : ∀ q ∈ E, ∃ i, i < c.k ∧ ∀ e ∈ q, e ∈ s.g.edges ∧ 1 ≤ a (edgeVar e i)) :
    Sat (subsetAsg a (c.constraints ++ E) c.coverage)
      (walkCore s { c with constraints := c.constraints ++ E } ub) := by
  refine subsetAsg_complete s { c with constraints := c.constraints ++ E } ub a
    (sat_append_left hsat) fun j hj => ?_
  suffices h : ∀ con ∈ c.constraints ++ E, ∃ i, i < c.k ∧ (∀ e ∈ con, e ∈ s.g.edges) ∧
      (con.eraseDups.length : Rat) * c.coverage ≤
        ((con.eraseDups.countP fun e => decide (1 ≤ a (edgeVar e i)) : Nat) : Rat) from h _ (List.getElem_mem hj)
  intro con hm
  rcases List.mem_append.1 hm with hm | hm
  · -- an old constraint: the layer responsible for it in `a`
    obtain ⟨j, hjC, rfl⟩ := List.mem_iff_getElem.1 hm
    obtain ⟨i, hi, _, hle⟩ := subset_constraint_honoured s c ub a hsat j hjC (hcons _ hm)
    exact ⟨i, hi, hcons _ hm, hle⟩
  · -- an appended one: all its distinct edges are counted, and `coverage ≤ 1`
    obtain ⟨i, hi, hall⟩ := hE _ hm
    refine ⟨i, hi, fun e he => (hall e he).1, ?_⟩
    rw [List.countP_eq_length.2 fun e he => decide_eq_true (hall e (List.mem_eraseDups.1 he)).2]
    exact mul_le_self_of_le_one Rat.natCast_nonneg hcov1

theorem subsetBlock_drop (s : STGraph) (c : WalkCfg) (ub : Edge → Rat) (a : Asg) (E : List (List Edge))
    (h : Sat a (subsetBlock s { c with constraints := c.constraints ++ E } ub)) :
    Sat a (subsetBlock s c ub) := by
  rw [sat_subsetBlock_iff] at h ⊢
  intro hne
  have hlen : c.constraints.length ≤ (c.constraints ++ E).length := by rw [List.length_append]; omega
  obtain ⟨hL, h7b⟩ := h (by
    show (c.constraints ++ E).isEmpty = false
    cases hc : c.constraints with
    | nil => rw [hc] at hne; cases hne
    | cons x xs => rfl)
  refine ⟨fun i hi => ?_, fun j hj => h7b j (Nat.lt_of_lt_of_le hj hlen)⟩
  have F := hL i hi
  refine ⟨fun j hj => F.rCol j (Nat.lt_of_lt_of_le hj hlen), F.usedCol, F.min1, fun j hj => ?_⟩
  have := F.r7a j (Nat.lt_of_lt_of_le hj hlen)
  rwa [show (c.constraints ++ E)[j]'(Nat.lt_of_lt_of_le hj hlen) = c.constraints[j] from
    List.getElem_append_left hj] at this

/-- the data computed by the safety step, with what C06 proves about it -/
structure SafetyData (s : STGraph) (k : Nat) (X : List Edge) (safe seqs : List (List Edge))
    (zs : List (Edge × Nat)) : Prop where
  /-- `FP.Props.C06.maximal_safe_sequences_safe` -/
  safeOK : ∀ q ∈ safe, SafeFor s.g s.source s.sink X q
  /-- the same for the sequences handed to the slots (they are among the maximal safe sequences) -/
  seqsOK : ∀ q ∈ seqs, SafeFor s.g s.source s.sink X q
  /-- the sequences consist of edges of the graph (`get_longest_incompatible_sequences` raises otherwise) -/
  seqEdges : ∀ q ∈ seqs, ∀ e ∈ q, e ∈ s.g.edges
  /-- `FP.Props.C06.incompatible_sound` -/
  incompatible : seqs.Pairwise fun p q => ¬ CoOccur s.g s.source s.sink p q
  /-- `FP.Props.C06.zero_fix_sound` for the keys fixed to zero (`zeroSound_of_zeroFix` for the result of
  `_apply_safety_optimizations_fix_zero_edges`) -/
  zero : ZeroSound s.g seqs k zs

/-- what the class-specific part of a walk model (`rest` without the options, `restS` with the fragment `fr`; same
objective) must provide for the safety options to be harmless -/
structure WalkRest (s : STGraph) (c : WalkCfg) (ub : Edge → Rat) (X : List Edge) (fr : SafetyFrag)
    (rest restS : LP) : Prop where
  /-- every solution traverses every trusted edge -/
  cover : ∀ a, Sat a ((walkCore s c ub).append rest) → ∀ x ∈ X, ∃ i, i < c.k ∧ 1 ≤ a (edgeVar x i)
  /-- layer symmetry: some renaming of the columns that acts as `π` on the layered ones keeps `rest` satisfied -/
  sym : ∀ a (π : LayerPerm c.k), Sat a rest → ∃ P, IsLayerRenaming π.fwd P ∧ Sat (a ∘ P) rest ∧
    evalTerms (a ∘ P) rest.obj = evalTerms a rest.obj
  /-- `rest` does not read the `r` / `used_edge` columns -/
  frame : ∀ a cons cov, Sat a rest → Sat (subsetAsg a cons cov) rest ∧
    evalTerms (subsetAsg a cons cov) rest.obj = evalTerms a rest.obj
  /-- where the rows of the fragment hold, `rest` gives `restS` -/
  fwd : ∀ a, Sat a rest → (∀ r ∈ fr.asRows, r.holds a) → Sat a restS
  /-- and `restS` gives `rest`, up to columns that neither the core nor the objective reads -/
  bwd : ∀ a, Sat a (walkCore s c ub) → (∀ r ∈ fr.asRows, r.holds a) → Sat a restS →
    ∃ a', Sat a' (walkCore s c ub) ∧ Sat a' rest ∧ evalTerms a' rest.obj = evalTerms a rest.obj

/-- C05 for any walk model `create_solver_and_walks ++ rest` and any fragment of the shape `safetyExtra` builds:
feasibility and the minimum are those of the model built with the fragment -/
theorem c05w_generic_preserves {s : STGraph} {c : WalkCfg} {ub : Edge → Rat} (hwf : STWFc s) (X : List Edge) (hX : ∀ x ∈ X, x ∈ s.g.edges)
    (safe seqs : List (List Edge)) (zs : List (Edge × Nat)) (D : SafetyData s c.k X safe seqs zs)
    (fr : SafetyFrag) (sh : FragShape s.g c.k safe seqs zs fr)
    (hcons : ∀ con ∈ c.constraints, ∀ e ∈ con, e ∈ s.g.edges) (hcov1 : c.coverage ≤ 1)
    (hub1 : ∀ e ∈ s.g.edges, isSccEdge s.g e = false → 1 ≤ ub e) (rest restS : LP)
    (W : WalkRest s c ub X fr rest restS) :
    ((∃ a, Sat a ((walkCore s c ub).append rest)) ↔ (∃ a, Sat a ((walkCoreS s c ub fr).append restS))) ∧
    (∀ v, IsMin (fun a => Sat a ((walkCore s c ub).append rest)) (fun a => evalTerms a rest.obj) v ↔
      IsMin (fun a => Sat a ((walkCoreS s c ub fr).append restS)) (fun a => evalTerms a rest.obj) v) := by
  have hok := sh.boundsOK (ub := ub) D.seqEdges hub1
  apply c05_opt_transfer
  · -- permute the layers into the slots (`slotsFit_exists`; the class part follows by `sym`), then give the `r` /
    -- `used_edge` columns of the appended constraints their values (`subset_extend`)
    intro a ha
    have hsat := sat_append_left ha
    obtain ⟨π, hfit⟩ := slotsFit_exists hwf (sat_append_left hsat) X hX (W.cover a ha) seqs D.seqsOK
      D.incompatible zs D.zero
    obtain ⟨P, hP, hrest, hobj⟩ := W.sym a π (sat_append_right ha)
    have hb := walkCore_perm s c ub a π P hP hsat
    have hbcover : ∀ x ∈ X, ∃ i, i < c.k ∧ 1 ≤ (a ∘ P) (edgeVar x i) := fun x hx =>
      have ⟨i, hi, h1⟩ := W.cover a ha x hx
      ⟨π.bwd i, π.bwd_lt i hi, by
        show 1 ≤ a (P (edgeVar x (π.bwd i)))
        rw [hP.edgeVar, π.fwd_bwd i hi]; exact h1⟩
    have hext := subset_extend s c ub (a ∘ P) fr.constraints hb hcons hcov1 fun q hq =>
      safe_edges_in_some_layer hwf (sat_append_left hb) X hX hbcover q ((sh.cons q hq).elim (D.safeOK q) (D.seqsOK q))
    have hrows : ∀ r ∈ fr.asRows, r.holds (subsetAsg (a ∘ P) (c.constraints ++ fr.constraints) c.coverage) :=
      fun r hr => sh.asRows_congr (subsetAsg_edge _ _ _) hr (safetyRows_hold hfit P hP sh r hr)
    obtain ⟨hfr, hfo⟩ := W.frame (a ∘ P) (c.constraints ++ fr.constraints) c.coverage hrest
    exact ⟨_, sat_append ((sat_walkCoreS_iff s c ub _ hok _).2 ⟨sat_append_left hext, hrows,
      sat_append_right hext⟩) (W.fwd _ hfr hrows), hfo.trans hobj⟩
  · intro a ha
    obtain ⟨h1, h2, h3⟩ := (sat_walkCoreS_iff s c ub _ hok a).1 (sat_append_left ha)
    obtain ⟨a', hc, hr, ho⟩ := W.bwd a (sat_append h1 (subsetBlock_drop s c ub a _ h3)) h2
      (sat_append_right ha)
    exact ⟨a', sat_append hc hr, ho⟩

end FP
