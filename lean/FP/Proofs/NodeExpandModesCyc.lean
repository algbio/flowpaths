import FP.Model.NodeExpandModesCyc
import FP.Proofs.NodeExpandModes
import FP.Proofs.WalkCore
/-!
What the equalities "node mode is edge mode on the explicit expansion" of `FP.Props.C11` rest on for the cyclic
k-classes (the theorems themselves are stated there). `WalkAgree` is what `FlowAgree` is for the
DAG classes, over the record of the walk models (`WalkInput` is not an extension of `FlowInput`: its configuration is a
`WalkCfg`, it carries the scaling, and its ignored set depends on the model): agreement on graph, starts / ends,
configuration, scaling, on the ignore list as a set and on the values of the non-ignored edges. The four generators read
nothing else except for the repetition caps. These are read off `data.get(flow_attr)` of every edge of the augmented graph, ignored ones included, so they
coincide when the attribute coincides there (`kFlowDecompCycles`: on the SCC edges, up to the default `w_max` and up to
the floor that `kfdcBounds` takes as the code does (fix fcfd0b0); error classes: everywhere, up to the default `0`). On
the expansion the copied attribute differs from the node values only on copies of original edges that carry an attribute
of the same name (`expandFlow_getD_map`).
-/
namespace FP
namespace NX

/-- the record a cyclic node branch hands on, with every translation spelled out; `ng` as in `nxmTranslated` -/
def nxcTranslated (inp : NodeModeInput) (ng : NodeGraph) : WalkInput :=
  { base := expandGraph ng.g, flow := expandFlow ng,
    ignore := (edgesToIgnore ng ++ inp.nf.ignoreNodes.map nodeEdge).eraseDups,
    starts := inp.starts.map n0, ends := inp.ends.map n1,
    weightInt := inp.nf.weightInt,
    scaling := inp.scaling.map fun p => (nodeEdge p.1, p.2),
    cfg := { k := inp.nf.k, allowEmpty := inp.nf.allowEmpty,
             constraints := specConstraints inp.nf.constraints, coverage := inp.nf.coverage } }

theorem nxc_translate_ok {inp : NodeModeInput} {ng : NodeGraph} {wi : WalkInput}
    (h : nxcTranslate inp ng = .ok wi) : wi = nxcTranslated inp ng :=
  (Except.ok.inj (nx_stages_ok (ite_error_ok h).2)).symm

theorem nxc_walkChecks_ok {wi wi' : WalkInput} (h : nxcWalkChecks wi = .ok wi') : wi' = wi := by
  unfold nxcWalkChecks at h
  replace h := (ite_error_ok h).2
  replace h := (ite_error_ok h).2
  replace h := (ite_error_ok h).2
  replace h := (ite_error_ok h).2
  exact (Except.ok.inj (ite_error_ok h).2).symm

theorem nxc_flowChecks_ok {ws : Bool} {wi wi' : WalkInput} (h : nxcFlowChecks ws wi = .ok wi') : wi' = wi := by
  unfold nxcFlowChecks at h
  replace h := (ite_error_ok h).2
  exact (Except.ok.inj (ite_error_ok h).2).symm

theorem nxc_scalingCheck_ok {sc : List (Node × Rat)} {wi wi' : WalkInput}
    (h : nxcScalingCheck sc wi = .ok wi') : wi' = wi := by
  unfold nxcScalingCheck at h
  exact (Except.ok.inj (ite_error_ok h).2).symm

theorem nxc_kfdcNodeInternal_ok {inp : NodeModeInput} {wi : WalkInput} (h : kfdcNodeInternal inp = .ok wi) :
    wi = nxcTranslated inp inp.nf.ng := by
  unfold kfdcNodeInternal at h
  split at h
  · cases h
  rename_i w0 ht
  split at h
  · cases h
  rename_i w1 hck
  obtain rfl := nxc_flowChecks_ok h
  obtain rfl := nxc_walkChecks_ok hck
  exact nxc_translate_ok ht

theorem nxc_kcovercNodeInternal_ok {inp : NodeModeInput} {wi : WalkInput} (h : kcovercNodeInternal inp = .ok wi) :
    wi = nxcTranslated inp (coverNG inp.nf.ng) := by
  unfold kcovercNodeInternal at h
  split at h
  · cases h
  rename_i w0 ht
  obtain rfl := nxc_walkChecks_ok h
  exact nxc_translate_ok ht

theorem nxc_errcNodeInternal_ok {inp : NodeModeInput} {wi : WalkInput} (h : errcNodeInternal inp = .ok wi) :
    wi = nxcTranslated inp inp.nf.ng := by
  unfold errcNodeInternal at h
  split at h
  · cases h
  rename_i w0 ht
  split at h
  · cases h
  rename_i w1 hck
  split at h
  · cases h
  rename_i w2 hsc
  obtain rfl := nxc_flowChecks_ok h
  obtain rfl := nxc_scalingCheck_ok hsc
  obtain rfl := nxc_walkChecks_ok hck
  exact nxc_translate_ok ht

theorem nxc_kfdcNodeLP_ok {inp : NodeModeInput} {given : Option (List Rat)} {lp : LP}
    (h : kfdcNodeLP inp given = .ok lp) : lp = kfdcLP (nxcTranslated inp inp.nf.ng) given := by
  unfold kfdcNodeLP at h
  split at h
  · cases h
  rename_i wi hi
  obtain rfl := nxc_kfdcNodeInternal_ok hi
  split at h
  · exact (Except.ok.inj h).symm
  · split at h
    · cases h
    · exact (Except.ok.inj h).symm

theorem nxc_kcovercNodeLP_ok {inp : NodeModeInput} {lp : LP} (h : kcovercNodeLP inp = .ok lp) :
    lp = kcovercLP (nxcTranslated inp (coverNG inp.nf.ng)) := by
  obtain ⟨wi, hi, rfl⟩ := map_ok h
  rw [nxc_kcovercNodeInternal_ok hi]

/-- `klaecNodeLP` and `kmpecNodeLP` are `errcNodeInternal` followed by the generator `gen` of the class -/
theorem nxc_errcNodeLP_ok {inp : NodeModeInput} {gen : WalkInput → LP} {lp : LP}
    (h : (errcNodeInternal inp).map gen = .ok lp) : lp = gen (nxcTranslated inp inp.nf.ng) := by
  obtain ⟨wi, hi, rfl⟩ := map_ok h
  rw [nxc_errcNodeInternal_ok hi]

/-- two inputs that the walk generators cannot tell apart, the repetition caps aside -/
structure WalkAgree (a b : WalkInput) : Prop where
  base : a.base = b.base
  starts : a.starts = b.starts
  ends : a.ends = b.ends
  wInt : a.weightInt = b.weightInt
  cfg : a.cfg = b.cfg
  scaling : a.scaling = b.scaling
  ign : ∀ e, a.ignore.contains e = b.ignore.contains e
  f : ∀ e, a.ignored false e = false → a.f e = b.f e

namespace WalkAgree
variable {a b : WalkInput} (h : WalkAgree a b)
include h

theorem st : a.st = b.st := by unfold WalkInput.st; rw [h.base, h.starts, h.ends]

theorem k : a.k = b.k := by unfold WalkInput.k; rw [h.cfg]

theorem ignored (ws : Bool) : a.ignored ws = b.ignored ws := by
  funext e; unfold WalkInput.ignored; rw [h.st, h.ign, h.scaling]

theorem active (ws : Bool) : a.activeEdges ws = b.activeEdges ws := by
  unfold WalkInput.activeEdges; rw [h.st, h.ignored]

theorem f_active (ws : Bool) : ∀ e ∈ a.activeEdges ws, a.f e = b.f e := by
  intro e he
  apply h.f
  have h2 : a.ignored ws e = false := by simpa using (List.mem_filter.1 he).2
  unfold WalkInput.ignored at h2 ⊢
  simpa using (Bool.or_eq_false_iff.1 h2).1

theorem wmax (ws : Bool) : a.wmax ws = b.wmax ws := by
  unfold WalkInput.wmax
  rw [h.k, h.wInt, ← h.active ws, List.map_congr_left (h.f_active ws)]

theorem scale : a.scale = b.scale := by
  funext e; unfold WalkInput.scale; rw [h.scaling]

end WalkAgree

/-- `capBounds` reads the floor of `raw` on the SCC edges and nothing else -/
theorem capBounds_eq_iff (g : Graph) (raw raw' : Edge → Rat) :
    capBounds g raw = capBounds g raw' ↔
      ∀ e ∈ g.edges, isSccEdge g e = true → (raw e).floor = (raw' e).floor := by
  unfold capBounds isSccEdge
  refine List.map_inj_left.trans (forall₂_congr fun e _ => ?_)
  by_cases hs : sameScc (reachTable g) e.1 e.2 = true
  · rw [if_pos hs, if_pos hs]
    exact ⟨fun h _ => Rat.intCast_inj.1 (Prod.mk.inj h).2, fun h => by rw [h hs]⟩
  · rw [if_neg hs, if_neg hs]
    exact ⟨fun _ h => absurd h hs, fun _ => rfl⟩

/-- `kFlowDecompCycles`: the caps coincide exactly when the floor of `data.get(flow_attr, w_max)` coincides on the SCC
edges of the augmented graph -/
theorem nxc_kfdcBounds_iff (a b : WalkInput) (h : WalkAgree a b) :
    kfdcBounds a = kfdcBounds b ↔ ∀ e ∈ a.st.g.edges, isSccEdge a.st.g e = true →
      ((a.fOpt e).getD (a.wmax false)).floor = ((b.fOpt e).getD (a.wmax false)).floor := by
  unfold kfdcBounds
  rw [← h.wmax false, ← h.st]
  exact capBounds_eq_iff _ _ _

theorem edgeMaxReachable_congr (g : Graph) (w w' : Edge → Rat) (h : ∀ e ∈ g.edges, w e = w' e) :
    edgeMaxReachable g w = edgeMaxReachable g w' := by
  unfold edgeMaxReachable
  simp only
  apply List.map_congr_left
  intro e he
  have h1 : ∀ p : Edge → Bool, (g.edges.filter p).map w = (g.edges.filter p).map w' := fun p =>
    List.map_congr_left fun e' he' => h e' (List.mem_filter.1 he').1
  rw [h1, h1, h e he]

/-- the error classes: the caps coincide when `data.get(flow_attr, 0)` coincides on every edge of the augmented
graph -/
theorem nxc_reachBounds_congr (a b : WalkInput) (h : WalkAgree a b)
    (hcap : ∀ e ∈ a.st.g.edges, (a.fOpt e).getD 0 = (b.fOpt e).getD 0) :
    reachBounds a = reachBounds b := by
  unfold reachBounds
  simp only
  rw [← h.st, edgeMaxReachable_congr _ _ _ hcap]

theorem nxc_kcovercLP_congr (a b : WalkInput) (h : WalkAgree a b) : kcovercLP a = kcovercLP b := by
  unfold kcovercLP
  simp only
  rw [h.st, h.cfg, h.active false, h.k]

theorem nxc_kfdcLP_congr (a b : WalkInput) (h : WalkAgree a b) (hb : kfdcBounds a = kfdcBounds b)
    (given : Option (List Rat)) : kfdcLP a given = kfdcLP b given := by
  have hrows : ((a.activeEdges false).map fun e => rowEq (ones (List.range a.k) (piVar e)) (a.f e))
      = ((b.activeEdges false).map fun e => rowEq (ones (List.range b.k) (piVar e)) (b.f e)) := by
    rw [← h.active false, ← h.k]
    apply List.map_congr_left
    intro e he
    rw [h.f_active false e he]
  unfold kfdcLP
  simp only [hrows]
  rw [h.st, h.cfg, h.k, h.wmax false, h.wInt, h.active false, hb]

theorem nxc_klaecLP_congr (a b : WalkInput) (h : WalkAgree a b) (hb : reachBounds a = reachBounds b) :
    klaecLP a = klaecLP b := by
  have hrows := flatMap_congr (a.activeEdges true) (klaeErrRows a.k a.f) (klaeErrRows a.k b.f) fun e he => by
    unfold klaeErrRows; rw [h.f_active true e he]
  unfold klaeErrRows at hrows
  unfold klaecLP
  simp only
  rw [hrows, h.st, h.cfg, h.k, h.wmax true, h.wInt, h.active true, hb, h.scale]

theorem nxc_kmpecLP_congr (a b : WalkInput) (h : WalkAgree a b) (hb : reachBounds a = reachBounds b) :
    kmpecLP a = kmpecLP b := by
  unfold kmpecLP
  simp only [h.st, h.cfg, h.k, h.wmax true, h.wInt, hb, h.scale, ← h.active true]
  -- what is left to compare: the two error rows of each non-ignored edge, which read its value
  congr 3
  exact flatMap_congr _ _ _ fun e he => by rw [h.f_active true e he]

theorem nxc_agree (inp : NodeModeInput) (hc : Closed inp.nf.ng.g)
    (hef : ∀ p ∈ inp.nf.ng.edgeFlow, p.1 ∈ inp.nf.ng.g.edges) :
    WalkAgree (nxcTranslated inp inp.nf.ng) (expandWalkInput inp) where
  base := rfl
  starts := rfl
  ends := rfl
  wInt := rfl
  cfg := rfl
  scaling := rfl
  ign := nxm_ignore_contains inp.nf hc
  f := by
    intro e hne
    unfold WalkInput.ignored at hne
    have h1 := (Bool.or_eq_false_iff.1 hne).1
    have h2 := (Bool.or_eq_false_iff.1 h1).2
    exact nxm_flow_agree inp.nf.ng hc hef inp.nf.ignoreNodes e h2

/-- on the copy of an original edge that carries an attribute of the same name the node branch's graph has that value,
the explicit expansion has none -/
theorem nxc_fOpt_edgeCopy (inp : NodeModeInput) (x : Edge) (q : Rat)
    (hl : inp.nf.ng.edgeFlow.lookup x = some q) :
    (nxcTranslated inp inp.nf.ng).fOpt (edgeEdge x) = some q ∧ (expandWalkInput inp).fOpt (edgeEdge x) = none := by
  have hnone : (inp.nf.ng.nodeFlow.map fun p => (nodeEdge p.1, p.2)).lookup (edgeEdge x) = none :=
    lookup_map_none nodeEdge _ _ (fun p _ => nodeEdge_ne_edgeEdge p.1 x)
  constructor
  · unfold WalkInput.fOpt nxcTranslated expandFlow
    simp only
    rw [List.lookup_append, hnone, lookup_map_key edgeEdge (fun _ _ => edgeEdge_inj)]
    simp [hl]
  · exact hnone

/-- `hzero` — an original edge that carries an attribute named like the flow attribute carries the value `0` (what
`compute_edge_max_reachable_value` reads on an edge without the attribute) -/
theorem nxc_errc_bounds (inp : NodeModeInput) (hc : Closed inp.nf.ng.g)
    (hef : ∀ p ∈ inp.nf.ng.edgeFlow, p.1 ∈ inp.nf.ng.g.edges)
    (hzero : ∀ x q, inp.nf.ng.edgeFlow.lookup x = some q → q = 0) :
    reachBounds (nxcTranslated inp inp.nf.ng) = reachBounds (expandWalkInput inp) :=
  nxc_reachBounds_congr _ _ (nxc_agree inp hc hef) fun e _ => expandFlow_getD_map id inp.nf.ng e 0 fun x q hl _ => hzero x q hl

/-!
The walks of the cyclic node branches condense to walks of the caller's graph: `walk_routes_valid` (every layer of a
satisfying assignment of `_encode_walks` decodes to an admissible route of the base graph, here the expansion) composed
with `expanded_route_condenses` (cycles allowed: the same node may occur many times). None of this reads the repetition
caps, so it needs no hypothesis on copied edge attributes.
-/
open FP.Spec

/-- layer `i` of the assignment decodes to the empty list (allowed only with `allow_empty_walks`) or to a list that
`get_condensed_paths` turns into an admissible route of the caller's graph -/
def WalksCondense (inp : NodeModeInput) (a : Asg) (i : Nat) : Prop :=
  (decodeWalkLayer (expandWalkInput inp).st a i = [] → inp.nf.allowEmpty = true) ∧
  (decodeWalkLayer (expandWalkInput inp).st a i ≠ [] →
    ∃ p, condensePath inp.nf.ng.g.nodes [] (decodeWalkLayer (expandWalkInput inp).st a i) = .ok p ∧
      ValidRoute inp.nf.ng.g inp.starts inp.ends p ∧
      decodeWalkLayer (expandWalkInput inp).st a i = expandPath p)

theorem nxc_condense_of_enc (inp : NodeModeInput) (ng : NodeGraph) (hg : ng.g = inp.nf.ng.g) (hc : Closed inp.nf.ng.g)
    (ub : Edge → Rat) {a : Asg}
    (hsat : Sat a (encodeWalks (nxcTranslated inp ng).st (nxcTranslated inp ng).cfg ub))
    {i : Nat} (hi : i < inp.nf.k) : WalksCondense inp a i := by
  have hst : (nxcTranslated inp ng).st
      = augment (expandGraph inp.nf.ng.g) (inp.starts.map n0) (inp.ends.map n1) := by
    unfold WalkInput.st nxcTranslated; rw [hg]
  rw [hst] at hsat
  obtain ⟨h1, h2⟩ := walk_routes_valid (expandGraph inp.nf.ng.g) (inp.starts.map n0) (inp.ends.map n1) _ ub a
    (expansion_wf inp.nf.ng.g hc) hsat i hi
  refine ⟨h1, fun hne => ?_⟩
  obtain ⟨p, hp1, hp2, hp3⟩ := expanded_route_condenses inp.nf.ng.g hc inp.starts inp.ends _ (h2 hne)
  exact ⟨p, hp3, hp2, hp1⟩

end NX
end FP
