import FP.Proofs.KCoverC
import FP.Proofs.C10Constraints
import FP.Proofs.KFD
import FP.Model.Enc.KCover
/-!
# FP.Proofs.C05Perm — the walk and DAG LPs are invariant under permutations of the layer indices

`LayerPerm k` is a permutation of `0..k-1` with its inverse; a solution composed with a renaming `(.., i) ↦ (.., π i)`
of the layered columns is again a solution. Both for the walk blocks (`_encode_walks`, `_encode_subset_constraints`) and
for the DAG blocks (`_encode_paths`, where `path_length<i>` and `w<i>` are renamed too) this goes through what layer `i`
says about an assignment (`EncFacts`, `SubsetFacts`; `LayerFacts`, `PosFacts`), which reads the columns of that layer
only. Rows that sum over all layers (7b, cover rows, flow rows) are their own image up to the order of the terms.
No safety row of a DAG model distinguishes a layer, so for the DAG models the invariance is what a fixing routine
(layer `i` gets the `i`-th path to fix) would rest on; the option theorems do not use it.
-/
namespace FP

structure LayerPerm (k : Nat) where
  fwd : Nat → Nat
  bwd : Nat → Nat
  fwd_lt : ∀ i, i < k → fwd i < k
  bwd_lt : ∀ i, i < k → bwd i < k
  bwd_fwd : ∀ i, i < k → bwd (fwd i) = i
  fwd_bwd : ∀ i, i < k → fwd (bwd i) = i

namespace LayerPerm

def id (k : Nat) : LayerPerm k :=
  ⟨fun i => i, fun i => i, fun _ h => h, fun _ h => h, fun _ _ => rfl, fun _ _ => rfl⟩

def inv {k : Nat} (π : LayerPerm k) : LayerPerm k :=
  ⟨π.bwd, π.fwd, π.bwd_lt, π.fwd_lt, π.fwd_bwd, π.bwd_fwd⟩

def swapNat (x y i : Nat) : Nat := if i = x then y else if i = y then x else i

theorem swapNat_lt {k x y i : Nat} (hx : x < k) (hy : y < k) (hi : i < k) : swapNat x y i < k := by
  unfold swapNat; split
  · exact hy
  · split
    · exact hx
    · exact hi

theorem swapNat_swapNat (x y i : Nat) : swapNat x y (swapNat x y i) = i := by
  unfold swapNat; grind

def swapRight {k : Nat} (π : LayerPerm k) (x y : Nat) (hx : x < k) (hy : y < k) : LayerPerm k where
  fwd := fun i => π.fwd (swapNat x y i)
  bwd := fun i => swapNat x y (π.bwd i)
  fwd_lt := fun i hi => π.fwd_lt _ (swapNat_lt hx hy hi)
  bwd_lt := fun i hi => swapNat_lt hx hy (π.bwd_lt i hi)
  bwd_fwd := fun i hi => by
    show swapNat x y (π.bwd (π.fwd (swapNat x y i))) = i
    rw [π.bwd_fwd _ (swapNat_lt hx hy hi), swapNat_swapNat]
  fwd_bwd := fun i hi => by
    show π.fwd (swapNat x y (swapNat x y (π.bwd i))) = i
    rw [swapNat_swapNat, π.fwd_bwd i hi]

end LayerPerm

theorem sum_range_perm {k : Nat} (π : LayerPerm k) (f : Nat → Rat) :
    ((List.range k).map fun i => f (π.fwd i)).sum = ((List.range k).map f).sum := by
  have hperm : ((List.range k).map π.fwd).Perm (List.range k) := by
    apply (List.perm_ext_iff_of_nodup ?_ List.nodup_range).2
    · intro x
      simp only [List.mem_map, List.mem_range]
      constructor
      · rintro ⟨i, hi, rfl⟩; exact π.fwd_lt i hi
      · intro hx; exact ⟨π.bwd x, π.bwd_lt x hx, π.fwd_bwd x hx⟩
    · show List.Pairwise (· ≠ ·) _
      rw [List.pairwise_map]
      apply List.Pairwise.imp_of_mem _ (List.nodup_range (n := k))
      intro i j hi hj hne h
      -- `fwd` is injective below `k`, having `bwd` as a left inverse
      apply hne
      rw [← π.bwd_fwd i (List.mem_range.1 hi), ← π.bwd_fwd j (List.mem_range.1 hj), h]
  have := perm_sum (hperm.map f)
  rw [List.map_map] at this
  exact this

/-- rename the layer index of every layered column: edge / selected / used / pi / gamma variables
`(u, v, i)`, distance variables `(v, i)`, subset variables `r(i, j)` -/
def permLayers (π : Nat → Nat) : Var → Var
  | .uvi p u v i => .uvi p u v (π i)
  | .vi p v i => .vi p v (π i)
  | .ij p i j => .ij p (π i) j
  | v => v

/-- `P` renames the layer index of every layered column by `π` (what it does to other columns is free) -/
structure IsLayerRenaming (π : Nat → Nat) (P : Var → Var) : Prop where
  uvi : ∀ p u v i, P (.uvi p u v i) = .uvi p u v (π i)
  vi : ∀ p v i, P (.vi p v i) = .vi p v (π i)
  ij : ∀ p i j, P (.ij p i j) = .ij p (π i) j

theorem permLayers_isLayerRenaming (π : Nat → Nat) : IsLayerRenaming π (permLayers π) :=
  ⟨fun _ _ _ _ => rfl, fun _ _ _ => rfl, fun _ _ _ => rfl⟩

namespace IsLayerRenaming
variable {π : Nat → Nat} {P : Var → Var} (hP : IsLayerRenaming π P)
include hP

theorem edgeVar (e : Edge) (i : Nat) : P (edgeVar e i) = FP.edgeVar e (π i) := hP.uvi _ _ _ _
theorem selVar (e : Edge) (i : Nat) : P (selVar e i) = FP.selVar e (π i) := hP.uvi _ _ _ _
theorem usedVar (e : Edge) (i : Nat) : P (usedVar e i) = FP.usedVar e (π i) := hP.uvi _ _ _ _
theorem distVar (v : Node) (i : Nat) : P (distVar v i) = FP.distVar v (π i) := hP.vi _ _ _
theorem rVar (i j : Nat) : P (rVar i j) = FP.rVar (π i) j := hP.ij _ _ _

end IsLayerRenaming

section WalkEnc
variable (s : STGraph) (c : WalkCfg) (ub : Edge → Rat)

/-- `layer_perm_invariant` for `create_solver_and_walks` without safety options -/
theorem walkCore_perm (a : Asg) (π : LayerPerm c.k) (P : Var → Var) (hP : IsLayerRenaming π.fwd P)
    (h : Sat a (walkCore s c ub)) : Sat (a ∘ P) (walkCore s c ub) :=
  sat_append
    (encodeWalks_transfer s c ub π.fwd π.fwd_lt a _ (fun e i => congrArg a (hP.edgeVar e i))
      (fun e i => congrArg a (hP.selVar e i)) (fun v i => congrArg a (hP.distVar v i)) (sat_append_left h))
    (subsetBlock_transfer s c ub π.fwd π.fwd_lt a _ (sum_range_perm π) (fun e i => congrArg a (hP.edgeVar e i))
      (fun e i => congrArg a (hP.usedVar e i)) (fun i j => congrArg a (hP.rVar i j)) (sat_append_right h))

end WalkEnc

theorem kcovercCover_perm (inp : WalkInput) (a : Asg) (π : LayerPerm inp.k) (P : Var → Var)
    (hP : IsLayerRenaming π.fwd P) (h : Sat a (kcovercCover inp)) :
    Sat (a ∘ P) (kcovercCover inp) ∧
    evalTerms (a ∘ P) (kcovercCover inp).obj = evalTerms a (kcovercCover inp).obj :=
  kcovercCover_congr inp a _ (fun e => by
    simp only [Function.comp_apply, hP.edgeVar]
    exact sum_range_perm π fun i => a (edgeVar e i)) h

/-- `layer_perm_invariant` for `kPathCoverCycles` (safety options off): feasibility and the objective value -/
theorem kcovercLP_perm (inp : WalkInput) (a : Asg) (π : LayerPerm inp.k) (P : Var → Var)
    (hP : IsLayerRenaming π.fwd P) (h : Sat a (kcovercLP inp)) :
    Sat (a ∘ P) (kcovercLP inp) ∧
    evalTerms (a ∘ P) (kcovercLP inp).obj = evalTerms a (kcovercLP inp).obj :=
  have hc := kcovercCover_perm inp a π P hP (sat_append_right h)
  ⟨sat_append (walkCore_perm inp.st inp.cfg _ a π P hP (sat_append_left h)) hc.1, hc.2⟩

/-- `permLayers` extended to the per-layer scalars `path_length<i>`, `w<i>` of the DAG models -/
def permLayersD (π : Nat → Nat) : Var → Var
  | .uvi p u v i => .uvi p u v (π i)
  | .vi p v i => .vi p v (π i)
  | .ij p i j => .ij p (π i) j
  | .ix p i => .ix p (π i)
  | v => v

structure IsLayerRenamingD (π : Nat → Nat) (P : Var → Var) : Prop extends IsLayerRenaming π P where
  ix : ∀ p i, P (.ix p i) = .ix p (π i)

theorem permLayersD_isLayerRenaming (π : Nat → Nat) : IsLayerRenamingD π (permLayersD π) :=
  ⟨⟨fun _ _ _ _ => rfl, fun _ _ _ => rfl, fun _ _ _ => rfl⟩, fun _ _ => rfl⟩

namespace IsLayerRenamingD
variable {π : Nat → Nat} {P : Var → Var} (hP : IsLayerRenamingD π P)
include hP

theorem posVar (e : Edge) (i : Nat) : P (posVar e i) = FP.posVar e (π i) := hP.uvi _ _ _ _
theorem piVar (e : Edge) (i : Nat) : P (piVar e i) = FP.piVar e (π i) := hP.uvi _ _ _ _
theorem lenVar (i : Nat) : P (lenVar i) = FP.lenVar (π i) := hP.ix _ _
theorem wVar (i : Nat) : P (wVar i) = FP.wVar (π i) := hP.ix _ _

end IsLayerRenamingD

section PathEnc
variable (s : STGraph) (c : PathCfg) {P : Var → Var} (a : Asg) (π : LayerPerm c.k)
  (hP : IsLayerRenamingD π.fwd P)
include hP

theorem subpathBlock_perm (h : Sat a (subpathBlock c)) : Sat (a ∘ P) (subpathBlock c) := by
  rw [sat_subpathBlock_iff] at h ⊢
  obtain ⟨hbin, h7a, h7b⟩ := h
  simp only [Function.comp, hP.rVar, hP.edgeVar]
  refine ⟨fun i hi => hbin _ (π.fwd_lt i hi), fun i hi => h7a _ (π.fwd_lt i hi), fun j hj => ?_⟩
  rw [sum_range_perm π fun i => a (rVar i j)]
  exact h7b j hj

/-- `layer_perm_invariant` for `_encode_paths` -/
theorem encodePaths_perm (h : Sat a (encodePaths s c)) : Sat (a ∘ P) (encodePaths s c) := by
  rw [sat_encodePaths_iff] at h ⊢
  simp only [Function.comp, hP.edgeVar, hP.posVar, hP.lenVar]
  exact ⟨fun i hi => h.1 _ (π.fwd_lt i hi), subpathBlock_perm c a π hP h.2.1,
    fun hp i hi => h.2.2 hp _ (π.fwd_lt i hi)⟩

end PathEnc

/-- `layer_perm_invariant` for `kPathCover` (the class sets no objective) -/
theorem kcoverLP_perm (inp : FlowInput) (a : Asg) (π : LayerPerm inp.cfg.k) (P : Var → Var)
    (hP : IsLayerRenamingD π.fwd P) (h : Sat a (kcoverLP inp)) :
    Sat (a ∘ P) (kcoverLP inp) ∧ evalTerms (a ∘ P) (kcoverLP inp).obj = evalTerms a (kcoverLP inp).obj := by
  refine ⟨?_, rfl⟩
  unfold kcoverLP at h ⊢
  refine sat_append (encodePaths_perm inp.st inp.cfg a π hP (sat_append_left h))
    ⟨fun _ hc => (List.not_mem_nil hc).elim, fun r hr => ?_⟩
  obtain ⟨e, _, rfl⟩ := List.mem_map.1 hr
  have h1 := (sat_append_right h).2 _ hr
  rw [rowGe_holds, evalTerms_ones] at h1 ⊢
  simp only [Function.comp, hP.edgeVar]
  rw [sum_range_perm π fun i => a (edgeVar e i)]
  exact h1

theorem binProd_holds_comp (a : Asg) (P : Var → Var) (b c p : Var) (lb ub : Rat) :
    (∀ r ∈ binProd b c p lb ub, r.holds (a ∘ P)) ↔ ∀ r ∈ binProd (P b) (P c) (P p) lb ub, r.holds a := by
  simp only [binProd, List.forall_mem_cons, List.not_mem_nil, false_imp_iff, implies_true, and_true,
    rowLe_holds, rowGe_holds, evalTerms_cons, evalTerms_nil, Function.comp]

/-- `layer_perm_invariant` for `kFlowDecomp` (no given weights): the weights move with their layers -/
theorem kfdLP_perm (inp : FlowInput) (a : Asg) (π : LayerPerm inp.cfg.k) (P : Var → Var)
    (hP : IsLayerRenamingD π.fwd P) (h : Sat a (kfdLP inp)) : Sat (a ∘ P) (kfdLP inp) := by
  unfold kfdLP at h ⊢
  refine sat_append (encodePaths_perm inp.st inp.cfg a π hP (sat_append_left h)) ?_
  have h2 := sat_append_right h
  -- columns and product rows are indexed by the layer; the flow rows sum over all layers
  simp only [Sat, List.forall_mem_append, List.forall_mem_flatMap, List.forall_mem_map, List.mem_range,
    col_holds_iff, coupleBin_holds, binProd_holds_comp, rowEq_holds, evalTerms_ones, Function.comp,
    hP.piVar, hP.wVar, hP.edgeVar] at h2 ⊢
  obtain ⟨⟨hpi, hw⟩, hprod, hflow⟩ := h2
  refine ⟨⟨fun i hi => hpi _ (π.fwd_lt i hi), fun i hi => hw _ (π.fwd_lt i hi)⟩,
    fun e he i hi => hprod e he _ (π.fwd_lt i hi), fun e he => ?_⟩
  rw [sum_range_perm π fun i => a (piVar e i)]
  exact hflow e he

end FP
