import FP.Model.Round
/-! `pyRound` is the nearest integer, fixes integers, and sends ties to even. -/
namespace FP

theorem pyRound_near (x : Rat) (n : Int) (h1 : (n : Rat) - 1/2 < x) (h2 : x < (n : Rat) + 1/2) :
    pyRound x = n := by
  have ⟨a1, a2, a3, a4, a5⟩ : (n : Rat) - 1 ≤ x ∧ x < (n : Rat) + 1 ∧ x - (n : Rat) < 1/2 ∧
      ¬ x - ((n : Rat) - 1) < 1/2 ∧ 1/2 < x - ((n : Rat) - 1) := by grind
  -- `floor x` is `n` or `n - 1`; the fractional part is below `1/2` in the first case and above in the second
  have hfl : x.floor = n ∨ x.floor = n - 1 := by
    have h3 : n - 1 ≤ x.floor := Rat.le_floor_iff.2 (by rw [Rat.intCast_sub]; exact a1)
    have h4 : x.floor < n + 1 := Rat.floor_lt_iff.2 (by rw [Rat.intCast_add]; exact a2)
    omega
  unfold pyRound
  rcases hfl with h | h <;> simp only [h]
  · rw [if_pos a3]
  · rw [Rat.intCast_sub, Rat.intCast_one, if_neg a4, if_pos a5]; omega

theorem pyRound_int (n : Int) : pyRound (n : Rat) = n :=
  pyRound_near _ n (by grind) (by grind)

theorem pyRoundCount_natCast (n : Nat) : pyRoundCount (n : Rat) = n := by
  unfold pyRoundCount
  rw [← Rat.intCast_natCast, pyRound_int]; simp

theorem pyRoundCount_near (x : Rat) (n : Nat) (h1 : (n : Rat) - 1/2 < x) (h2 : x < (n : Rat) + 1/2) :
    pyRoundCount x = n := by
  unfold pyRoundCount
  rw [pyRound_near x (n : Int) (by rw [Rat.intCast_natCast]; exact h1) (by rw [Rat.intCast_natCast]; exact h2)]
  exact Int.toNat_natCast n

theorem pyRound_near_toNat (x : Rat) (n : Nat) (h1 : (n : Rat) - 1/2 < x) (h2 : x < (n : Rat) + 1/2) :
    (pyRound x).toNat = n := pyRoundCount_near x n h1 h2

theorem nat_of_int_nonneg_round (q : Rat) (h0 : 0 ≤ q) (hz : ∃ z : Int, q = z) :
    q = ((pyRoundCount q : Nat) : Rat) := by
  obtain ⟨z, rfl⟩ := hz
  have hz0 : (0 : Int) ≤ z := Rat.intCast_nonneg.1 h0
  unfold pyRoundCount
  rw [pyRound_int, ← Rat.intCast_natCast, Int.toNat_of_nonneg hz0]

example : pyRound (1/2) = 0 := by decide +kernel
example : pyRound (3/2) = 2 := by decide +kernel
example : pyRound (5/2) = 2 := by decide +kernel
example : pyRound (-1/2) = 0 := by decide +kernel
example : pyRound (-3/2) = -2 := by decide +kernel
example : pyRound (-5/2) = -2 := by decide +kernel
example : (pyRound (-3/2)).toNat = 0 := by decide +kernel

end FP
