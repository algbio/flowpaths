import FP.Model.GreedyShortcut
import FP.Proofs.Greedy
/-!
The greedy shortcut of `kFlowDecomp`, as far as `Props/C03` builds on it: what a firing shortcut returns (`greedyShortcut_some`: the greedy paths
padded with copies of the first one at weight 0), the padding lemmas, and the bounds on `occurrence` behind the constraint test.
-/
namespace FP
open FP.Spec

/-- `D` (paths with weights) is a decomposition of `f` on the DAG `g`: source-to-sink paths, non-negative
weights, `Σ_i w_i · [e ∈ p_i] = f(e)` on every edge -/
structure IsPathDecomp (g : Graph) (f : Edge → Rat) (D : List (List Node × Rat)) : Prop where
  paths : ∀ pw ∈ D, IsSTPath g pw.1 ∧ 0 ≤ pw.2
  explains : ∀ e ∈ g.edges, peeledSum D e = f e

theorem peeledSum_replicate_zero (n : Nat) (p : List Node) (e : Edge) :
    peeledSum (List.replicate n (p, (0 : Rat))) e = 0 :=
  sum_map_zero fun pw h => by rw [(List.mem_replicate.1 h).2]; exact Rat.zero_mul _

-- padding a list `A` with copies of `a` up to length `k ≥ A.length`, as the shortcut does with both its lists

theorem zip_pad (l : List (List Node × Rat)) (n : Nat) (p : List Node) :
    (l.map (·.1) ++ List.replicate n p).zip (l.map (·.2) ++ List.replicate n (0 : Rat)) =
      l ++ List.replicate n (p, 0) := by
  have h : (l.map (·.1)).zip (l.map (·.2)) = l := by
    have := List.zip_unzip l
    rwa [List.unzip_eq_map] at this
  rw [List.zip_append (by simp only [List.length_map]), h, List.zip_replicate']

theorem pad_length {α} (A : List α) (n k : Nat) (a : α) (hn : A.length = n) (hk : n ≤ k) :
    (A ++ List.replicate (k - n) a).length = k := by
  rw [List.length_append, List.length_replicate]; omega

theorem greedyShortcut_some (x : GSIn) (ps : List (List Node)) (ws : List Rat)
    (h : greedyShortcut x = some (ps, ws)) :
    gsGuard x = true ∧ ∃ r pw0 rest, decompose x.g x.f x.topo = .done r ∧ r.paths = pw0 :: rest ∧
      gsConstraintFails x (r.paths.map (·.1)) = false ∧ r.paths.length ≤ x.k ∧
      ps = r.paths.map (·.1) ++ List.replicate (x.k - r.paths.length) pw0.1 ∧
      ws = r.paths.map (·.2) ++ List.replicate (x.k - r.paths.length) 0 := by
  unfold greedyShortcut at h
  by_cases hg : gsGuard x = true
  · simp only [hg, Bool.not_true, Bool.false_eq_true, if_false] at h
    refine ⟨hg, ?_⟩
    cases hd : decompose x.g x.f x.topo with
    | stuck => rw [hd] at h; simp at h
    | done r =>
      rw [hd] at h
      simp only at h
      cases hp : r.paths with
      | nil => rw [hp] at h; simp at h
      | cons pw0 rest =>
        rw [hp] at h
        simp only at h
        by_cases hc : gsConstraintFails x ((pw0 :: rest).map (·.1)) = true
        · rw [if_pos hc] at h; simp at h
        · rw [if_neg hc] at h
          by_cases hk : (pw0 :: rest).length ≤ x.k
          · rw [if_pos hk] at h
            simp only [Option.some.injEq, Prod.mk.injEq] at h
            refine ⟨r, pw0, rest, rfl, hp, ?_, ?_, ?_, ?_⟩
            · rw [hp]; simpa using hc
            · rw [hp]; exact hk
            · rw [hp]; exact h.1.symm
            · rw [hp]; exact h.2.symm
          · rw [if_neg hk] at h; simp at h
  · simp [hg] at h

theorem occurrence_nonneg (p : List Node) (con : List (Edge × Rat)) (hpos : ∀ el ∈ con, 0 < el.2) :
    0 ≤ occurrence con p :=
  sum_map_nonneg fun el hel => by
    split
    · exact Rat.le_of_lt (hpos el hel)
    · exact Rat.le_refl

/-- `occurrence` and `conLength` sum over the same list, termwise `≤`, and strictly at an edge off the path -/
theorem occurrence_lt (p : List Node) (con : List (Edge × Rat)) (hpos : ∀ el ∈ con, 0 < el.2)
    (el : Edge × Rat) (hel : el ∈ con) (hne : el.1 ∉ walkEdges p) : occurrence con p < conLength con := by
  refine sum_map_lt con _ (·.2) (fun el' hel' => ?_) el hel ?_
  · split
    · exact Rat.le_refl
    · exact Rat.le_of_lt (hpos el' hel')
  · rw [if_neg fun hc => hne (List.contains_iff_mem.1 hc)]
    exact hpos el hel

theorem fold_lt {α} (f : α → Rat) (L : Rat) (l : List α) :
    ∀ m, m < L → (∀ p ∈ l, f p < L) → l.foldl (fun m p => if f p > m then f p else m) m < L := by
  induction l with
  | nil => intro m hm _; exact hm
  | cons p ps ih =>
    intro m hm h
    refine ih _ ?_ fun q hq => h q (List.mem_cons_of_mem _ hq)
    show (if f p > m then f p else m) < L
    split
    · exact h p List.mem_cons_self
    · exact hm

end FP
