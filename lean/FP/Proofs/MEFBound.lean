import FP.Proofs.FlowCap
import FP.Proofs.MEF
/-!
The a-priori bound `ub = w_max · |E|` of `MinErrorFlow` loses no optimum (`mef_ub_adequate`): by `cap_flow` with
`M = w_max`, every flow on the model graph can be replaced by a candidate (all values `≤ ub`) of no greater cost.
Hence an optimum of stage 1 is at least as close to the observation as every flow on the model graph (`mef_opt_all`),
and, with `extendUser` carrying a flow on the user's graph to the s-t augmentation, as every flow on the user's own
graph (`mef_closest_user_acyclic`, `mef_closest_user_cyclic`).
-/
namespace FP
open FP.Spec

theorem MEFInput.graph_edges_nodup (inp : MEFInput) (hwf : BaseWF inp.base) :
    inp.graph.edges.Nodup := by
  cases hac : inp.acyclic with
  | false => rw [inp.graph_cyclic hac]; exact hwf.edgesNodup
  | true =>
    rw [inp.graph_acyclic hac]
    exact aug_edges_nodup hwf

theorem qabs_mono_cap (f x x' M : Rat) (hf : f ≤ M) (h : x' = x ∨ (M ≤ x' ∧ x' ≤ x)) :
    qabs (f - x') ≤ qabs (f - x) := by
  rcases h with rfl | ⟨h1, h2⟩
  · exact Rat.le_refl
  · -- `f ≤ M ≤ x' ≤ x`: both differences are non-positive
    have := (qabs_le_iff (f - x) _).1 Rat.le_refl
    rw [qabs_le_iff]
    constructor <;> grind

/-- lowering a flow, only above `w_max` and not below it, raises neither the error nor the sparsity term -/
theorem MEFInput.cost_le_of_capped (inp : MEFInput) (hsc : ∀ p ∈ inp.scaling, 0 ≤ p.2)
    (x x' : Edge → Rat) (hinv : ∀ e, x' e = x e ∨ (inp.wmax ≤ x' e ∧ x' e ≤ x e)) :
    inp.cost x' ≤ inp.cost x := by
  have herr : absErr inp.active inp.scale inp.f x' ≤ absErr inp.active inp.scale inp.f x :=
    sum_map_le fun e he =>
      Rat.mul_le_mul_of_nonneg_left
        (qabs_mono_cap _ _ _ _ (inp.f_le_wmax e (List.mem_filter.1 he).1) (hinv e))
        (inp.scale_nonneg hsc e)
  have hsp : inp.sparsity x' ≤ inp.sparsity x := by
    unfold MEFInput.sparsity
    split
    · rename_i hl
      exact Rat.mul_le_mul_of_nonneg_left (sum_map_le fun e _ => capped_le (hinv e)) (Rat.le_of_lt hl)
    · exact Rat.le_refl
  exact Rat.le_trans (Rat.add_le_add_right.2 herr) (Rat.add_le_add_left.2 hsp)

theorem MEFInput.wmax_isInt (inp : MEFInput) (hE : inp.graph.edges ≠ [])
    (hfi : ∀ e ∈ inp.graph.edges, ∃ z : Int, inp.f e = z) : ∃ z : Int, inp.wmax = z := by
  obtain ⟨e, he, heq⟩ := List.mem_map.1
    (listMax_mem (inp.graph.edges.map fun e => lookupD inp.flow e 0) (mt List.map_eq_nil_iff.1 hE))
  obtain ⟨z, hz⟩ := hfi e he
  exact ⟨z, heq.symm.trans hz⟩

theorem mef_ub_adequate (inp : MEFInput) (hd : inp.DataOK) (hnd : inp.graph.edges.Nodup)
    (hfi : inp.weightInt = true → ∀ e ∈ inp.graph.edges, ∃ z : Int, inp.f e = z)
    (x : Edge → Rat) (hx : IsFlow inp.graph x)
    (hxi : inp.weightInt = true → ∀ e ∈ inp.graph.edges, ∃ z : Int, x e = z) :
    ∃ x', inp.Candidate x' ∧ inp.cost x' ≤ inp.cost x := by
  by_cases hE : inp.graph.edges = []
  · exact ⟨x, ⟨hx, fun e he => by simp [hE] at he, hxi⟩, Rat.le_refl⟩
  · obtain ⟨e1, he1⟩ := List.exists_mem_of_ne_nil _ hE
    have hM : 0 ≤ inp.wmax := Rat.le_trans (hd.fNonneg e1 he1) (inp.f_le_wmax e1 he1)
    obtain ⟨x', hx', hinv, hbound, hint⟩ := cap_flow inp.graph hnd inp.wmax hM _ x hx rfl
    exact ⟨x', ⟨hx', hbound, fun hi => hint (inp.wmax_isInt hE (hfi hi)) (hxi hi)⟩,
      inp.cost_le_of_capped hd.scaleNonneg x x' hinv⟩

theorem MEFInput.active_sub_base (inp : MEFInput) (hwf : BaseWF inp.base) (hac : inp.acyclic = true) :
    ∀ e ∈ inp.active, e ∈ inp.base.edges := by
  intro e he
  have hm := List.mem_filter.1 he
  have hmem := hm.1
  rw [inp.graph_acyclic hac] at hmem
  -- the synthetic edges are ignored
  have hss : e ∉ (augment inp.base inp.starts inp.ends).sourceSinkEdges := fun h => by
    simp [MEFInput.ignored, hac, h] at hm
  rcases (aug_mem_edges (st := inp.starts) (en := inp.ends) hwf).1 hmem with h | h | h
  · exact h
  · exact absurd (List.mem_append_right _
      (List.mem_filter.2 ⟨hmem, decide_eq_true (mem_snkEdges.1 h).1⟩)) hss
  · exact absurd (List.mem_append_left _
      (List.mem_filter.2 ⟨hmem, decide_eq_true (mem_srcEdges.1 h).1⟩)) hss

theorem MEFInput.cost_of_lambda (inp : MEFInput) (hlam : ¬ inp.lambda > 0) (x : Edge → Rat) :
    inp.cost x = absErr inp.active inp.scale inp.f x := by
  unfold MEFInput.cost MEFInput.sparsity
  simp only [hlam, if_false]; grind

theorem mef_opt_all (inp : MEFInput) (a : Asg) (hnd : inp.graph.edges.Nodup) (hd : inp.DataOK)
    (hfi : inp.weightInt = true → ∀ e ∈ inp.graph.edges, ∃ z : Int, inp.f e = z)
    (hsat : Sat a (mefStage1 inp))
    (hopt : ∀ a', Sat a' (mefStage1 inp) →
      evalTerms a (mefStage1 inp).obj ≤ evalTerms a' (mefStage1 inp).obj)
    (x : Edge → Rat) (hx : IsFlow inp.graph x)
    (hxi : inp.weightInt = true → ∀ e ∈ inp.graph.edges, ∃ z : Int, x e = z) :
    inp.cost (fun e => a (evVar e)) ≤ inp.cost x := by
  obtain ⟨x', hc, hle⟩ := mef_ub_adequate inp hd hnd hfi x hx hxi
  exact Rat.le_trans ((mef_opt_transfer inp a hd hsat hopt).2.1 x' hc) hle

theorem mef_closest_user_acyclic (inp : MEFInput) (a : Asg) (hwf : BaseWF inp.base)
    (hac : inp.acyclic = true) (hlam : ¬ inp.lambda > 0) (hd : inp.DataOK)
    (hfi : inp.weightInt = true → ∀ e ∈ inp.graph.edges, ∃ z : Int, inp.f e = z)
    (hsat : Sat a (mefStage1 inp))
    (hopt : ∀ a', Sat a' (mefStage1 inp) →
      evalTerms a (mefStage1 inp).obj ≤ evalTerms a' (mefStage1 inp).obj)
    (y : Edge → Rat) (hnn : ∀ e ∈ inp.base.edges, 0 ≤ y e)
    (h1 : ∀ v ∈ inp.base.nodes, inp.base.outEdges v ≠ [] → v ∉ inp.ends →
      inSum inp.base y v ≤ outSum inp.base y v)
    (h2 : ∀ v ∈ inp.base.nodes, inp.base.inEdges v ≠ [] → v ∉ inp.starts →
      outSum inp.base y v ≤ inSum inp.base y v)
    (hyi : inp.weightInt = true → ∀ e ∈ inp.base.edges, ∃ z : Int, y e = z) :
    absErr inp.active inp.scale inp.f (fun e => a (evVar e))
      ≤ absErr inp.active inp.scale inp.f y := by
  -- `y`, extended to the s-t augmentation, is a flow on the model graph
  have hbase := extendUser_base hwf y
  have h := mef_opt_all inp a (inp.graph_edges_nodup hwf) hd hfi hsat hopt (extendUser inp.base y)
    (inp.graph_acyclic hac ▸ isFlow_extendUser hwf y hnn h1 h2)
    (fun hi => inp.graph_acyclic hac ▸ isInt_extendUser hwf y (hyi hi))
  rw [inp.cost_of_lambda hlam, inp.cost_of_lambda hlam] at h
  have heq : absErr inp.active inp.scale inp.f (extendUser inp.base y)
      = absErr inp.active inp.scale inp.f y :=
    congrArg List.sum (List.map_congr_left fun e he => by
      rw [hbase e (inp.active_sub_base hwf hac e he)])
  rw [heq] at h; exact h

theorem mef_closest_user_cyclic (inp : MEFInput) (a : Asg) (hnd : inp.base.edges.Nodup)
    (hac : inp.acyclic = false) (hlam : ¬ inp.lambda > 0) (hd : inp.DataOK)
    (hfi : inp.weightInt = true → ∀ e ∈ inp.graph.edges, ∃ z : Int, inp.f e = z)
    (hsat : Sat a (mefStage1 inp))
    (hopt : ∀ a', Sat a' (mefStage1 inp) →
      evalTerms a (mefStage1 inp).obj ≤ evalTerms a' (mefStage1 inp).obj)
    (y : Edge → Rat) (hy : IsFlow inp.base y)
    (hyi : inp.weightInt = true → ∀ e ∈ inp.base.edges, ∃ z : Int, y e = z) :
    absErr inp.active inp.scale inp.f (fun e => a (evVar e))
      ≤ absErr inp.active inp.scale inp.f y := by
  have hg := inp.graph_cyclic hac
  have h := mef_opt_all inp a (by rw [hg]; exact hnd) hd hfi hsat hopt y (by rw [hg]; exact hy)
    (by rw [hg]; exact hyi)
  rw [inp.cost_of_lambda hlam, inp.cost_of_lambda hlam] at h
  exact h

end FP
