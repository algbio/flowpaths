import FP.Model.SafetyFix
import FP.Proofs.Reach
/-! An edge outside `protectedEdges g seq` lies on no walk that contains the members of `seq`. -/
namespace FP.Safety
open FP.Spec

/-- the four places that `protectedEdges` keeps: `e` is a member of `seq`, or precedes its first element (its head
reaches the first node), or follows its last element (its tail is reachable from the last node), or sits in the gap
between two consecutive elements. Every edge of a walk that contains the members of `seq` is in one of them
(`placed_of_walk`). -/
def Placed (E : List Edge) (seq : List Edge) (e : Edge) : Prop :=
  e ∈ seq ∨ (∃ a, seq.head? = some a ∧ Reach E e.2 a.1) ∨ (∃ b, seq.getLast? = some b ∧ Reach E b.2 e.1)
    ∨ ∃ pr ∈ seq.zip seq.tail, Reach E pr.1.2 e.1 ∧ Reach E e.2 pr.2.1

/-- the first member of a non-empty list with `P`, if any, is its head or follows a member without `P`; if none, the
last member is without `P` -/
theorem first_with {α : Type} (P : α → Prop) : ∀ seq : List α, seq ≠ [] →
    (∃ a, seq.head? = some a ∧ P a) ∨ (∃ b, seq.getLast? = some b ∧ ¬ P b) ∨
      ∃ pr ∈ seq.zip seq.tail, ¬ P pr.1 ∧ P pr.2 := by
  intro seq
  induction seq with
  | nil => intro h; exact absurd rfl h
  | cons a l ih =>
    intro _
    by_cases ha : P a
    · exact Or.inl ⟨a, rfl, ha⟩
    · cases l with
      | nil => exact Or.inr (Or.inl ⟨a, rfl, ha⟩)
      | cons b r =>
        rcases ih (List.cons_ne_nil b r) with ⟨b', hb', hP⟩ | ⟨c, hc, hP⟩ | ⟨pr, hpr, hP⟩
        · obtain rfl : b = b' := Option.some.inj hb'
          exact Or.inr (Or.inr ⟨(a, b), List.mem_cons_self, ha, hP⟩)
        · exact Or.inr (Or.inl ⟨c, by rw [List.getLast?_cons_cons]; exact hc, hP⟩)
        · exact Or.inr (Or.inr ⟨pr, List.mem_cons_of_mem _ hpr, hP⟩)

/-- Two edges of one walk are comparable (`reach_of_common_walk`), so an edge `e` of `w` outside `seq` comes before the
first member of `seq` that its head reaches; every member before that one reaches the tail of `e`. The order in which
`seq` lists its members plays no part. -/
theorem placed_of_walk (g : Graph) (w : List Node) (hw : IsWalkIn g w) (seq : List Edge) (hne : seq ≠ [])
    (hsub : ∀ x ∈ seq, x ∈ walkEdges w) (e : Edge) (he : e ∈ walkEdges w) : Placed g.edges seq e := by
  by_cases hmem : e ∈ seq
  · exact Or.inl hmem
  · have hcmp : ∀ x ∈ seq, ¬ Reach g.edges e.2 x.1 → Reach g.edges x.2 e.1 := fun x hx hn =>
      (reach_of_common_walk g w hw e x he (hsub x hx) fun h => hmem (h ▸ hx)).resolve_left hn
    rcases first_with (fun x => Reach g.edges e.2 x.1) seq hne with ⟨a, ha, hr⟩ | ⟨b, hb, hr⟩ | ⟨pr, hpr, h1, h2⟩
    · exact Or.inr (Or.inl ⟨a, ha, hr⟩)
    · exact Or.inr (Or.inr (Or.inl ⟨b, hb, hcmp b (List.mem_of_getLast? hb) hr⟩))
    · exact Or.inr (Or.inr (Or.inr ⟨pr, hpr, hcmp pr.1 (List.of_mem_zip hpr).1 h1, h2⟩))

theorem placed_protected (g : Graph) (hg : GraphWF g) (walk : List Edge)
    (hn : ∀ e ∈ walk, e.1 ∈ g.nodes ∧ e.2 ∈ g.nodes) (e : Edge) (he : e ∈ g.edges)
    (hp : Placed g.edges walk e) : e ∈ protectedEdges g walk := by
  cases walk with
  | nil => exact he
  | cons a' l =>
    obtain ⟨b, hb⟩ : ∃ b, (a' :: l).getLast? = some b := ⟨_, List.getLast?_eq_some_getLast (by simp)⟩
    unfold protectedEdges
    simp only [List.head?_cons, hb]
    refine List.mem_filter.2 ⟨he, ?_⟩
    simp only [Bool.or_eq_true, List.contains_iff_mem, List.any_eq_true, Bool.and_eq_true]
    rcases hp with h | ⟨a, ha, hra⟩ | ⟨b', hb', hrb⟩ | ⟨pr, hpr, h1, h2⟩
    · exact Or.inl (Or.inl (Or.inl h))
    · obtain rfl : a' = a := Option.some.inj ha
      exact Or.inl (Or.inr (reaching_complete g hg a'.1 e.2 (hn a' List.mem_cons_self).1 hra))
    · obtain rfl : b = b' := Option.some.inj (hb.symm.trans hb')
      exact Or.inl (Or.inl (Or.inr
        (reachFrom_complete hg e.1 (hn b (List.mem_of_getLast? hb)).2 hrb)))
    · have hz := List.of_mem_zip (a := pr.1) (b := pr.2) hpr
      exact Or.inr ⟨(reachFrom g pr.1.2, reaching g pr.2.1),
        List.mem_map.2 ⟨(pr.1.2, pr.2.1), List.mem_map.2 ⟨pr, hpr, rfl⟩, rfl⟩,
        reachFrom_complete hg e.1 (hn _ hz.1).2 h1,
        reaching_complete g hg pr.2.1 e.2 (hn _ (List.mem_of_mem_tail hz.2)).1 h2⟩

theorem zeroFix_mem (g : Graph) (walks : List (List Edge)) (k : Nat) (zs : List (Edge × Nat))
    (h : zeroFix g walks k = .ok zs) (e : Edge) (i : Nat) (hz : (e, i) ∈ zs) :
    e ∈ g.edges ∧ i < walks.length ∧ i < k ∧ walks.getD i [] ≠ [] ∧
      (∀ x ∈ walks.getD i [], x.1 ∈ g.nodes ∧ x.2 ∈ g.nodes) ∧ e ∉ protectedEdges g (walks.getD i []) := by
  unfold zeroFix at h
  simp only at h
  split at h
  · cases h
  · rename_i hbad
    injection h with h; subst h
    obtain ⟨⟨i', walk⟩, hmem, hin⟩ := List.mem_flatMap.1 hz
    simp only at hin
    split at hin
    · simp at hin
    · rename_i hne
      obtain ⟨e', he', heq⟩ := List.mem_map.1 hin
      injection heq with h1 h2; subst h1; subst h2
      obtain ⟨heg, hnp⟩ := List.mem_filter.1 he'
      obtain ⟨hlen, hg2⟩ := (mem_zip_range (walks.take k) i' walk).1 hmem
      rw [List.length_take] at hlen
      have hwalk : walks.getD i' [] = walk := by
        rw [← hg2, List.getElem_take, getD_eq_getElem walks [] (by omega)]
      have hwm : walk ∈ walks.take k := hg2 ▸ List.getElem_mem _
      rw [hwalk]
      refine ⟨heg, by omega, by omega, fun h0 => hne (by simp [h0]), fun x hx => ?_, by simpa using hnp⟩
      simp only [Bool.not_eq_true, List.any_eq_false] at hbad
      simpa using hbad walk hwm x hx

/-- an edge that `_apply_safety_optimizations_fix_zero_edges` fixes to zero for slot `i` lies on no walk that
contains the edges of the slot's sequence (in whatever order) -/
theorem zeroFix_sound (g : Graph) (hg : GraphWF g) (walks : List (List Edge)) (k : Nat)
    (zs : List (Edge × Nat)) (h : zeroFix g walks k = .ok zs) :
    ∀ e i, (e, i) ∈ zs → ∀ w, IsWalkIn g w → (∀ x ∈ walks.getD i [], x ∈ walkEdges w) → e ∉ walkEdges w := by
  intro e i hz w hw ho hew
  obtain ⟨heg, -, -, hne, hnodes, hnp⟩ := zeroFix_mem g walks k zs h e i hz
  exact hnp (placed_protected g hg _ hnodes e heg (placed_of_walk g w hw _ hne ho e hew))

end FP.Safety
