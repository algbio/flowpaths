import FP.Proofs.CondWalkCover
/-!
The hypotheses `hclosed` and `hinc` of `cwc_condensation_flow_to_walkcover` are needed: `cwc_needs_closed`
and `cwc_needs_no_isolated` refute its statement with one of them dropped, on a concrete input. The last
instance, `cwcDup`, lists an edge twice in `edges_to_ignore`.
-/
namespace FP
open FP.Spec

-- trap: `WalkResidual` has `FP.outN` with the same body; once it is imported, `outN` below means that one and this fails
example : @outN = @FP.Spec.outN := by with_reducible rfl

/-- an edge whose endpoints are not in the node list is invisible to the condensation -/
def cwcBad1 : CondInput := { g := { nodes := [], edges := [("source", "sink")] }, scc := [], ignore := [] }

theorem cwc_needs_closed : ¬ ∀ (c : CondInput) (w d : List (Edge × Int)) (f : Edge → Nat) (cost : Nat),
    (∀ u ∈ c.g.nodes, ∀ v ∈ c.g.nodes,
      c.comp u = c.comp v ↔ (Reach c.g.edges u v ∧ Reach c.g.edges v u)) →
    (∀ e ∈ c.g.edges, Reach c.g.edges srcName e.1 ∧ Reach c.g.edges e.2 snkName) →
    (∀ v ∈ c.g.nodes, ∃ e ∈ c.g.edges, e.1 = v ∨ e.2 = v) →
    c.weightFunction = some w → c.demands = some d →
    CoveringFlow c.expandedST (fun e => (lookupD d e 0).toNat) f →
    outN c.expandedST.g f c.expandedST.source = cost →
    HasCover ⟨c.g, srcName, snkName⟩ (c.g.edges.filter fun e => !c.ignore.contains e) [] cost := by
  intro h
  have := h cwcBad1 (cwcBad1.weightFunction.getD []) (cwcBad1.demands.getD []) (fun _ => 0) 0
    (fun u hu => absurd hu List.not_mem_nil)
    (fun e he => by
      have : e = ("source", "sink") := List.mem_singleton.1 he
      subst this
      exact ⟨Reach.refl _, Reach.refl _⟩)
    (fun v hv => absurd hv List.not_mem_nil)
    (Option.getD_of_ne_none (by decide) []).symm (Option.getD_of_ne_none (by decide) []).symm
    ⟨by decide +kernel, by decide +kernel⟩ (by decide +kernel)
  exact absurd (hasCover_zero this).1 (by decide)

/-- an isolated node is a component `source → k → sink` of the min-flow instance -/
def cwcBad2 : CondInput := { g := { nodes := ["x"], edges := [] }, scc := [("x", 0)], ignore := [] }

theorem cwc_needs_no_isolated : ¬ ∀ (c : CondInput) (w d : List (Edge × Int)) (f : Edge → Nat) (cost : Nat),
    (∀ u ∈ c.g.nodes, ∀ v ∈ c.g.nodes,
      c.comp u = c.comp v ↔ (Reach c.g.edges u v ∧ Reach c.g.edges v u)) →
    (∀ e ∈ c.g.edges, Reach c.g.edges srcName e.1 ∧ Reach c.g.edges e.2 snkName) →
    (∀ e ∈ c.g.edges, e.1 ∈ c.g.nodes ∧ e.2 ∈ c.g.nodes) →
    c.weightFunction = some w → c.demands = some d →
    CoveringFlow c.expandedST (fun e => (lookupD d e 0).toNat) f →
    outN c.expandedST.g f c.expandedST.source = cost →
    HasCover ⟨c.g, srcName, snkName⟩ (c.g.edges.filter fun e => !c.ignore.contains e) [] cost := by
  intro h
  have := h cwcBad2 (cwcBad2.weightFunction.getD []) (cwcBad2.demands.getD []) (fun _ => 1) 1
    (fun u hu v hv => by
      have h1 : u = "x" := List.mem_singleton.1 hu
      have h2 : v = "x" := List.mem_singleton.1 hv
      subst h1 h2
      exact ⟨fun _ => ⟨Reach.refl _, Reach.refl _⟩, fun _ => rfl⟩)
    (fun e he => absurd he List.not_mem_nil)
    (fun e he => absurd he List.not_mem_nil)
    (Option.getD_of_ne_none (by decide) []).symm (Option.getD_of_ne_none (by decide) []).symm
    ⟨by decide +kernel, by decide +kernel⟩ (by decide +kernel)
  obtain ⟨routes, hl, hrs, _, _⟩ := this
  cases routes with
  | nil => cases hl
  | cons r rs =>
    have hr := hrs r List.mem_cons_self
    obtain ⟨p, rfl⟩ := stwalk_shape (s := ⟨cwcBad2.g, srcName, snkName⟩) src_ne_snk hr
    obtain ⟨y, hy⟩ := exists_walkEdge_from (srcName :: p ++ [snkName]) srcName
      (by rw [List.dropLast_concat]; exact List.mem_cons_self)
    exact absurd (hr.walk _ hy) List.not_mem_nil

/-- three parallel edges from the source into the cycle `a → b → c → a`; `source → a` ignored twice -/
def cwcDup : CondInput :=
  { g := { nodes := ["source", "a", "b", "c", "sink"],
           edges := [("source", "a"), ("source", "b"), ("source", "c"), ("a", "b"), ("a", "sink"),
                     ("b", "c"), ("c", "a")] },
    scc := [("sink", 0), ("a", 1), ("b", 1), ("c", 1), ("source", 2)],
    ignore := [("source", "a"), ("source", "a")] }

theorem cwcDup_closed : ∀ e ∈ cwcDup.g.edges, e.1 ∈ cwcDup.g.nodes ∧ e.2 ∈ cwcDup.g.nodes := by
  decide +kernel

/-- one walk does not cover the two parallel edges `source → b`, `source → c` that are not ignored -/
theorem cwcDup_not_one : ¬ HasCover ⟨cwcDup.g, srcName, snkName⟩
    (cwcDup.g.edges.filter fun e => !cwcDup.ignore.contains e) [] 1 :=
  no_cover_below_antichain (A := [("source", "b"), ("source", "c")])
    (antichain_of_unreachable ⟨cwcDup.g, srcName, snkName⟩ _ (by decide +kernel)
      (cwc_unreachable_of_reachFrom cwcDup.g cwcDup_closed _ (by decide +kernel) (by decide +kernel)))
    (by decide +kernel) 1 (by decide)

/-- With `source → a` listed twice among the ignored edges the demand on the condensation edge
`source-SCC → cycle` is `3 - 1 = 2`: every distinct ignored edge decrements `multiplicity` once, as the
code does (fix afcb013); one decrement per entry would give `3 - 2 = 1`, below the two parallel edges
still to be covered. Two units along `source 2 1 1_expanded 0 sink` are a covering flow,
`cwc_condensation_flow_to_walkcover` turns them into two walks covering every edge that is not ignored;
one walk does not suffice, and accordingly no covering flow has cost 1. -/
theorem cwc_duplicate_ignore_counts_once :
    lookupD (cwcDup.demands.getD []) ("2", "1") 0 = 2 ∧
    CoveringFlow cwcDup.expandedST (fun e => (lookupD (cwcDup.demands.getD []) e 0).toNat) (fun _ => 2) ∧
    HasCover ⟨cwcDup.g, srcName, snkName⟩
      (cwcDup.g.edges.filter fun e => !cwcDup.ignore.contains e) [] 2 ∧
    (¬ HasCover ⟨cwcDup.g, srcName, snkName⟩
      (cwcDup.g.edges.filter fun e => !cwcDup.ignore.contains e) [] 1) ∧
    ∀ f : Edge → Nat,
      CoveringFlow cwcDup.expandedST (fun e => (lookupD (cwcDup.demands.getD []) e 0).toNat) f →
      outN cwcDup.expandedST.g f cwcDup.expandedST.source ≠ 1 := by
  have hcover := fun f cost => cwc_condensation_flow_to_walkcover cwcDup _ _ f cost
    (scc_of_reachFrom cwcDup.g cwcDup_closed cwcDup.comp (by decide +kernel))
    (cwc_live_of_reachFrom cwcDup.g (by decide +kernel)) cwcDup_closed (by decide +kernel)
    (Option.getD_of_ne_none (by decide) []).symm (Option.getD_of_ne_none (by decide) []).symm
  -- the demand, the two clauses of `CoveringFlow` and the cost, in one evaluation of the instance
  have hev : lookupD (cwcDup.demands.getD []) ("2", "1") 0 = 2 ∧
      (∀ v ∈ cwcDup.expandedST.g.nodes, v ≠ cwcDup.expandedST.source → v ≠ cwcDup.expandedST.sink →
        inN cwcDup.expandedST.g (fun _ => 2) v = outN cwcDup.expandedST.g (fun _ => 2) v) ∧
      (∀ e ∈ cwcDup.expandedST.g.edges, (lookupD (cwcDup.demands.getD []) e 0).toNat ≤ 2) ∧
      outN cwcDup.expandedST.g (fun _ => 2) cwcDup.expandedST.source = 2 := by decide +kernel
  have hflow : CoveringFlow cwcDup.expandedST
      (fun e => (lookupD (cwcDup.demands.getD []) e 0).toNat) (fun _ => 2) := ⟨hev.2.1, hev.2.2.1⟩
  exact ⟨hev.1, hflow, hcover _ 2 hflow hev.2.2.2, cwcDup_not_one,
    fun f hf hcost => cwcDup_not_one (hcover f 1 hf hcost)⟩

end FP
