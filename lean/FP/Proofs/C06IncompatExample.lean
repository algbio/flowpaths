import FP.Model.WalkSafetyRows
import FP.Proofs.C06IncompatCond
/-!
Two instances with the data of real runs. On both the hypotheses `SccLabelling` and `CondAntichain` of
`FP.Props.C06.incompatible_sound` hold (`sccCheck`, `condAntiCheck`); on `exP` the result of the real run is
recomputed, on `exQ` (described where it is defined) `NoSharedParallel` fails.

The digraph `exP`: cycle `a ⇄ b`, two parallel edges `a→c`, `b→c` between the components `{a,b}` and `{c}`, a
second branch through `d`; SCC numbering, maximal safe sequences, antichain and result are those of the real run
(`stDiGraph(G, additional_starts=["a"])`, `maximal_safe_sequences_via_dominators(G, G.edges)`,
`get_longest_incompatible_sequences`).
-/
namespace FP.Safety
open FP FP.Spec

/-! The kernel does not unfold the `mergeSort` in `Cond.seqFn` (`sequence_function`): the sort of the one or two
occurrences is evaluated by hand. -/

/-- the occurrence list of `sequence_function[ce]` before sorting -/
def c06i_occOf (c : Cond) (seqs : List (List Edge)) (ce : String × String) : List Nat :=
  ((List.range seqs.length).zip seqs).flatMap fun (i, s) => (s.filter fun e => c.expandedEdge e = ce).map fun _ => i

theorem c06i_seqFn_eq (c : Cond) (seqs : List (List Edge)) (ce : String × String) :
    c.seqFn seqs ce = (if Cond.isSccEdge ce then
      ((c06i_occOf c seqs ce).mergeSort fun a b =>
        decide ((seqs.getD a []).length ≥ (seqs.getD b []).length)).take 1
      else ((c06i_occOf c seqs ce).mergeSort fun a b =>
        decide ((seqs.getD a []).length ≥ (seqs.getD b []).length)).take
        (c.g.edges.countP fun e => c.expandedEdge e = ce)) := rfl

theorem c06i_sort2 (le : Nat → Nat → Bool) (a b : Nat) :
    [a, b].mergeSort le = if le a b then [a, b] else [b, a] := by
  simp [List.mergeSort, List.merge]

def exP : Graph :=
  { nodes := ["a", "b", "c", "d", "source", "sink"],
    edges := [("a", "b"), ("a", "c"), ("b", "a"), ("b", "c"), ("c", "sink"), ("d", "sink"), ("source", "a"),
      ("source", "d")] }

/-- `nx.condensation(G).graph["mapping"]` of the real run -/
def exPc : Cond := ⟨exP, [("sink", 0), ("c", 1), ("b", 2), ("a", 2), ("d", 3), ("source", 4)]⟩

/-- `maximal_safe_sequences_via_dominators(G, G.edges)` -/
def exPseqs : List (List Edge) :=
  [[("source", "a"), ("a", "c"), ("c", "sink")],
   [("source", "a"), ("a", "b"), ("b", "a"), ("c", "sink")],
   [("source", "a"), ("a", "b"), ("b", "c"), ("c", "sink")],
   [("source", "d"), ("d", "sink")]]

/-- the antichain returned by `compute_max_edge_antichain` in the real run: the edge of the branch through `d`
and the inter-SCC member `{a,b} → {c}` of multiplicity two -/
def exPanti : List (String × String) := [("4", "3"), ("2_expanded", "1")]

/-- the result of the real run: the sequence through `d` and **both** sequences of the parallel edges -/
def exPchosen : List (List Edge) :=
  [[("source", "d"), ("d", "sink")],
   [("source", "a"), ("a", "b"), ("b", "c"), ("c", "sink")],
   [("source", "a"), ("a", "c"), ("c", "sink")]]

theorem exP_wf : GraphWF exP := by unfold GraphWF; decide +kernel
theorem exP_nodup : exP.edges.Nodup := by decide +kernel
theorem exP_scc : SccLabelling exPc := c06i_sccLabelling_of_check exPc exP_wf (by decide +kernel)
theorem exP_anti : CondAntichain exPc exPanti := c06i_condAntichain_of_check exPc exPanti (by decide +kernel)

theorem exP_maxSafeSeqs : maxSafeSeqs exP "source" "sink" exP.edges = .ok exPseqs := by decide +kernel

theorem exP_longest : longestIncompatible exPc exPseqs exPanti = .ok exPchosen := by
  unfold longestIncompatible
  have h0 : (exPseqs.any fun s => s.any fun e => !exPc.g.edges.contains e) = false := by decide +kernel
  have hd : exPc.seqFn exPseqs ("4", "3") = [3] := by
    rw [c06i_seqFn_eq]
    have h1 : c06i_occOf exPc exPseqs ("4", "3") = [3] := by decide +kernel
    have h2 : Cond.isSccEdge ("4", "3") = false := by decide +kernel
    have h3 : (exPc.g.edges.countP fun e => exPc.expandedEdge e = ("4", "3")) = 1 := by decide +kernel
    rw [h1, h2, h3, List.mergeSort_singleton]
    decide +kernel
  have hpar : exPc.seqFn exPseqs ("2_expanded", "1") = [2, 0] := by
    rw [c06i_seqFn_eq]
    have h1 : c06i_occOf exPc exPseqs ("2_expanded", "1") = [0, 2] := by decide +kernel
    have h2 : Cond.isSccEdge ("2_expanded", "1") = false := by decide +kernel
    have h3 : (exPc.g.edges.countP fun e => exPc.expandedEdge e = ("2_expanded", "1")) = 2 := by decide +kernel
    rw [h1, h2, h3, c06i_sort2]
    decide +kernel
  have hidx : exPanti.flatMap (exPc.seqFn exPseqs) = [3, 2, 0] := by
    simp only [exPanti, List.flatMap_cons, List.flatMap_nil, hpar, hd]
    rfl
  simp only [h0, hidx]
  decide +kernel

/-! A real run on which `NoSharedParallel` fails:
`u → v`, `u → sink`, loops at `v` and `x`, `v → x`, `x → sink` (`stDiGraph(G, additional_ends=["x", "u"])`): the
second and the third maximal safe sequence share `(u, v)`, the only graph edge of the member `("3", "2")`, which the
antichain of the real run contains. -/

def exQ : Graph :=
  { nodes := ["u", "v", "x", "source", "sink"],
    edges := [("u", "v"), ("u", "sink"), ("v", "v"), ("v", "x"), ("x", "x"), ("x", "sink"), ("source", "u")] }
def exQc : Cond := ⟨exQ, [("sink", 0), ("x", 1), ("v", 2), ("u", 3), ("source", 4)]⟩
def exQseqs : List (List Edge) :=
  [[("source", "u"), ("u", "sink")],
   [("source", "u"), ("u", "v"), ("v", "v"), ("v", "x"), ("x", "sink")],
   [("source", "u"), ("u", "v"), ("v", "x"), ("x", "x"), ("x", "sink")]]
def exQanti : List (String × String) := [("3", "2"), ("3", "0")]

theorem exQ_scc : SccLabelling exQc := c06i_sccLabelling_of_check exQc (by unfold GraphWF; decide +kernel) (by decide +kernel)
theorem exQ_anti : CondAntichain exQc exQanti := c06i_condAntichain_of_check exQc exQanti (by decide +kernel)
theorem exQ_maxSafeSeqs : maxSafeSeqs exQ "source" "sink" exQ.edges = .ok exQseqs := by decide +kernel
theorem exQ_shared : ¬ NoSharedParallel exQc exQseqs exQanti := by
  intro h
  have := h 1 2 (by decide) ("u", "v") (by decide) (by decide) (by decide +kernel)
  revert this; decide +kernel

end FP.Safety

namespace FP
open FP.Spec FP.Safety

/-! `safetyPipeline` on `exP`, all options on. -/

def exPst : STGraph := ⟨exP, "source", "sink"⟩
def exPopts : SafetyOpts := { safeSequences := true, allowGeq := true, fixZero := true }
def exPzero : List (Edge × Nat) :=
  [(("a", "b"), 0), (("a", "c"), 0), (("b", "a"), 0), (("b", "c"), 0), (("c", "sink"), 0), (("source", "a"), 0),
   (("a", "c"), 1), (("d", "sink"), 1), (("source", "d"), 1), (("b", "c"), 2), (("d", "sink"), 2), (("source", "d"), 2)]

theorem exP_pipeline : safetyPipeline exPst 3 exP.edges exPc.mapping exPanti exPopts =
    .ok (safetyExtra exPst 3 exPseqs exPchosen exPzero exPopts) := by
  unfold safetyPipeline
  have h1 : maxSafeSeqs exPst.g exPst.source exPst.sink exP.edges = .ok exPseqs := exP_maxSafeSeqs
  have h2 : longestIncompatible ⟨exPst.g, exPc.mapping⟩ exPseqs exPanti = .ok exPchosen := exP_longest
  have h3 : exPopts.active = true := rfl
  have h4 : exPopts.asSubset = false := rfl
  have h5 : exPseqs.isEmpty = false := rfl
  have h6 : exPopts.fixZero = true := rfl
  have h7 : zeroFix exPst.g exPchosen 3 = .ok exPzero := by decide +kernel
  have h8 : safetyRaises exPst.g 3 exPchosen = false := by decide +kernel
  simp only [h1, h2, h3, h4, h5, h6, h7, h8, Bool.not_true, Bool.false_eq_true, if_false, if_true, Bool.and_false]

end FP
