import FP.Proofs.KFDCRangeCara
import FP.Proofs.KFDCRangeCons
/-!
The search range `k ≤ |E| + #constraints` is adequate for float instances: `weight_type = float` (rational weights `≥ 0`), every edge of the user's graph carries the flow
attribute (so the repetition caps — floored own flow value inside an SCC, `1` outside — do not depend on `k`),
and some non-ignored flow value is at least `1` (then `w_max ≥ 1` for every `k ≥ 1`, which the product blocks
need to represent a multiplicity `1`). Additional starts/ends and ignored edges are allowed. If the k-model is
satisfiable for some `k`, it is satisfiable for some `j ≤ |E(G)| + #constraints` (`kfdcr_range_rat`): keep the
decoded walks, apply Carathéodory's theorem (`kfdcr_caratheodory`) to their traversal-count vectors on the
non-ignored edges, of which there are at most `|E(G)|`; the selected walks are within the same caps and each runs
through a non-ignored edge; then `kfdcr_feasible_add_covering`.
-/
namespace FP
open FP.Spec

section Rat
variable (inp : WalkInput) (hb : BaseWF inp.base)
include hb

/-- among `k` weighted layers that explain the flow, those that are walks through a non-ignored edge explain
it, and at most `|E(G)|` of them do with new weights -/
theorem kfdcr_select_layers (k : Nat) (p : Nat → List Node) (wt : Nat → Rat)
    (hlayer : ∀ i, i < k → IsWalkIn inp.st.g (inp.st.source :: p i ++ [inp.st.sink]) ∨
      ∀ e ∈ inp.st.g.edges, traversals (inp.st.source :: p i ++ [inp.st.sink]) e = 0)
    (hw0 : ∀ i, i < k → 0 ≤ wt i)
    (hdec : IsWalkDecomp inp.st.source inp.st.sink (inp.activeEdges false) inp.f k p wt) :
    ∃ (I' : List Nat) (w' : Nat → Rat), I'.length ≤ inp.base.edges.length ∧
      (∀ i ∈ I', i < k ∧ IsWalkIn inp.st.g (inp.st.source :: p i ++ [inp.st.sink]) ∧
        ∃ e ∈ inp.activeEdges false, e ∈ walkEdges (inp.st.source :: p i ++ [inp.st.sink])) ∧
      (∀ i ∈ I', 0 ≤ w' i) ∧
      ∀ e ∈ inp.activeEdges false, kfdcr_comb I' w'
        (fun i e => ((traversals (inp.st.source :: p i ++ [inp.st.sink]) e : Nat) : Rat)) e = inp.f e := by
  let L : Nat → List Node := fun i => inp.st.source :: p i ++ [inp.st.sink]
  let keep : Nat → Bool := fun i => decide
    ((∀ e ∈ walkEdges (L i), e ∈ inp.st.g.edges) ∧ ∃ e ∈ inp.activeEdges false, e ∈ walkEdges (L i))
  have hflow0 : ∀ e ∈ inp.activeEdges false, kfdcr_comb ((List.range k).filter keep) wt
      (fun i e => ((traversals (L i) e : Nat) : Rat)) e = inp.f e := by
    intro e he
    rw [← hdec e he]
    unfold kfdcr_comb walkExplained
    apply sum_filter_of_zero
    intro i hi hk
    have : traversals (L i) e = 0 := by
      rcases hlayer i (List.mem_range.1 hi) with hW | hz
      · apply List.count_eq_zero.2
        intro hmem
        exact of_decide_eq_false hk ⟨hW, e, he, hmem⟩
      · exact hz e (kfdcr_active_base inp hb e he).1
    show wt i * ((traversals (L i) e : Nat) : Rat) = 0
    rw [this]; exact Rat.mul_zero _
  obtain ⟨I', w', _, hsub, hlen', hw', heq⟩ := kfdcr_caratheodory (inp.activeEdges false)
    (fun i e => ((traversals (L i) e : Nat) : Rat)) ((List.range k).filter keep) wt
    (List.nodup_range.filter _) (fun i hi => hw0 i (List.mem_range.1 (List.mem_filter.1 hi).1))
  refine ⟨I', w', Nat.le_trans hlen' (kfdcr_active_le inp hb), fun i hi => ?_, hw',
    fun e he => by rw [heq e he, hflow0 e he]⟩
  obtain ⟨h1, h2⟩ := List.mem_filter.1 (hsub i hi)
  -- apart from the `exact`, so that the proposition decided is read off `h2` and not off the goal
  have h3 := of_decide_eq_true h2
  exact ⟨List.mem_range.1 h1, h3⟩

/-- `m` is the number of constraints, a variable so that without constraints the bound is `|E(G)| + 0`, which is
`|E(G)|` by computation -/
theorem kfdcr_range_rat (hfloat : inp.weightInt = false) (hcons : ConsOK inp)
    (hattr : ∀ e ∈ inp.base.edges, ∃ q, inp.fOpt e = some q)
    (hM : ∃ e ∈ inp.activeEdges false, 1 ≤ inp.f e)
    (m : Nat) (hm : inp.cfg.constraints.length = m)
    (hinj : ∀ j, j ≤ inp.base.edges.length + m → NameInj (inp.withK j))
    (k : Nat) (hf : KfdcFeasible inp k) :
    ∃ j, j ≤ inp.base.edges.length + m ∧ KfdcFeasible inp j := by
  subst hm
  obtain ⟨a, ha⟩ := hf
  obtain ⟨hw, _, hdec⟩ := kfdc_exact (inp.withK k) none a hb ha
  obtain ⟨I', w', hlen, hsel, hw', hflow'⟩ := kfdcr_select_layers inp hb k (decodeWalkLayer inp.st a)
    (fun i => a (weightsVar i))
    (fun i hi => (walkcore_layer inp.st _ a hb.stwfc (kfdcr_sat_enc inp k a ha) hi).2.imp_right And.right)
    (fun i hi => (hw i hi).1) hdec
  refine ⟨I'.length + inp.cfg.constraints.length, by omega, ?_⟩
  refine kfdcr_feasible_add_covering inp hb hattr hM hcons k a ha I'.length
    (fun i => decodeWalkLayer inp.st a (I'.getD i 0)) (fun i => w' (I'.getD i 0))
    (fun i hi => (hsel _ (getD_mem 0 hi)).2.1)
    (fun i hi => decoded_withinCap inp.st _ a hb.stwfc (kfdcr_sat_enc inp k a ha) _ (hsel _ (getD_mem 0 hi)).1)
    (fun i hi => (hsel _ (getD_mem 0 hi)).2.2)
    (fun i hi => ⟨hw' _ (getD_mem 0 hi), fun h => by rw [hfloat] at h; cases h⟩)
    (fun e he => le_wunit_float inp hfloat he) (fun e he => ?_) (hinj _ (by omega))
  rw [← hflow' e he]
  unfold walkExplained kfdcr_comb
  exact congrArg List.sum (map_range_getD I' 0 (fun i => w' i *
    ((traversals (inp.st.source :: decodeWalkLayer inp.st a i ++ [inp.st.sink]) e : Nat) : Rat)))

end Rat

end FP
