import FP.Model.Literals
import FP.Proofs.Lexer
/-!
`pyIntLit` / `pyFloatAccepts` of `FP/Model/Literals.lean`: plain ASCII digit strings are read as
their value, a character that `int()` has no use for makes the token rejected, and what `int()`
reads `float()` accepts.
-/
namespace FP.Literals
open FP.Lexer

theorem isDigit_bounds {c : Char} (h : c.isDigit = true) : 48 ≤ c.toNat ∧ c.toNat ≤ 57 := by
  simp only [Char.isDigit, Bool.and_eq_true, decide_eq_true_eq, ge_iff_le, UInt32.le_iff_toNat_le] at h
  exact h

theorem pyDigitVal_of_isDigit {c : Char} (h : c.isDigit = true) : pyDigitVal c = some (c.toNat - 48) := by
  have := isDigit_bounds h
  simp [pyDigitVal, this]

theorem isDigit_ne {c d : Char} (h : c.isDigit = true) (hd : d.toNat < 48 ∨ 57 < d.toNat) : (c == d) = false := by
  have := isDigit_bounds h
  exact beq_false_of_ne fun e => by subst e; omega

theorem isDigit_not_space {c : Char} (h : c.isDigit = true) : isLitSpace c = false := by
  have := isDigit_bounds h
  simp only [isLitSpace, isPySpace, Bool.and_eq_false_iff, Bool.or_eq_false_iff, Bool.and_eq_false_iff,
    decide_eq_false_iff_not, beq_eq_false_iff_ne, Nat.not_le]
  left
  omega

theorem stripL_eq (l : List Char) : stripL l = rstripBy isLitSpace (l.dropWhile isLitSpace) := by
  have hl (l : List Char) : lstripL l = l.dropWhile isLitSpace := by
    induction l with
    | nil => rfl
    | cons c cs ih => rw [lstripL, ih, List.dropWhile_cons]
  have hr (l : List Char) : rstripL l = rstripBy isLitSpace l := by
    induction l with
    | nil => rfl
    | cons c cs ih => rw [rstripL, ih, rstripBy]
  rw [stripL, hl, hr]

theorem stripL_eq_nil (l : List Char) (h : ∀ c ∈ l, isLitSpace c = true) : stripL l = [] := by
  rw [stripL_eq]; exact (stripBy_eq_nil_iff _ l).2 h

theorem stripL_clean (t : List Char) (h : ∀ c ∈ t, isLitSpace c = false) : stripL t = t := by
  have hl : t.dropWhile isLitSpace = t := by
    cases t with
    | nil => rfl
    | cons c cs => exact List.dropWhile_cons_of_neg (by simp [h c])
  rw [stripL_eq, hl, rstripBy_clean _ t h]

theorem usOK_digits (l : List Char) (h : ∀ c ∈ l, c.isDigit = true) (k : Nat) (hk : k ≠ 2) : usOK k l = true := by
  induction l generalizing k with
  | nil => simp [usOK, hk]
  | cons c cs ih =>
    have hc := h c (by simp)
    have hd : isLitDigit c = true := by simp [isLitDigit, pyDigitVal_of_isDigit hc]
    simp only [usOK, isDigit_ne hc (d := '_') (by decide), hd]
    exact ih (fun d hd => h d (by simp [hd])) 1 (by decide)

theorem dropUs_digits (l : List Char) (h : ∀ c ∈ l, c.isDigit = true) : dropUs l = l := by
  unfold dropUs
  rw [List.filter_eq_self]
  intro c hc
  have := isDigit_ne (h c hc) (d := '_') (by decide)
  simp at this
  simp [this]

theorem splitSign_digits (l : List Char) (h : ∀ c ∈ l, c.isDigit = true) : splitSign l = (false, l) := by
  cases l with
  | nil => rfl
  | cons c cs =>
    have hc := h c (by simp)
    simp [splitSign, isDigit_ne hc (d := '-') (by decide), isDigit_ne hc (d := '+') (by decide)]

theorem allDigits_digits (l : List Char) (h : ∀ c ∈ l, c.isDigit = true) :
    allDigits l = some (l.map fun c => c.toNat - 48) := by
  induction l with
  | nil => rfl
  | cons c cs ih =>
    simp [allDigits, pyDigitVal_of_isDigit (h c (by simp)), ih (fun d hd => h d (by simp [hd]))]

theorem pyIntLit_ascii_digits (l : List Char) (hne : l ≠ []) (h : ∀ c ∈ l, c.isDigit = true)
    (hlen : l.length ≤ 4300) : pyIntLit l = some (Nat.ofDigitChars 10 l 0 : Int) := by
  have hs : stripL l = l := stripL_clean l (fun c hc => isDigit_not_space (h c hc))
  have hl : ¬ (4300 < l.length) := by omega
  have hof : ofDigits (l.map fun c => c.toNat - 48) = Nat.ofDigitChars 10 l 0 := by
    simp [ofDigits, Nat.ofDigitChars, List.foldl_map]
  simp [pyIntLit, hs, usOK_digits l h 0 (by decide), dropUs_digits l h, splitSign_digits l h, allDigits_digits l h,
    hof, hne, maxStrDigits, hl]

theorem pyIntLit_render_nat (n : Nat) (h : n < 10 ^ 4300) : pyIntLit (Nat.repr n).toList = some (n : Int) := by
  rw [Nat.toList_repr]
  have := pyIntLit_ascii_digits (Nat.toDigits 10 n) Nat.toDigits_ne_nil
    (fun c hc => Nat.isDigit_of_mem_toDigits (by decide) (by decide) hc)
    ((Nat.length_toDigits_le_iff (by decide) (by decide)).mpr h)
  rw [this, Nat.ofDigitChars_ten_toDigits]

theorem allDigits_none_of_mem (t : List Char) (c : Char) (hc : c ∈ t) (hd : pyDigitVal c = none) :
    allDigits t = none := by
  fun_induction allDigits t with
  | case1 => cases hc
  | case2 a r d ds hr hda ih =>
    rcases List.mem_cons.1 hc with rfl | hc
    · rw [hd] at hda; cases hda
    · rw [ih hc] at hr; cases hr
  | case3 => rfl

theorem mem_dropUs {c : Char} {s : List Char} (hc : c ∈ s) (hu : c ≠ '_') : c ∈ dropUs s := by
  simp [dropUs, hc, hu]

theorem mem_splitSign_tail {a c : Char} {r : List Char} (hc : c ∈ r) : c ∈ (splitSign (a :: r)).2 := by
  rw [splitSign]
  split
  · exact hc
  · split
    · exact hc
    · exact List.mem_cons_of_mem _ hc

theorem mem_splitSign {c : Char} {l : List Char} (hc : c ∈ l) (hp : c ≠ '+') (hm : c ≠ '-') :
    c ∈ (splitSign l).2 := by
  cases l with
  | nil => cases hc
  | cons a r =>
    rcases List.mem_cons.1 hc with rfl | h
    · simp [splitSign, hp, hm]
    · exact mem_splitSign_tail h

theorem pyIntLit_none_of_allDigits (cs : List Char) (h : allDigits (splitSign (dropUs (stripL cs))).2 = none) :
    pyIntLit cs = none := by
  simp only [pyIntLit, h]
  split <;> rfl

theorem pyIntLit_some_inv {cs : List Char} {v : Int} (h : pyIntLit cs = some v) :
    usOK 0 (stripL cs) = true ∧
      ∃ ds, allDigits (splitSign (dropUs (stripL cs))).2 = some ds ∧ ds ≠ [] := by
  cases hus : usOK 0 (stripL cs) with
  | false => simp [pyIntLit, hus] at h
  | true =>
    cases hds : allDigits (splitSign (dropUs (stripL cs))).2 with
    | none => rw [pyIntLit_none_of_allDigits cs hds] at h; cases h
    | some ds => exact ⟨rfl, ds, rfl, by rintro rfl; simp [pyIntLit, hus, hds] at h⟩

theorem pyIntLit_rejects_nondigit (cs : List Char) (c : Char) (hc : c ∈ stripL cs) (hd : pyDigitVal c = none)
    (hu : c ≠ '_') (hp : c ≠ '+') (hm : c ≠ '-') : pyIntLit cs = none :=
  pyIntLit_none_of_allDigits cs (allDigits_none_of_mem _ c (mem_splitSign (mem_dropUs hc hu) hp hm) hd)

/-- a sign is allowed in first position only: past it `+` and `-` are rejected like any other non-digit -/
theorem pyIntLit_rejects_nondigit_tail (cs : List Char) (a c : Char) (r : List Char) (hs : stripL cs = a :: r)
    (hc : c ∈ r) (hd : pyDigitVal c = none) (hu : c ≠ '_') : pyIntLit cs = none := by
  by_cases ha : a = '_'
  · subst ha
    simp [pyIntLit, hs, usOK]
  · apply pyIntLit_none_of_allDigits
    have h2 : dropUs (a :: r) = a :: dropUs r := by simp [dropUs, ha]
    rw [hs, h2]
    exact allDigits_none_of_mem _ c (mem_splitSign_tail (mem_dropUs hc hu)) hd

theorem spanDigits_allDigits (t : List Char) (ds : List Nat) (h : allDigits t = some ds) :
    spanDigits t = (t.length, []) ∧ ds.length = t.length := by
  fun_induction allDigits t generalizing ds with
  | case1 => cases h; exact ⟨rfl, rfl⟩
  | case2 c cs d ds' ha hd ih =>
    cases h
    have := ih ds' ha
    simp [spanDigits, isLitDigit, hd, this.1, this.2]
  | case3 => cases h

theorem floatBody_of_allDigits (t : List Char) (ds : List Nat) (h : allDigits t = some ds) (hne : ds ≠ []) :
    floatBody t = true := by
  have := spanDigits_allDigits t ds h
  have hl : 0 < t.length := by
    rw [← this.2]; exact List.length_pos_iff.mpr hne
  unfold floatBody
  split
  · rfl
  · simp [this.1, hl]

end FP.Literals
