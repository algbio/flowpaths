import FP.Proofs.C06IncompatCond
import FP.Proofs.SafetyMaxSeq
import FP.Proofs.SafetyPaths
/-!
For a family of sequences with pairwise different cores (`CoreFamily`), an SCC numbering (`SccLabelling`) and
members that are pairwise unreachable in the expanded condensation (`CondAntichain`), the sequences that
`get_longest_incompatible_sequences` chooses pairwise share no walk. The maximal safe sequences computed by the
model are such a family.

Why two sequences taken from the same inter-SCC member cannot share a walk: the member keeps at most as many
sequences as there are graph edges between the two components. If the two sequences contain different edges of
the member, no walk takes both (the components are different). If they contain the same edge `e`, then either `e`
is the only graph edge of the member (and the member keeps one sequence), or `e` has a twin and therefore
dominates nothing (`c06i_reroute`): a sequence that contains `e` and lies on a source-to-sink walk has the core `e`,
and two sequences have different cores.

`c06i_reroute`: an edge `e` that no walk can take twice and that has a twin `e'` joining the same two strongly connected
components dominates nothing: every source-to-sink walk through `e` and another edge `cc` can be re-routed through `e'`
so that it still contains `cc` but not `e`. The argument runs in the graph without `e`, on `Reach`.
-/
namespace FP.Safety
open FP.Spec

theorem c06i_reach_filter {es : List Edge} (P : Edge → Bool) {a b : Node} (h : Reach es a b) :
    (∀ d ∈ es, Reach es a d.1 → Reach es d.2 b → P d = true) → Reach (es.filter P) a b := by
  induction h with
  | refl => intro _; exact Reach.refl _
  | @step u v hau huv ih =>
    intro hP
    have h1 := ih (fun d hd h1 h2 => hP d hd h1 (Reach.step h2 huv))
    exact Reach.step h1 (List.mem_filter.2 ⟨huv, hP (u, v) huv hau (Reach.refl _)⟩)

def withoutEdge (g : Graph) (e : Edge) : Graph := { g with edges := g.edges.filter fun d => d != e }

theorem withoutEdge_walk (g : Graph) (e : Edge) {a b : Node} {w : List Node} (hw : IsSTWalkG g a b w)
    (he : e ∉ walkEdges w) : IsSTWalkG (withoutEdge g e) a b w :=
  ⟨fun d hd => List.mem_filter.2 ⟨hw.walk d hd, by
      simp only [bne_iff_ne, ne_eq]; intro h; subst h; exact he hd⟩, hw.first, hw.last⟩

theorem c06i_ends_without (g : Graph) (e cc : Edge) {a b : Node} {w : List Node} (hw : IsSTWalkG g a b w)
    (he : e ∉ walkEdges w) (hcc : cc ∈ walkEdges w) :
    Reach (withoutEdge g e).edges a cc.1 ∧ Reach (withoutEdge g e).edges cc.2 b := by
  obtain ⟨a1, a2, rfl⟩ := mem_we_split hcc
  rw [we_mid] at he
  exact ⟨reach_of_stwalk _ (withoutEdge_walk g e (prefix_walk hw) fun h => he (List.mem_append_left _ h)),
    reach_of_stwalk _ (withoutEdge_walk g e (suffix_walk hw) fun h =>
      he (List.mem_append_right _ (List.mem_cons_of_mem _ h)))⟩

/-- `e` cannot be taken twice (`hback`), `e'` is another edge whose tail is mutually reachable
with the tail of `e` and whose head is mutually reachable with the head of `e`. Then for every source-to-sink
walk through `e` and `cc ≠ e` there is one through `cc` that avoids `e`. -/
theorem c06i_reroute (g : Graph) (s t : Node) (e e' cc : Edge) (w : List Node)
    (hw : IsSTWalkG g s t w) (he : e ∈ walkEdges w) (hcc : cc ∈ walkEdges w) (hne : cc ≠ e)
    (hback : ¬ Reach g.edges e.2 e.1)
    (he' : e' ∈ g.edges) (hne' : e' ≠ e)
    (h1 : Reach g.edges e.1 e'.1) (h1' : Reach g.edges e'.1 e.1)
    (h2 : Reach g.edges e'.2 e.2) (h2' : Reach g.edges e.2 e'.2) :
    ∃ w', IsSTWalkG g s t w' ∧ cc ∈ walkEdges w' ∧ e ∉ walkEdges w' := by
  obtain ⟨x, y⟩ := e
  simp only at hback h1 h1' h2 h2'
  let g' := withoutEdge g (x, y)
  have hsub : ∀ d ∈ g'.edges, d ∈ g.edges ∧ d ≠ (x, y) := by
    intro d hd
    have := List.mem_filter.1 hd
    exact ⟨this.1, by simpa using this.2⟩
  obtain ⟨w1, w2, hsplit⟩ := mem_we_split he
  simp only at hsplit
  subst hsplit
  have hA : IsSTWalkG g s x (w1 ++ [x]) := prefix_walk hw
  have hB : IsSTWalkG g y t (y :: w2) := suffix_walk hw
  -- neither part takes `e` again
  have hAe : (x, y) ∉ walkEdges (w1 ++ [x]) := fun hm => hback (reach_last_of_stwalk g hA _ hm)
  have hBe : (x, y) ∉ walkEdges (y :: w2) := fun hm => hback (reach_tail_of_walk g w2 y hB.walk _ hm)
  have hA' : Reach g'.edges s x := reach_of_stwalk g' (withoutEdge_walk g _ hA hAe)
  have hB' : Reach g'.edges y t := reach_of_stwalk g' (withoutEdge_walk g _ hB hBe)
  -- the detour `x ⇝ e'.1 → e'.2 ⇝ y` avoids `e`
  have hD1 : Reach g'.edges x e'.1 := by
    apply c06i_reach_filter _ h1
    intro d _ _ hd2
    simp only [bne_iff_ne, ne_eq]
    intro hd; subst hd
    exact hback (Reach.trans hd2 h1')
  have hD2 : Reach g'.edges e'.2 y := by
    apply c06i_reach_filter _ h2
    intro d _ hd1 _
    simp only [bne_iff_ne, ne_eq]
    intro hd; subst hd
    exact hback (Reach.trans h2' hd1)
  have he'' : (e'.1, e'.2) ∈ g'.edges := by
    show e' ∈ g'.edges
    exact List.mem_filter.2 ⟨he', by simp only [bne_iff_ne, ne_eq]; exact hne'⟩
  have hxy : Reach g'.edges x y := Reach.trans (Reach.step hD1 he'') hD2
  -- `cc` lies on the part of `w` before `e` or on the part after it; either way its ends are joined to `s` and `t`
  have hccg : cc ∈ g'.edges := List.mem_filter.2 ⟨hw.walk cc hcc, by simpa using hne⟩
  have hends : Reach g'.edges s cc.1 ∧ Reach g'.edges cc.2 t := by
    rw [we_mid] at hcc
    rcases List.mem_append.1 hcc with hc | hc
    · have h := c06i_ends_without g (x, y) cc hA hAe hc
      exact ⟨h.1, Reach.trans h.2 (Reach.trans hxy hB')⟩
    · rcases List.mem_cons.1 hc with hc | hc
      · exact absurd hc hne
      · have h := c06i_ends_without g (x, y) cc hB hBe hc
        exact ⟨Reach.trans hA' (Reach.trans hxy h.1), h.2⟩
  obtain ⟨u1, hf1, hl1, -, hu1⟩ := simple_path_of_reach g'.edges _ _ hends.1
  obtain ⟨u2, hf2, hl2, -, hu2⟩ := simple_path_of_reach g'.edges _ _ hends.2
  obtain ⟨hw', hmem⟩ := glue_walk g' ⟨hu1, hf1, hl1⟩ (show (cc.1, cc.2) ∈ g'.edges from hccg) ⟨hu2, hf2, hl2⟩
  refine ⟨u1 ++ u2, ⟨fun d hd => (hsub d (hw'.walk d hd)).1, hw'.first, hw'.last⟩, hmem, ?_⟩
  intro hm
  exact (hsub _ (hw'.walk _ hm)).2 rfl


/-- an inter-SCC edge `e` with a parallel twin belongs only to the sequence of its own core: if `q` contains `e`,
lies on a source-to-sink walk and is forced by `cc ∈ q`, then `cc = e` -/
theorem c06i_twin_core (c : Cond) (hg : GraphWF c.g) (hscc : SccLabelling c) (s t : Node) (e e' cc : Edge)
    (q : List Edge) (w : List Node) (hw : IsSTWalkG c.g s t w) (he : e ∈ q) (hq : Occurs q w) (hcc : cc ∈ q)
    (hf : ForcedBy c.g s t [cc] q) (he' : e' ∈ c.g.edges) (hne : e' ≠ e)
    (hsame : c.expandedEdge e' = c.expandedEdge e) (hns : Cond.isSccEdge (c.expandedEdge e) = false) :
    cc = e := by
  apply Classical.byContradiction
  intro hcne
  have hew : e ∈ walkEdges w := hq.subset he
  have hccw : cc ∈ walkEdges w := hq.subset hcc
  have heg : e ∈ c.g.edges := hw.walk e hew
  obtain ⟨htails, hheads⟩ := c06i_scc_eq_of_same_member c hsame hns
  have hT := (hscc _ (hg e' he').1 _ (hg e heg).1).1 htails
  have hH := (hscc _ (hg e' he').2 _ (hg e heg).2).1 hheads
  have hback := c06i_no_back c hg hscc heg (c06i_scc_ne_of_not_sccEdge c hns)
  obtain ⟨w', hw', hcc', hno⟩ := c06i_reroute c.g s t e e' cc w hw hew hccw hcne hback he' hne hT.2 hT.1 hH.1 hH.2
  exact hno ((hf w' hw' (List.singleton_sublist.2 hcc')).subset he)

theorem c06i_incompatible_family (c : Cond) (s t : Node) (seqs : List (List Edge))
    (anti : List (String × String)) (chosen : List (List Edge))
    (hg : GraphWF c.g) (hnd : c.g.edges.Nodup) (hscc : SccLabelling c) (hfam : CoreFamily c.g s t seqs)
    (hanti : CondAntichain c anti) (h : longestIncompatible c seqs anti = .ok chosen) :
    chosen.Pairwise fun p q => ¬ CoOccur c.g s t p q := by
  obtain ⟨core, hdist, hcore⟩ := hfam
  refine longestIncompatible_of_shared c s t seqs anti chosen (c06i_antichainHyp c s t anti hg hscc hanti) ?_ h
  -- left: the sequences `i ≠ j` are both kept by the inter-SCC member `a`, both contain its graph edge `e1`, and `w`
  -- contains both
  intro a _ hns i j hij hia hjb e1 he1 he2 hc1 w hw ho1 ho2
  by_cases htwin : ∃ e' ∈ c.g.edges, e' ≠ e1 ∧ c.expandedEdge e' = a
  · -- `e1` has a twin: both sequences have the core `e1`
    obtain ⟨e', he', hne', hsame⟩ := htwin
    have hli := lt_of_mem_getD he1
    have hlj := lt_of_mem_getD he2
    have hci := hcore i hli
    have hcj := hcore j hlj
    have h1 := c06i_twin_core c hg hscc s t e1 e' (core i) _ w hw he1 ho1 hci.1 hci.2 he' hne'
      (hsame.trans hc1.symm) (by rw [hc1]; exact hns)
    have h2 := c06i_twin_core c hg hscc s t e1 e' (core j) _ w hw he2 ho2 hcj.1 hcj.2 he' hne'
      (hsame.trans hc1.symm) (by rw [hc1]; exact hns)
    exact hdist i j hli hlj hij (h1.trans h2.symm)
  · -- `e1` is the only graph edge of the member, which therefore keeps one sequence
    have hone : ∀ y ∈ c.g.edges, c.expandedEdge y = a → y = e1 := fun y hy hpy =>
      Classical.byContradiction fun hne => htwin ⟨y, hy, hne, hpy⟩
    have hcnt : (c.g.edges.countP fun e => c.expandedEdge e = a) ≤ 1 :=
      countP_le_one _ hnd _ fun x hx y hy hpx hpy =>
        (hone x hx (by simpa using hpx)).trans (hone y hy (by simpa using hpy)).symm
    have hlen := seqFn_length_le c seqs a
    rw [if_neg (by rw [hns]; exact Bool.false_ne_true)] at hlen
    exact hij (eq_of_mem_of_length_le_one (Nat.le_trans hlen hcnt) hia hjb)

end FP.Safety
