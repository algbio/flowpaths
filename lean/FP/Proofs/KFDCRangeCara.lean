import FP.Model.Graph
import FP.Proofs.Lib
/-!
Carathéodory's theorem for cones over the rationals (`kfdcr_caratheodory`): a non-negative combination of vectors `vec i` (`i` in a duplicate-free index list)
agrees, on a list `Ea` of coordinates, with a non-negative combination of at most `|Ea|` of them.
Proof: more than `|Ea|` vectors are linearly dependent on `Ea` (`kfdcr_lin_dep`, Gaussian elimination on
one coordinate at a time, `kfdcr_eliminate`); moving the weights along a dependency until the first weight reaches zero
(`kfdcr_shift`) removes one vector.
-/
namespace FP

def kfdcr_comb (I : List Nat) (c : Nat → Rat) (vec : Nat → Edge → Rat) (e : Edge) : Rat :=
  (I.map fun i => c i * vec i e).sum

theorem kfdcr_comb_erase (I : List Nat) (c : Nat → Rat) (vec : Nat → Edge → Rat) (e : Edge) (p : Nat)
    (hp : p ∈ I) : kfdcr_comb I c vec e = c p * vec p e + kfdcr_comb (I.erase p) c vec e :=
  sum_erase (fun i => c i * vec i e) I p hp

theorem kfdcr_comb_congr (I : List Nat) (c c' : Nat → Rat) (vec : Nat → Edge → Rat) (e : Edge)
    (h : ∀ i ∈ I, c i = c' i) : kfdcr_comb I c vec e = kfdcr_comb I c' vec e :=
  congrArg List.sum (List.map_congr_left fun i hi => by rw [h i hi])

theorem kfdcr_comb_sub_mul (I : List Nat) (w c : Nat → Rat) (t : Rat) (vec : Nat → Edge → Rat) (e : Edge) :
    kfdcr_comb I (fun i => w i - t * c i) vec e = kfdcr_comb I w vec e - t * kfdcr_comb I c vec e := by
  have h : (I.map fun i => (w i - t * c i) * vec i e) = I.map fun i => w i * vec i e - t * (c i * vec i e) :=
    List.map_congr_left fun i _ => by grind
  unfold kfdcr_comb
  rw [h, sum_map_sub, sum_map_mul_left]

theorem kfdcr_comb_sub_vec (I : List Nat) (c r : Nat → Rat) (vec : Nat → Edge → Rat) (x : Edge → Rat) (e : Edge) :
    kfdcr_comb I c (fun i e => vec i e - r i * x e) e
      = kfdcr_comb I c vec e - (I.map fun i => c i * r i).sum * x e := by
  have h : (I.map fun i => c i * (vec i e - r i * x e)) = I.map fun i => c i * vec i e - c i * r i * x e :=
    List.map_congr_left fun i _ => by grind
  unfold kfdcr_comb
  rw [h, sum_map_sub, sum_map_mul_right]

/-- Gaussian elimination of the coordinate `e0` with the pivot `vec p`: weights `c'` for the reduced vectors
extend to weights for all of `I` with the same combination, which vanishes at `e0` -/
theorem kfdcr_eliminate (vec : Nat → Edge → Rat) (I : List Nat) (hnd : I.Nodup) (p : Nat) (hp : p ∈ I)
    (e0 : Edge) (hpne : vec p e0 ≠ 0) (c' : Nat → Rat) :
    ∃ c : Nat → Rat, (∀ i ∈ I.erase p, c i = c' i) ∧ kfdcr_comb I c vec e0 = 0 ∧
      ∀ e, kfdcr_comb I c vec e
        = kfdcr_comb (I.erase p) c' (fun i e => vec i e - vec i e0 * (vec p e0)⁻¹ * vec p e) e := by
  have hne_p : ∀ i ∈ I.erase p, i ≠ p := fun i hi => (hnd.mem_erase_iff.1 hi).1
  have hkey : ∀ e, kfdcr_comb I (fun i => if i = p then
        -((I.erase p).map fun i => c' i * (vec i e0 * (vec p e0)⁻¹)).sum else c' i) vec e
      = kfdcr_comb (I.erase p) c' (fun i e => vec i e - vec i e0 * (vec p e0)⁻¹ * vec p e) e := by
    intro e
    rw [kfdcr_comb_erase I _ vec e p hp, kfdcr_comb_sub_vec,
      kfdcr_comb_congr (I.erase p) _ c' vec e fun i hi => if_neg (hne_p i hi)]
    simp only [if_pos]
    rw [Rat.neg_mul, Rat.add_comm, Rat.sub_eq_add_neg]
  refine ⟨_, fun i hi => if_neg (hne_p i hi), ?_, hkey⟩
  rw [hkey]
  refine sum_map_zero fun i _ => ?_
  show c' i * (vec i e0 - vec i e0 * (vec p e0)⁻¹ * vec p e0) = 0
  rw [Rat.mul_assoc, Rat.inv_mul_cancel _ hpne, Rat.mul_one, Rat.sub_self, Rat.mul_zero]

/-- More vectors than coordinates are linearly dependent; some coefficient is positive, after negating all
if need be. -/
theorem kfdcr_lin_dep : ∀ (Ea : List Edge) (vec : Nat → Edge → Rat) (I : List Nat), I.Nodup →
    Ea.length < I.length →
    ∃ c : Nat → Rat, (∃ i ∈ I, 0 < c i) ∧ ∀ e ∈ Ea, kfdcr_comb I c vec e = 0 := by
  intro Ea
  induction Ea with
  | nil =>
    intro vec I _ hlen
    obtain ⟨i0, hi0⟩ := List.exists_mem_of_length_pos hlen
    exact ⟨fun _ => 1, ⟨i0, hi0, (by decide : (0 : Rat) < 1)⟩, fun e he => nomatch he⟩
  | cons e0 Ea ih =>
    intro vec I hnd hlen
    by_cases hex : ∃ p ∈ I, vec p e0 ≠ 0
    · obtain ⟨p, hp, hpne⟩ := hex
      obtain ⟨c', ⟨i1, hi1, hc1⟩, hz⟩ := ih (fun i e => vec i e - vec i e0 * (vec p e0)⁻¹ * vec p e)
        (I.erase p) (hnd.erase p) (by rw [List.length_erase_of_mem hp]; exact Nat.lt_pred_of_succ_lt hlen)
      obtain ⟨c, hc, h0, hkey⟩ := kfdcr_eliminate vec I hnd p hp e0 hpne c'
      refine ⟨c, ⟨i1, List.mem_of_mem_erase hi1, hc i1 hi1 ▸ hc1⟩, fun e he => ?_⟩
      rcases List.mem_cons.1 he with rfl | he
      · exact h0
      · rw [hkey e]; exact hz e he
    · obtain ⟨c, hc, hz⟩ := ih vec I hnd (Nat.lt_of_succ_lt hlen)
      refine ⟨c, hc, fun e he => ?_⟩
      rcases List.mem_cons.1 he with rfl | he
      · exact sum_map_zero fun i hi => by
          rw [Classical.byContradiction fun hne => hex ⟨i, hi, hne⟩, Rat.mul_zero]
      · exact hz e he

/-- the step size of `kfdcr_shift` keeps every weight non-negative -/
theorem kfdcr_shift_nonneg {w t c : Rat} (hw : 0 ≤ w) (ht : 0 ≤ t) (h : 0 < c → t ≤ w * c⁻¹) :
    0 ≤ w - t * c := by
  by_cases hc : 0 < c
  · have h1 := Rat.mul_le_mul_of_nonneg_right (h hc) (Rat.le_of_lt hc)
    rw [Rat.mul_assoc, Rat.inv_mul_cancel _ (Rat.ne_of_gt hc), Rat.mul_one] at h1
    grind
  · have h1 := Rat.mul_nonneg ht (show 0 ≤ -c by grind)
    grind

/-- moving the weights along a dependency until the first of them vanishes -/
theorem kfdcr_shift (Ea : List Edge) (vec : Nat → Edge → Rat) (I : List Nat) (w c : Nat → Rat)
    (hw : ∀ i ∈ I, 0 ≤ w i) (hpos : ∃ i ∈ I, 0 < c i) (hz : ∀ e ∈ Ea, kfdcr_comb I c vec e = 0) :
    ∃ (w' : Nat → Rat) (q : Nat), q ∈ I ∧ w' q = 0 ∧ (∀ i ∈ I, 0 ≤ w' i) ∧
      ∀ e ∈ Ea, kfdcr_comb I w' vec e = kfdcr_comb I w vec e := by
  obtain ⟨i0, hi0, hc0⟩ := hpos
  -- the step: the smallest ratio `w i / c i` over the positive `c i`
  obtain ⟨q, hq, hmin⟩ := exists_min (I.filter fun i => decide (0 < c i)) (fun i => w i * (c i)⁻¹)
    (List.ne_nil_of_mem (List.mem_filter.2 ⟨hi0, decide_eq_true hc0⟩))
  obtain ⟨hqI, hcq⟩ := List.mem_filter.1 hq
  have hcq : 0 < c q := of_decide_eq_true hcq
  refine ⟨fun i => w i - w q * (c q)⁻¹ * c i, q, hqI, ?_, fun i hi => ?_, fun e he => ?_⟩
  · show w q - w q * (c q)⁻¹ * c q = 0
    rw [Rat.mul_assoc, Rat.inv_mul_cancel _ (Rat.ne_of_gt hcq), Rat.mul_one, Rat.sub_self]
  · exact kfdcr_shift_nonneg (hw i hi) (Rat.mul_nonneg (hw q hqI) (Rat.le_of_lt (Rat.inv_pos.2 hcq)))
      fun hci => hmin i (List.mem_filter.2 ⟨hi, decide_eq_true hci⟩)
  · rw [kfdcr_comb_sub_mul, hz e he, Rat.mul_zero, Rat.sub_eq_add_neg, Rat.neg_zero, Rat.add_zero]

theorem kfdcr_caratheodory (Ea : List Edge) (vec : Nat → Edge → Rat) (I : List Nat) (w : Nat → Rat) :
    I.Nodup → (∀ i ∈ I, 0 ≤ w i) →
      ∃ (I' : List Nat) (w' : Nat → Rat), I'.Nodup ∧ (∀ i ∈ I', i ∈ I) ∧ I'.length ≤ Ea.length ∧
        (∀ i ∈ I', 0 ≤ w' i) ∧ ∀ e ∈ Ea, kfdcr_comb I' w' vec e = kfdcr_comb I w vec e := by
  induction hn : I.length using Nat.strongRecOn generalizing I w with
  | ind n ih =>
    intro hnd hw
    by_cases hsmall : I.length ≤ Ea.length
    · exact ⟨I, w, hnd, fun i hi => hi, hsmall, hw, fun e _ => rfl⟩
    · obtain ⟨c, hpos, hz⟩ := kfdcr_lin_dep Ea vec I hnd (Nat.lt_of_not_le hsmall)
      obtain ⟨w', q, hq, hwq, hw', heq⟩ := kfdcr_shift Ea vec I w c hw hpos hz
      obtain ⟨I', w'', hnd', hsub, hlen'', hw'', heq'⟩ := ih _ (by rw [List.length_erase_of_mem hq]; omega)
        (I.erase q) w' rfl (hnd.erase q) (fun i hi => hw' i (List.mem_of_mem_erase hi))
      refine ⟨I', w'', hnd', fun i hi => List.mem_of_mem_erase (hsub i hi), hlen'', hw'', fun e he => ?_⟩
      rw [heq' e he, ← heq e he, kfdcr_comb_erase I w' vec e q hq, hwq, Rat.zero_mul, Rat.zero_add]

end FP
