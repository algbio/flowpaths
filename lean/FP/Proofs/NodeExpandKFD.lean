import FP.Model.NodeExpandModes
import FP.Proofs.NodeExpandGraph
import FP.Proofs.C10Ignore
/-!
What all node branches share, and the node branch of `kFlowDecomp` built on it. Shared: what the translators return
when they accept (`expandConstraints_ok`, `expandStarts_ok`, …), that reading the translations back gives the caller's
elements (`constraints_roundtrip`, `condenseFlow_expandFlow`), and the comparison of what a branch hands on with the
explicit expansion: `FlowAgree` packs what the edge-level generators can observe of an input, and the record a node
branch hands on (`nxmTranslated`) agrees in that sense with the explicit expansion (`nxm_agree`). For `kFlowDecomp`: the two
give the same LP (`kfdLP_congr`, `node_mode_is_edge_mode_on_expansion`), and inputs the branch accepts (`node_mode_accepts`).
-/
namespace FP
namespace NX

theorem expandedNode_ok {g : Graph} {v : Node} {x : Edge} (h : expandedNode g v = .ok x) :
    v ∈ g.nodes ∧ x = nodeEdge v := by
  obtain ⟨hv, hx⟩ := ite_ok_iff.1 h
  exact ⟨List.contains_iff_mem.1 hv, (Except.ok.inj hx).symm⟩

theorem expandedNode_of_mem {g : Graph} {v : Node} (h : v ∈ g.nodes) : expandedNode g v = .ok (nodeEdge v) := by
  unfold expandedNode
  rw [if_pos (by simpa using h)]

theorem expandedNode_map_ok {β} {g : Graph} {v : Node} {f : Edge → β} {b : β}
    (h : (expandedNode g v).map f = .ok b) : v ∈ g.nodes ∧ b = f (nodeEdge v) := by
  obtain ⟨x, hx, rfl⟩ := map_ok h
  obtain ⟨hv, rfl⟩ := expandedNode_ok hx
  exact ⟨hv, rfl⟩

theorem mapM_expandedNode_ok {g : Graph} {l : List Node} {xs : List Edge}
    (h : l.mapM (expandedNode g) = .ok xs) : xs = l.map nodeEdge ∧ ∀ v ∈ l, v ∈ g.nodes :=
  mapM_ok_map (expandedNode g) nodeEdge (· ∈ g.nodes) (fun _ _ hab => expandedNode_ok hab) h

theorem expandStarts_ok {g : Graph} {l xs : List Node} (h : expandStarts g l = .ok xs) :
    xs = l.map n0 ∧ (∀ v ∈ l, v ∈ g.nodes) ∧ xs.map strip2 = l := by
  obtain ⟨rfl, h2⟩ := mapM_ok_map _ n0 (· ∈ g.nodes) (fun _ _ => expandedNode_map_ok) h
  refine ⟨rfl, h2, ?_⟩
  rw [List.map_map]
  exact (List.map_congr_left fun v _ => strip2_n0 v).trans (List.map_id l)

theorem expandEnds_ok {g : Graph} {l xs : List Node} (h : expandEnds g l = .ok xs) :
    xs = l.map n1 ∧ (∀ v ∈ l, v ∈ g.nodes) ∧ xs.map strip2 = l := by
  obtain ⟨rfl, h2⟩ := mapM_ok_map _ n1 (· ∈ g.nodes) (fun _ _ => expandedNode_map_ok) h
  refine ⟨rfl, h2, ?_⟩
  rw [List.map_map]
  exact (List.map_congr_left fun v _ => strip2_n1 v).trans (List.map_id l)

theorem expandScaling_ok {g : Graph} {l : List (Node × Rat)} {xs : List (Edge × Rat)}
    (h : expandScaling g l = .ok xs) : xs = l.map fun p => (nodeEdge p.1, p.2) :=
  (mapM_ok_map _ (fun p => (nodeEdge p.1, p.2)) (fun p => p.1 ∈ g.nodes) (fun _ _ => expandedNode_map_ok) h).1

/-- the original elements named by a list of expanded edges -/
def condenseConstraint (xs : List Edge) : List Element := xs.filterMap condenseElement

def edgesOf (l : List Element) : List Edge := l.filterMap fun x => match x with
  | .edge e => some e
  | .node _ => none

theorem condenseConstraint_nodes (c : List Node) : condenseConstraint (c.map nodeEdge) = c.map .node := by
  unfold condenseConstraint
  induction c with
  | nil => rfl
  | cons v c ih => simp [condenseElement_nodeEdge, ih]

theorem edgesOf_condense_expandEdgeConstraint : ∀ c : List Edge,
    edgesOf (condenseConstraint (expandEdgeConstraint c)) = c
  | [] => rfl
  | [e] => by
    simp [expandEdgeConstraint, condenseConstraint, edgesOf, condenseElement_nodeEdge,
      condenseElement_edgeEdge]
  | e :: e' :: rest => by
    have ih := edgesOf_condense_expandEdgeConstraint (e' :: rest)
    have hx : expandEdgeConstraint (e :: e' :: rest)
        = nodeEdge e.1 :: edgeEdge e :: expandEdgeConstraint (e' :: rest) := by
      simp [expandEdgeConstraint]
    unfold condenseConstraint edgesOf at ih ⊢
    rw [hx]
    simp only [List.filterMap_cons, condenseElement_nodeEdge, condenseElement_edgeEdge]
    rw [ih]

theorem expandEdgeConstraint_ne_nil {c : List Edge} (h : c ≠ []) : expandEdgeConstraint c ≠ [] := by
  match c, h with
  | [e], _ => simp [expandEdgeConstraint]
  | e :: e' :: rest, _ => simp [expandEdgeConstraint]

theorem expandConstraints_ok {g : Graph} {cs : Constraints} {xs : List (List Edge)}
    (h : expandConstraints g cs = .ok xs) : xs = specConstraints cs := by
  match cs, h with
  | .nodes [], h => exact (Except.ok.inj h).symm
  | .edges [], h => exact (Except.ok.inj h).symm
  | .nodes (c0 :: l), h =>
    exact (mapM_ok_map (fun c : List Node => c.mapM (expandedNode g)) (·.map nodeEdge) (fun _ => True)
      (fun a b hab => ⟨trivial, (mapM_expandedNode_ok hab).1⟩) (ite_error_ok h).2).1
  | .edges (c0 :: l), h =>
    exact (mapM_ok_map _ expandEdgeConstraint (fun _ => True)
      (fun a b hab => ⟨trivial, (Except.ok.inj (ite_ok_iff.1 hab).2).symm⟩) (ite_error_ok h).2).1

theorem constraints_roundtrip {g : Graph} {cs : Constraints} {xs : List (List Edge)}
    (h : expandConstraints g cs = .ok xs) :
    match cs with
    | .nodes l => xs.map condenseConstraint = l.map (·.map .node)
    | .edges l => xs.map (fun x => edgesOf (condenseConstraint x)) = l := by
  have hx := expandConstraints_ok h
  subst hx
  cases cs with
  | nodes l =>
    simp only [specConstraints, List.map_map]
    exact List.map_congr_left (fun c _ => condenseConstraint_nodes c)
  | edges l =>
    simp only [specConstraints, List.map_map]
    conv => rhs; rw [← List.map_id l]
    exact List.map_congr_left (fun c _ => edgesOf_condense_expandEdgeConstraint c)

theorem condenseElement_expand (g : Graph) :
    (∀ v x, expandedNode g v = .ok x → condenseElement x = some (.node v) ∧ v ∈ g.nodes) ∧
    (∀ e x, expandedEdge g e = .ok x → condenseElement x = some (.edge e) ∧ e ∈ g.edges) := by
  constructor
  · intro v x h
    obtain ⟨h1, rfl⟩ := expandedNode_ok h
    exact ⟨condenseElement_nodeEdge v, h1⟩
  · intro e x h
    obtain ⟨he, hx⟩ := ite_ok_iff.1 h
    obtain rfl := Except.ok.inj hx
    exact ⟨condenseElement_edgeEdge e, List.contains_iff_mem.1 he⟩

theorem lookup_expandFlow_nodeEdge (ng : NodeGraph) (v : Node) :
    (expandFlow ng).lookup (nodeEdge v) = ng.nodeFlow.lookup v := by
  unfold expandFlow
  rw [List.lookup_append, lookup_map_key nodeEdge (fun _ _ => nodeEdge_inj),
    lookup_map_none edgeEdge _ _ (fun p _ h => nodeEdge_ne_edgeEdge _ _ h.symm)]
  simp

theorem condenseFlow_expandFlow (ng : NodeGraph) :
    condenseFlow ng.g (expandFlow ng) = ng.g.nodes.filterMap fun v => (ng.nodeFlow.lookup v).map fun q => (v, q) := by
  unfold condenseFlow
  congr 1
  funext v
  rw [lookup_expandFlow_nodeEdge]

/-- the ignore list the node branches build is, as a set, that of the property text -/
theorem mem_ignore_iff (ng : NodeGraph) (hc : Closed ng.g) (ignoreNodes : List Node) (e : Edge) :
    e ∈ (edgesToIgnore ng ++ ignoreNodes.map nodeEdge).eraseDups ↔
      (∃ x ∈ ng.g.edges, e = edgeEdge x) ∨ (∃ v ∈ ng.g.nodes, ng.hasFlow v = false ∧ e = nodeEdge v) ∨
        (∃ v ∈ ignoreNodes, e = nodeEdge v) := by
  rw [List.mem_eraseDups, List.mem_append, edgesToIgnore_exact ng hc, or_assoc, List.mem_map]
  exact or_congr Iff.rfl (or_congr Iff.rfl (exists_congr fun v => and_congr Iff.rfl eq_comm))

theorem nxm_ignore_contains (inp : NodeFlowInput) (hc : Closed inp.ng.g) (e : Edge) :
    (edgesToIgnore inp.ng ++ inp.ignoreNodes.map nodeEdge).eraseDups.contains e
      = (expandInput inp).ignore.contains e := by
  rw [Bool.eq_iff_iff]
  simp only [List.contains_iff_mem]
  refine (mem_ignore_iff inp.ng hc inp.ignoreNodes e).trans ?_
  unfold expandInput
  rw [List.mem_append, List.mem_append, or_assoc, List.mem_map, List.mem_map, List.mem_map]
  refine (or_congr (exists_congr fun v => and_congr Iff.rfl eq_comm)
    (or_congr (exists_congr fun v => ?_) (exists_congr fun v => and_congr Iff.rfl eq_comm))).symm
  rw [List.mem_filter, and_assoc, Bool.not_eq_true']
  exact and_congr Iff.rfl (and_congr Iff.rfl eq_comm)

/-- where the attribute on the expansion can differ from the node values: reading `data.get(flow_attr, d)` on an
edge `e`, up to `φ`, gives the same on the node branch's graph and on the explicit expansion unless `e` is the copy of an
original edge that carries an attribute of the same name with a value that `φ` tells apart from `d` -/
theorem expandFlow_getD_map {β} (φ : Rat → β) (ng : NodeGraph) (e : Edge) (d : Rat)
    (hd : ∀ x q, ng.edgeFlow.lookup x = some q → e = edgeEdge x → φ q = φ d) :
    φ (((expandFlow ng).lookup e).getD d)
      = φ (((ng.nodeFlow.map fun p => (nodeEdge p.1, p.2)).lookup e).getD d) := by
  unfold expandFlow
  rw [List.lookup_append]
  cases hn : (ng.nodeFlow.map fun p => (nodeEdge p.1, p.2)).lookup e with
  | some q => rfl
  | none =>
    simp only [Option.none_or, Option.getD_none]
    cases he : (ng.edgeFlow.map fun p => (edgeEdge p.1, p.2)).lookup e with
    | none => rfl
    | some q =>
      obtain ⟨p, _, hp⟩ := List.mem_map.1 (mem_of_lookup_eq_some he)
      obtain rfl : edgeEdge p.1 = e := congrArg Prod.fst hp
      simp only [Option.getD_some]
      exact hd p.1 q ((lookup_map_key edgeEdge (fun _ _ => edgeEdge_inj) _ p.1).symm.trans he) rfl

/-- outside the ignore list the attribute copied onto the expansion is the node's value: a non-ignored edge is not the
copy of an original edge -/
theorem nxm_flow_agree (ng : NodeGraph) (hc : Closed ng.g)
    (hef : ∀ p ∈ ng.edgeFlow, p.1 ∈ ng.g.edges) (ignoreNodes : List Node) (e : Edge)
    (hne : (edgesToIgnore ng ++ ignoreNodes.map nodeEdge).eraseDups.contains e = false) :
    lookupD (expandFlow ng) e 0 = lookupD (ng.nodeFlow.map fun p => (nodeEdge p.1, p.2)) e 0 :=
  expandFlow_getD_map id ng e 0 fun x q hl hx => by
    have hin := (mem_ignore_iff ng hc ignoreNodes e).2 (Or.inl ⟨x, hef _ (mem_of_lookup_eq_some hl), hx⟩)
    exact absurd ((List.contains_iff_mem.2 hin).symm.trans hne) (by decide)

/-- two edge-level inputs that the generators cannot tell apart -/
structure FlowAgree (a b : FlowInput) : Prop where
  base : a.base = b.base
  starts : a.starts = b.starts
  ends : a.ends = b.ends
  wInt : a.weightInt = b.weightInt
  cfg : a.cfg = b.cfg
  ign : ∀ e, a.ignore.contains e = b.ignore.contains e
  f : ∀ e, a.ignored e = false → a.f e = b.f e

namespace FlowAgree
variable {a b : FlowInput} (h : FlowAgree a b)
include h

theorem st : a.st = b.st := by unfold FlowInput.st; rw [h.base, h.starts, h.ends]

theorem ignored : a.ignored = b.ignored := by
  funext e; unfold FlowInput.ignored; rw [h.st, h.ign]

theorem active : a.activeEdges = b.activeEdges := by
  unfold FlowInput.activeEdges; rw [h.st, h.ignored]

theorem f_active : ∀ e ∈ a.activeEdges, a.f e = b.f e := fun e he =>
  h.f e (by simpa using (List.mem_filter.1 he).2)

end FlowAgree

theorem kfdLP_congr (a b : FlowInput) (h : FlowAgree a b) : kfdLP a = kfdLP b :=
  kfdLP_congr_on h.st h.cfg h.wInt h.active h.f_active

/-- the record a node branch hands on, with every translation spelled out; `ng` is the graph that is expanded:
`inp.nf.ng`, or `coverNG inp.nf.ng` for `kPathCover` -/
def nxmTranslated (inp : NodeModeInput) (ng : NodeGraph) (lengths : Option (List (Edge × Rat)))
    (pos : Bool) : ErrInput :=
  { fi := { base := expandGraph ng.g, flow := expandFlow ng,
            ignore := (edgesToIgnore ng ++ inp.nf.ignoreNodes.map nodeEdge).eraseDups,
            starts := inp.starts.map n0, ends := inp.ends.map n1,
            weightInt := inp.nf.weightInt,
            cfg := { k := inp.nf.k, allowEmpty := inp.nf.allowEmpty,
                     constraints := specConstraints inp.nf.constraints,
                     coverage := inp.nf.coverage, coverageLength := inp.nf.coverageLength,
                     lengths := lengths, encodePosition := pos } },
    scaling := inp.scaling.map fun p => (nodeEdge p.1, p.2) }

theorem nxm_agree (inp : NodeModeInput) (hc : Closed inp.nf.ng.g)
    (hef : ∀ p ∈ inp.nf.ng.edgeFlow, p.1 ∈ inp.nf.ng.g.edges) (pos : Bool) :
    FlowAgree (nxmTranslated inp inp.nf.ng (expandLengths inp.nf.ng) pos).fi (expandModeInput inp pos).fi where
  base := rfl
  starts := rfl
  ends := rfl
  wInt := rfl
  cfg := rfl
  ign := nxm_ignore_contains inp.nf hc
  f := fun e hne => nxm_flow_agree inp.nf.ng hc hef inp.nf.ignoreNodes e (Bool.or_eq_false_iff.1 hne).2

/-- the node branch of `kFlowDecomp` is the generic node branch without starts, ends and error scaling -/
theorem kfdNodeTranslate_ok {inp : NodeFlowInput} {fi : FlowInput} (h : kfdNodeTranslate inp = .ok fi) :
    fi = (nxmTranslated { nf := inp } inp.ng (expandLengths inp.ng) false).fi := by
  unfold kfdNodeTranslate at h
  split at h
  · cases h
  split at h
  · cases h
  rename_i cons hc
  split at h
  · cases h
  rename_i ign hi
  split at h
  · cases h
  obtain rfl := expandConstraints_ok hc
  obtain ⟨rfl, _⟩ := mapM_expandedNode_ok hi
  exact (Except.ok.inj h).symm

theorem kfdEdgeChecks_ok {fi fi' : FlowInput} (h : kfdEdgeChecks fi = .ok fi') :
    fi' = fi ∧ fi.activeEdges ≠ [] ∧ fi.cfg.k ≠ 0 := by
  unfold kfdEdgeChecks at h
  obtain ⟨ha, h⟩ := ite_error_ok h
  obtain ⟨hk, h⟩ := ite_error_ok h
  exact ⟨(Except.ok.inj h).symm, fun h0 => ha (by rw [h0]; rfl), hk⟩

theorem kfdEdgeChecks_accepts (fi : FlowInput) (ha : fi.activeEdges ≠ []) (hk : fi.cfg.k ≠ 0) :
    kfdEdgeChecks fi = .ok fi := by
  unfold kfdEdgeChecks
  rw [if_neg (fun h => ha (List.isEmpty_iff.1 h)), if_neg hk]

theorem kfdNodeInternal_ok {inp : NodeFlowInput} {fi : FlowInput} (h : kfdNodeInternal inp = .ok fi) :
    kfdNodeTranslate inp = .ok fi ∧ fi.activeEdges ≠ [] ∧ fi.cfg.k ≠ 0 := by
  unfold kfdNodeInternal at h
  split at h
  · cases h
  rename_i fi0 ht
  obtain ⟨rfl, h2, h3⟩ := kfdEdgeChecks_ok h
  exact ⟨ht, h2, h3⟩

theorem node_mode_is_edge_mode_on_expansion (inp : NodeFlowInput) (lp : LP) (hc : Closed inp.ng.g)
    (hef : ∀ p ∈ inp.ng.edgeFlow, p.1 ∈ inp.ng.g.edges) (h : kfdNodeLP inp = .ok lp) :
    lp = kfdLP (expandInput inp) := by
  obtain ⟨fi, hfi, rfl⟩ := map_ok h
  obtain rfl := kfdNodeTranslate_ok (kfdNodeInternal_ok hfi).1
  exact kfdLP_congr _ (expandInput inp) (nxm_agree { nf := inp } hc hef false)

/-- node-form constraints only: no property needs acceptance of the edge form (it would go through `expandedEdge` in
the same way) -/
theorem node_translate_accepts (inp : NodeFlowInput) (l : List (List Node)) (hcs : inp.constraints = .nodes l)
    (hn : inp.ng.g.nodes ≠ []) (hl : ∀ c ∈ l, c ≠ [] ∧ ∀ v ∈ c, v ∈ inp.ng.g.nodes)
    (hi : ∀ v ∈ inp.ignoreNodes, v ∈ inp.ng.g.nodes) : ∃ fi, kfdNodeTranslate inp = .ok fi := by
  have h1 : inp.ignoreNodes.mapM (expandedNode inp.ng.g) = .ok (inp.ignoreNodes.map nodeEdge) :=
    mapM_except_ok _ _ _ (fun v hv => expandedNode_of_mem (hi v hv))
  have h2 : expandConstraints inp.ng.g (.nodes l) = .ok (l.map (·.map nodeEdge)) := by
    cases l with
    | nil => rfl
    | cons c0 l' =>
      have hne : ¬ (c0 :: l').any List.isEmpty = true := fun h =>
        let ⟨c, hc, h0⟩ := List.any_eq_true.1 h
        (hl c hc).1 (List.isEmpty_iff.1 h0)
      exact (if_neg hne).trans (mapM_except_ok _ _ _ fun c hc =>
        mapM_except_ok _ _ _ fun v hv => expandedNode_of_mem ((hl c hc).2 v hv))
  have h3 : ¬ (l.map (·.map nodeEdge)).any (·.isEmpty) = true := fun h =>
    let ⟨c', hc', h0⟩ := List.any_eq_true.1 h
    let ⟨c, hc, hcc'⟩ := List.mem_map.1 hc'
    (hl c hc).1 (List.map_eq_nil_iff.1 (hcc' ▸ List.isEmpty_iff.1 h0))
  unfold kfdNodeTranslate
  rw [if_neg (mt List.isEmpty_iff.1 hn), hcs, h2, h1]
  exact ⟨_, if_neg h3⟩

/-- a node that carries the attribute and is not ignored by the caller gives an active edge of the
internal record (so "All edges are ignored" is not raised) -/
theorem nodeEdge_active (ng : NodeGraph) (hc : Closed ng.g) (ignoreNodes : List Node) (fi : FlowInput)
    (hb : fi.base = expandGraph ng.g)
    (hig : fi.ignore = (edgesToIgnore ng ++ ignoreNodes.map nodeEdge).eraseDups)
    (v : Node) (hv : v ∈ ng.g.nodes) (hf : ng.hasFlow v = true) (hni : v ∉ ignoreNodes) :
    nodeEdge v ∈ fi.activeEdges := by
  have hwf := expansion_wf ng.g hc
  unfold FlowInput.activeEdges
  apply List.mem_filter.2
  constructor
  · unfold FlowInput.st
    rw [hb]
    exact (aug_mem_edges hwf).2 (Or.inl (nodeEdge_mem_expand hv))
  · have h1 : fi.st.sourceSinkEdges.contains (nodeEdge v) = false := by
      cases hcn : fi.st.sourceSinkEdges.contains (nodeEdge v) with
      | false => rfl
      | true =>
        exfalso
        rcases fst_or_snd_of_mem_sourceSinkEdges (List.contains_iff_mem.1 hcn) with h' | h'
        · exact (src_not_expanded v).1 h'.symm
        · exact (snk_not_expanded v).2 h'.symm
    have h2 : fi.ignore.contains (nodeEdge v) = false := by
      cases hcn : fi.ignore.contains (nodeEdge v) with
      | false => rfl
      | true =>
        exfalso
        have hm : nodeEdge v ∈ fi.ignore := List.contains_iff_mem.1 hcn
        rw [hig] at hm
        rcases List.mem_append.1 (List.mem_eraseDups.1 hm) with hm | hm
        · exact (missing_attr_ignored ng hc).2.2 v hv hf hm
        · obtain ⟨w, hw, hx⟩ := List.mem_map.1 hm
          exact hni (nodeEdge_inj hx ▸ hw)
    unfold FlowInput.ignored
    rw [h1, h2]; rfl

theorem node_mode_accepts (inp : NodeFlowInput) (l : List (List Node)) (hcs : inp.constraints = .nodes l)
    (hc : Closed inp.ng.g) (hk : inp.k ≠ 0)
    (hact : ∃ v ∈ inp.ng.g.nodes, inp.ng.hasFlow v = true ∧ v ∉ inp.ignoreNodes)
    (hl : ∀ c ∈ l, c ≠ [] ∧ ∀ v ∈ c, v ∈ inp.ng.g.nodes)
    (hi : ∀ v ∈ inp.ignoreNodes, v ∈ inp.ng.g.nodes) : ∃ lp, kfdNodeLP inp = .ok lp := by
  obtain ⟨v, hv, hf, hni⟩ := hact
  obtain ⟨fi, ht⟩ := node_translate_accepts inp l hcs (List.ne_nil_of_mem hv) hl hi
  obtain rfl := kfdNodeTranslate_ok ht
  have ha := nodeEdge_active inp.ng hc inp.ignoreNodes
    (nxmTranslated { nf := inp } inp.ng (expandLengths inp.ng) false).fi rfl rfl v hv hf hni
  unfold kfdNodeLP kfdNodeInternal
  rw [ht]
  exact ⟨_, congrArg (Except.map kfdLP) (kfdEdgeChecks_accepts _ (List.ne_nil_of_mem ha) hk)⟩

end NX
end FP
