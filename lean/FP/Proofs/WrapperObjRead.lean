import FP.Spec.Box
import FP.Proofs.Lib
/-!
# FP.Proofs.WrapperObjRead — what is read back from the wrapper state

The solve of a box model (`boxOptimum`, optimal column by column) and the states observed at each `optimize`.
-/
namespace FP
open FP.Spec

/-- minimising `k·v` over `[lb, ub]`: the upper end for negative `k`, the lower end otherwise, and no other
point unless `k = 0` on an interval that is not a point -/
theorem wobj_interval_min (k lb ub v : Rat) (hlo : lb ≤ v) (hhi : v ≤ ub) :
    (lb ≤ (if k < 0 then ub else lb) ∧ (if k < 0 then ub else lb) ≤ ub) ∧
    k * (if k < 0 then ub else lb) ≤ k * v ∧
    (k * v ≤ k * (if k < 0 then ub else lb) → k ≠ 0 ∨ lb = ub → v = if k < 0 then ub else lb) := by
  have hbox : lb ≤ ub := Rat.le_trans hlo hhi
  by_cases hneg : k < 0
  · simp only [hneg, if_true]
    exact ⟨⟨hbox, Rat.le_refl⟩, mul_le_mul_of_nonpos_left hhi (Rat.le_of_lt hneg),
      fun h _ => Rat.le_antisymm hhi (le_of_mul_le_mul_neg hneg h)⟩
  · simp only [hneg, if_false]
    refine ⟨⟨Rat.le_refl, hbox⟩, Rat.mul_le_mul_of_nonneg_left hlo (Rat.not_lt.1 hneg), fun h hd => ?_⟩
    rcases hd with hd | hd
    · exact Rat.le_antisymm (Rat.le_of_mul_le_mul_left h (by grind)) hlo
    · exact Rat.le_antisymm (hd ▸ hhi) hlo

/-- one column: the chosen value is within the bounds, at least as good as any other value of the interval,
and any equally good value of a determined column equals it; maximising is minimising the negated cost -/
theorem wobj_col (mx : Bool) (c : WCol) (v : Rat) (hlo : c.lb ≤ v) (hhi : v ≤ c.ub) :
    (c.lb ≤ colOpt mx c ∧ colOpt mx c ≤ c.ub) ∧
    AsGood mx (c.cost * colOpt mx c) (c.cost * v) ∧
    (AsGood mx (c.cost * v) (c.cost * colOpt mx c) → colDetermined c = true → v = colOpt mx c) := by
  simp only [colDetermined, Bool.or_eq_true, decide_eq_true_eq]
  cases mx
  · exact wobj_interval_min c.cost c.lb c.ub v hlo hhi
  · have h := wobj_interval_min (-c.cost) c.lb c.ub v hlo hhi
    have hs : -c.cost < 0 ↔ 0 < c.cost := by grind
    have hz : -c.cost ≠ 0 ↔ c.cost ≠ 0 := by grind
    simp only [hs, hz, Rat.neg_mul, Rat.neg_le_neg_iff] at h
    exact h

theorem wobj_inBox_nil (x : List Rat) : InBox [] x ↔ x = [] := by
  constructor
  · intro h; exact List.eq_nil_of_length_eq_zero h.1
  · rintro rfl; exact ⟨rfl, fun i c v h => by simp at h⟩

theorem wobj_inBox_cons (c : WCol) (cs : List WCol) (x : List Rat) :
    InBox (c :: cs) x ↔ ∃ v vs, x = v :: vs ∧ (c.lb ≤ v ∧ v ≤ c.ub) ∧ InBox cs vs := by
  constructor
  · rintro ⟨hl, h⟩
    cases x with
    | nil => simp at hl
    | cons v vs =>
      refine ⟨v, vs, rfl, h 0 c v rfl rfl, by simpa using hl, fun i c' v' hc hv => ?_⟩
      exact h (i+1) c' v' (by simpa using hc) (by simpa using hv)
  · rintro ⟨v, vs, rfl, hv, hl, h⟩
    refine ⟨by simp [hl], fun i c' v' hc hv' => ?_⟩
    cases i with
    | zero => simp at hc hv'; subst hc; subst hv'; exact hv
    | succ j => exact h j c' v' (by simpa using hc) (by simpa using hv')

theorem wobj_feasible_cons (c : WCol) (cs : List WCol) :
    boxFeasible (c :: cs) = true ↔ c.lb ≤ c.ub ∧ boxFeasible cs = true := by
  simp [boxFeasible]

/-- `Σ cost·x` without the constant -/
def wobj_dot (cols : List WCol) (x : List Rat) : Rat := ((cols.zip x).map (fun cx => cx.1.cost * cx.2)).sum

theorem wobj_objValue (cols : List WCol) (off : Rat) (x : List Rat) :
    objValue cols off x = wobj_dot cols x + off := rfl

theorem wobj_dot_cons (c : WCol) (cs : List WCol) (v : Rat) (vs : List Rat) :
    wobj_dot (c :: cs) (v :: vs) = c.cost * v + wobj_dot cs vs := by
  simp [wobj_dot]

theorem wobj_boxOptimum_cons (mx : Bool) (c : WCol) (cs : List WCol) :
    boxOptimum mx (c :: cs) = colOpt mx c :: boxOptimum mx cs := rfl

theorem wobj_opt_inBox (mx : Bool) : ∀ cols : List WCol, boxFeasible cols = true →
    InBox cols (boxOptimum mx cols) := by
  intro cols
  induction cols with
  | nil => intro _; exact (wobj_inBox_nil _).2 rfl
  | cons c cs ih =>
    intro hf
    rw [wobj_feasible_cons] at hf
    refine (wobj_inBox_cons c cs _).2 ⟨colOpt mx c, boxOptimum mx cs, rfl, ?_, ih hf.2⟩
    exact (wobj_col mx c c.lb Rat.le_refl hf.1).1

theorem wobj_feasible_of_inBox : ∀ (cols : List WCol) (x : List Rat), InBox cols x → boxFeasible cols = true
  | [], _, _ => rfl
  | c :: cs, _, hx => by
    obtain ⟨v, vs, rfl, hv, hvs⟩ := (wobj_inBox_cons c cs _).1 hx
    exact (wobj_feasible_cons c cs).2 ⟨Rat.le_trans hv.1 hv.2, wobj_feasible_of_inBox cs vs hvs⟩

theorem wobj_asGood_add (mx : Bool) (a b off : Rat) : AsGood mx (a + off) (b + off) ↔ AsGood mx a b := by
  cases mx <;> simp only [AsGood, Bool.false_eq_true, if_false, if_true] <;> exact Rat.add_le_add_right

theorem wobj_asGood_sum (mx : Bool) {a b c d : Rat} (h1 : AsGood mx a b) (h2 : AsGood mx c d) :
    AsGood mx (a + c) (b + d) := by
  cases mx <;> simp only [AsGood, Bool.false_eq_true, if_false, if_true] at h1 h2 ⊢ <;>
    exact Rat.le_trans (Rat.add_le_add_right.2 h1) (Rat.add_le_add_left.2 h2)

theorem wobj_asGood_sum_cancel (mx : Bool) {a b c d : Rat} (h : AsGood mx (b + d) (a + c))
    (h1 : AsGood mx a b) (h2 : AsGood mx c d) : AsGood mx b a ∧ AsGood mx d c := by
  cases mx <;> simp only [AsGood, Bool.false_eq_true, if_false, if_true] at h h1 h2 ⊢ <;> grind

/-- the list induction: optimality of `boxOptimum`, and agreement of every equally good point on the
determined columns -/
theorem wobj_opt_best (mx : Bool) : ∀ (cols : List WCol) (x : List Rat), InBox cols x →
    AsGood mx (wobj_dot cols (boxOptimum mx cols)) (wobj_dot cols x) ∧
    (AsGood mx (wobj_dot cols x) (wobj_dot cols (boxOptimum mx cols)) →
      ∀ (i : Nat) (c : WCol), cols[i]? = some c → colDetermined c = true → x[i]? = some (colOpt mx c)) := by
  intro cols
  induction cols with
  | nil =>
    intro x hx
    rw [wobj_inBox_nil] at hx; subst hx
    refine ⟨?_, fun _ i c h => by simp at h⟩
    cases mx <;> simp [AsGood, wobj_dot, boxOptimum]
  | cons c cs ih =>
    intro x hx
    obtain ⟨v, vs, rfl, hv, hvs⟩ := (wobj_inBox_cons c cs _).1 hx
    obtain ⟨_, hc1, hc2⟩ := wobj_col mx c v hv.1 hv.2
    obtain ⟨i1, i2⟩ := ih vs hvs
    rw [wobj_boxOptimum_cons, wobj_dot_cons, wobj_dot_cons]
    refine ⟨wobj_asGood_sum mx hc1 i1, fun hle i c' hc' hd => ?_⟩
    obtain ⟨e1, e2⟩ := wobj_asGood_sum_cancel mx hle hc1 i1
    cases i with
    | zero => simp at hc'; subst hc'; simp [hc2 e1 hd]
    | succ j => simpa using i2 e2 j c' (by simpa using hc') hd

theorem wobj_snaps_append (f : GetColsField) (a b : List WOp) : ∀ s : WState,
    wsnapsFrom f s (a ++ b) = wsnapsFrom f s a ++ wsnapsFrom f (a.foldl (wstep f) s) b := by
  induction a with
  | nil => intro s; rfl
  | cons o rest ih =>
    intro s
    simp only [List.cons_append, wsnapsFrom, List.foldl_cons]
    by_cases ho : o.isOptimize = true
    · simp [ho, ih]
    · simp [ho, ih]

theorem wobj_snaps_length (f : GetColsField) (a : List WOp) : ∀ s : WState,
    (wsnapsFrom f s a).length = (a.filter (·.isOptimize)).length := by
  induction a with
  | nil => intro s; rfl
  | cons o rest ih =>
    intro s
    simp only [wsnapsFrom, List.filter_cons]
    by_cases ho : o.isOptimize = true
    · simp [ho, ih]
    · simp [ho, ih]

theorem wobj_nSolves (f : GetColsField) (ops : List WOp) : ∀ s : WState,
    (ops.foldl (wstep f) s).nSolves = s.nSolves + (ops.filter (·.isOptimize)).length := by
  induction ops with
  | nil => intro s; rfl
  | cons o rest ih =>
    intro s
    rw [List.foldl_cons, ih]
    cases o <;> simp [wstep, WOp.isOptimize, flush] <;> omega

end FP

