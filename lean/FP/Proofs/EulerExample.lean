import FP.Proofs.Euler
/-! A residual graph with nested cycles (a self-loop inside a cycle inside the s-t trail): the conclusion of
`reconstruct_euler_main` by evaluation, and its hypotheses discharged. -/
namespace FP.Euler.Example
open FP.Euler FP.Spec

def g : Adj Nat := [(0, [1]), (1, [3, 2, 4]), (2, [1]), (4, [4, 1]), (3, [])]

example : reconstruct g 0 3 = [1, 4, 4, 1, 2, 1] := by decide +kernel
example : (walkEdges (0 :: reconstruct g 0 3 ++ [3])).Perm (edges g) := by decide +kernel
example : remaining g 0 = 0 := by decide +kernel

theorem reach_of_mem : ∀ x ∈ [0, 1, 2, 4, 3], Reach (edges g) 0 x := by
  have r0 : Reach (edges g) 0 0 := .refl 0
  have r1 : Reach (edges g) 0 1 := .step r0 (by decide)
  have r2 : Reach (edges g) 0 2 := .step r1 (by decide)
  have r4 : Reach (edges g) 0 4 := .step r1 (by decide)
  have r3 : Reach (edges g) 0 3 := .step r1 (by decide)
  intro x hx
  simp only [List.mem_cons, List.not_mem_nil, or_false] at hx
  rcases hx with rfl | rfl | rfl | rfl | rfl <;> assumption

theorem bal_zero_of_notMem (x : Nat) (hx : x ∉ [0, 1, 2, 4, 3]) : bal (edges g) x = 0 :=
  bal_eq_zero_of_not_endpoint (by decide) hx

/-- the hypotheses of `reconstruct_euler_main` are jointly satisfiable on a graph with nested
cycles, so the theorem is not vacuous -/
example : (walkEdges (0 :: reconstruct g 0 3 ++ [3])).Perm (edges g) ∧ remaining g 0 = 0 := by
  refine reconstruct_euler_main g 0 3 (by decide +kernel) (by decide +kernel) ?_
    (by decide +kernel) (by decide +kernel) ?_
  · intro x h0 h3
    by_cases hx : x ∈ [0, 1, 2, 4, 3]
    · simp only [List.mem_cons, List.not_mem_nil, or_false] at hx
      rcases hx with rfl | rfl | rfl | rfl | rfl <;> first | decide +kernel | contradiction
    · exact bal_zero_of_notMem x hx
  · intro e he
    exact reach_of_mem e.1 (by revert e; decide +kernel)

end FP.Euler.Example
