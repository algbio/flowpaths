import FP.Model.Enc.KFD
import FP.Proofs.PathCore
/-!
# FP.Proofs.KFD — the flow block of `kFlowDecomp` on top of `_encode_paths`

Weight columns, product rows (`coupleBin`) and flow equations. `kfd_exact`: in a satisfying assignment the decoded routes with
the weight columns explain the flow of every active edge; `sat_kfdLP`: the converse for any assignment. `kfd_given_exact` is the
given-weights variant.
-/
namespace FP
open FP.Spec

/-- an edge whose flow or coverage is asked for touches neither synthetic endpoint and is not ignored -/
theorem active_mem {inp : FlowInput} {e : Edge} (he : e ∈ inp.activeEdges) :
    e ∈ inp.st.g.edges ∧ e.1 ≠ inp.st.source ∧ e.2 ≠ inp.st.sink ∧ e ∉ inp.ignore := by
  obtain ⟨hm, hig⟩ := List.mem_filter.1 he
  have hss : e ∉ inp.st.sourceSinkEdges ∧ e ∉ inp.ignore := by
    simpa [FlowInput.ignored] using hig
  exact ⟨hm,
    fun h1 => hss.1 (List.mem_append_left _ (List.mem_filter.2 ⟨hm, by simp [h1]⟩)),
    fun h2 => hss.1 (List.mem_append_right _ (List.mem_filter.2 ⟨hm, by simp [h2]⟩)), hss.2⟩

theorem coupleBin_holds (a : Asg) (E : List Edge) (k : Nat) (p : Edge → Nat → Var) (c : Nat → Var)
    (ub : Rat) :
    (∀ r ∈ coupleBin E k p c ub, r.holds a) ↔
      ∀ e ∈ E, ∀ i, i < k → ∀ r ∈ binProd (edgeVar e i) (c i) (p e i) 0 ub, r.holds a := by
  simp only [coupleBin, List.mem_flatMap, List.mem_range]
  exact ⟨fun h e he i hi r hr => h r ⟨e, he, i, hi, hr⟩, fun h r ⟨e, he, i, hi, hr⟩ => h e he i hi r hr⟩

theorem coupleBin_holds_iff (a : Asg) (es : List Edge) (k : Nat) (prod : Edge → Nat → Var)
    (cont : Nat → Var) (ub : Rat)
    (hbin : ∀ e ∈ es, ∀ i, i < k → a (edgeVar e i) = 0 ∨ a (edgeVar e i) = 1)
    (hbox : ∀ i, i < k → 0 ≤ a (cont i) ∧ a (cont i) ≤ ub) :
    (∀ r ∈ coupleBin es k prod cont ub, r.holds a) ↔
      ∀ e ∈ es, ∀ i, i < k → a (prod e i) = a (edgeVar e i) * a (cont i) := by
  rw [coupleBin_holds]
  exact forall_congr' fun e => forall_congr' fun he => forall_congr' fun i => forall_congr' fun hi =>
    binProd_exact a _ _ _ 0 ub (hbin e he i hi) (hbox i hi)

theorem kfd_weight_cols {inp : FlowInput} (a : Asg) (hsat : Sat a (kfdLP inp)) {i : Nat}
    (hi : i < inp.cfg.k) :
    0 ≤ a (wVar i) ∧ a (wVar i) ≤ inp.wmax ∧ (inp.weightInt = true → ∃ z : Int, a (wVar i) = z) :=
  (cols_map_holds_iff a _ wVar (fun _ => 0) (fun _ => inp.wmax) inp.weightInt).1
    (List.forall_mem_append.1 (sat_append_right hsat).1).2 i (List.mem_range.2 hi)

/-- what the flow block of `kfdLP` says on top of the path encoding: products and flow rows (converse: `sat_kfdLP`) -/
theorem kfd_flow_rows {inp : FlowInput} {a : Asg} (hsat : Sat a (kfdLP inp)) :
    (∀ e ∈ inp.activeEdges, ∀ i, i < inp.cfg.k → a (piVar e i) = a (edgeVar e i) * a (wVar i)) ∧
    ∀ e ∈ inp.activeEdges, ((List.range inp.cfg.k).map fun i => a (piVar e i)).sum = inp.f e := by
  obtain ⟨hprod, hflow⟩ := List.forall_mem_append.1 (sat_append_right hsat).2
  refine ⟨(coupleBin_holds_iff a _ _ piVar wVar _
    (fun e he i hi => (layerFacts_of_sat (sat_append_left hsat) hi).bin e (active_mem he).1)
    fun i hi => ⟨(kfd_weight_cols a hsat hi).1, (kfd_weight_cols a hsat hi).2.1⟩).1 hprod, fun e he => ?_⟩
  rw [← evalTerms_ones]
  exact (rowEq_holds a _ _).1 (hflow _ (List.mem_map.2 ⟨e, he, rfl⟩))

theorem kfd_exact (inp : FlowInput) (a : Asg) (h : BaseWF inp.base) (hac : Acyclic inp.base)
    (hsat : Sat a (kfdLP inp)) :
    ∃ ps : List (List Node), decodePaths inp.st (fun e i => a (edgeVar e i)) inp.cfg.k = some ps ∧
      ps.length = inp.cfg.k ∧
      (∀ i, i < inp.cfg.k → 0 ≤ a (wVar i) ∧ a (wVar i) ≤ inp.wmax) ∧
      ∀ e ∈ inp.activeEdges,
        ((List.range inp.cfg.k).map fun i =>
            a (wVar i) * (traversals (inp.st.source :: (ps.getD i []) ++ [inp.st.sink]) e : Rat)).sum
          = inp.f e := by
  have henc : Sat a (encodePaths inp.st inp.cfg) := sat_append_left hsat
  obtain ⟨hpi, hflow⟩ := kfd_flow_rows hsat
  obtain ⟨ps, hps, hlen, _, htrav⟩ := decode_routes a (h.stwf hac) henc
  refine ⟨ps, hps, hlen, fun i hi => ⟨(kfd_weight_cols a hsat hi).1, (kfd_weight_cols a hsat hi).2.1⟩, fun e he => ?_⟩
  rw [← hflow e he]
  refine congrArg List.sum (List.map_congr_left fun i hi => ?_)
  rw [hpi e he i (List.mem_range.1 hi), htrav i (List.mem_range.1 hi) e (active_mem he).1]
  exact Rat.mul_comm _ _

/-- converse of `kfd_exact` on the level of assignments: on top of the path encoding, boxed (integral)
weights, products and the flow equations are all the flow block asks for -/
theorem sat_kfdLP (inp : FlowInput) (a : Asg) (henc : Sat a (encodePaths inp.st inp.cfg))
    (hw : ∀ i, i < inp.cfg.k → 0 ≤ a (wVar i) ∧ a (wVar i) ≤ inp.wmax)
    (hint : inp.weightInt = true → ∀ i, i < inp.cfg.k → ∃ z : Int, a (wVar i) = z)
    (hpi : ∀ e ∈ inp.st.g.edges, ∀ i, i < inp.cfg.k → a (piVar e i) = a (edgeVar e i) * a (wVar i))
    (hf : ∀ e ∈ inp.activeEdges, ((List.range inp.cfg.k).map fun i => a (piVar e i)).sum = inp.f e) :
    Sat a (kfdLP inp) := by
  have hbin : ∀ e ∈ inp.st.g.edges, ∀ i, i < inp.cfg.k → a (edgeVar e i) = 0 ∨ a (edgeVar e i) = 1 :=
    fun e he i hi => (layerFacts_of_sat henc hi).bin e he
  refine sat_append henc ⟨List.forall_mem_append.2 ⟨fun col hc => ?_, ?_⟩,
    List.forall_mem_append.2 ⟨?_, fun r hr => ?_⟩⟩
  · obtain ⟨i, hi, hc⟩ := List.mem_flatMap.1 hc
    obtain ⟨e, he, rfl⟩ := List.mem_map.1 hc
    have hi := List.mem_range.1 hi
    rw [col_holds_iff, hpi e he i hi]
    rcases hbin e he i hi with h0 | h1
    · rw [h0, Rat.zero_mul]
      exact ⟨Rat.le_refl, Rat.le_trans (hw i hi).1 (hw i hi).2, fun _ => ⟨0, by simp⟩⟩
    · rw [h1, Rat.one_mul]
      exact ⟨(hw i hi).1, (hw i hi).2, fun h => hint h i hi⟩
  · exact (cols_map_holds_iff a _ wVar (fun _ => 0) (fun _ => inp.wmax) inp.weightInt).2 fun i hi =>
      have hi := List.mem_range.1 hi
      ⟨(hw i hi).1, (hw i hi).2, fun h => hint h i hi⟩
  · exact (coupleBin_holds_iff a _ _ piVar wVar _ (fun e he => hbin e (active_mem he).1) hw).2
      fun e he => hpi e (active_mem he).1
  · obtain ⟨e, he, rfl⟩ := List.mem_map.1 hr
    rw [rowEq_holds, evalTerms_ones]
    exact hf e he

theorem kfd_given_exact (inp : FlowInput) (ws : List Rat) (ok : Nat) (a : Asg) (h : BaseWF inp.base)
    (hac : Acyclic inp.base) (hk : inp.cfg.k = ws.length) (hsat : Sat a (kfdGivenLP inp ws ok)) :
    ∃ ps : List (List Node), decodePaths inp.st (fun e i => a (edgeVar e i)) inp.cfg.k = some ps ∧
      ∀ e ∈ inp.activeEdges,
        ((List.range inp.cfg.k).map fun i =>
            ws.getD i 0 * (traversals (inp.st.source :: (ps.getD i []) ++ [inp.st.sink]) e : Rat)).sum
          = inp.f e := by
  have _ := hk
  have henc : Sat a (encodePaths inp.st inp.cfg) := sat_append_left hsat
  have hflow := (List.forall_mem_append.1 (sat_append_right hsat).2).1
  obtain ⟨ps, hps, _, _, htrav⟩ := decode_routes a (h.stwf hac) henc
  refine ⟨ps, hps, fun e he => ?_⟩
  rw [← (rowEq_holds a _ _).1 (hflow _ (List.mem_map.2 ⟨e, he, rfl⟩)), evalTerms_map]
  refine congrArg List.sum (List.map_congr_left fun i hi => ?_)
  rw [htrav i (List.mem_range.1 hi) e (active_mem he).1]
  rfl

end FP
