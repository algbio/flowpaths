import FP.Model.NodeExpand
import FP.Proofs.Lib
/-!
The name arithmetic of the expansion: appending `.0` / `.1` is injective and undone by `strip2` for arbitrary names,
so condensing an expanded path returns the path. `condenseElement` reads a single expanded edge back as the node or edge it
is the copy of.
-/
namespace FP
namespace NX

theorem toList_n0 (v : Node) : (n0 v).toList = v.toList ++ ['.', '0'] := by
  unfold n0; rw [String.toList_append]; rfl

theorem toList_n1 (v : Node) : (n1 v).toList = v.toList ++ ['.', '1'] := by
  unfold n1; rw [String.toList_append]; rfl

theorem n0_inj {a b : Node} (h : n0 a = n0 b) : a = b := (String.append_left_inj _).1 h

theorem n1_inj {a b : Node} (h : n1 a = n1 b) : a = b := (String.append_left_inj _).1 h

theorem n0_ne_n1 (a b : Node) : n0 a ≠ n1 b := by
  intro h
  have := congrArg String.toList h
  rw [toList_n0, toList_n1] at this
  have h2 := List.append_inj_right' this rfl
  exact absurd h2 (by decide)

theorem len_sub_two (l s : List Char) (hs : s.length = 2) : (l ++ s).length - 2 = l.length := by
  rw [List.length_append, hs, Nat.add_sub_cancel]

theorem endsWith0_n0 (v : Node) : endsWith0 (n0 v) = true := by
  unfold endsWith0; rw [toList_n0, len_sub_two _ _ rfl, List.drop_left]; rfl

theorem endsWith0_n1 (v : Node) : endsWith0 (n1 v) = false := by
  unfold endsWith0; rw [toList_n1, len_sub_two _ _ rfl, List.drop_left]; rfl

theorem strip2_n0 (v : Node) : strip2 (n0 v) = v := by
  unfold strip2; rw [toList_n0, len_sub_two _ _ rfl, List.take_left]; exact String.ofList_toList

theorem strip2_n1 (v : Node) : strip2 (n1 v) = v := by
  unfold strip2; rw [toList_n1, len_sub_two _ _ rfl, List.take_left]; exact String.ofList_toList

/-- `name[-2:] == '.1'` (specification side only: the code never tests it) -/
def endsWith1 (s : String) : Bool := s.toList.drop (s.toList.length - 2) == ['.', '1']

theorem endsWith1_n1 (v : Node) : endsWith1 (n1 v) = true := by
  unfold endsWith1; rw [toList_n1, len_sub_two _ _ rfl, List.drop_left]; rfl

theorem endsWith1_n0 (v : Node) : endsWith1 (n0 v) = false := by
  unfold endsWith1; rw [toList_n0, len_sub_two _ _ rfl, List.drop_left]; rfl

theorem eq_n0_of_endsWith0 (x : Node) (h : endsWith0 x = true) : x = n0 (strip2 x) := by
  apply String.toList_inj.1
  rw [toList_n0]
  unfold strip2
  rw [String.toList_ofList]
  unfold endsWith0 at h
  have h' : x.toList.drop (x.toList.length - 2) = ['.', '0'] := by simpa using h
  rw [← h']
  exact (List.take_append_drop _ _).symm

theorem nodeEdge_inj {a b : Node} (h : nodeEdge a = nodeEdge b) : a = b :=
  n0_inj (congrArg Prod.fst h)

theorem edgeEdge_inj {a b : Edge} (h : edgeEdge a = edgeEdge b) : a = b := by
  have h1 := n1_inj (congrArg Prod.fst h)
  have h2 := n0_inj (congrArg Prod.snd h)
  exact Prod.ext h1 h2

theorem nodeEdge_ne_edgeEdge (v : Node) (e : Edge) : nodeEdge v ≠ edgeEdge e := fun h =>
  n0_ne_n1 _ _ (congrArg Prod.fst h)

inductive Element where
  | node (v : Node)
  | edge (e : Edge)
  deriving DecidableEq, Repr

/-- the inverse of `get_expanded_edge` (specification side): `(x.0, x.1) ↦ node x`,
`(u.1, v.0) ↦ edge (u, v)`, anything else is not the expansion of an element -/
def condenseElement (x : Edge) : Option Element :=
  if endsWith0 x.1 && endsWith1 x.2 then
    (if strip2 x.1 = strip2 x.2 then some (.node (strip2 x.1)) else none)
  else if endsWith1 x.1 && endsWith0 x.2 then some (.edge (strip2 x.1, strip2 x.2))
  else none

theorem condenseElement_nodeEdge (v : Node) : condenseElement (nodeEdge v) = some (.node v) := by
  simp [condenseElement, nodeEdge, endsWith0_n0, endsWith1_n1, strip2_n0, strip2_n1]

theorem condenseElement_edgeEdge (e : Edge) : condenseElement (edgeEdge e) = some (.edge e) := by
  simp [condenseElement, edgeEdge, endsWith0_n0, endsWith1_n1, endsWith0_n1, endsWith1_n0, strip2_n0, strip2_n1]

theorem expandPath_cons (v : Node) (p : List Node) : expandPath (v :: p) = n0 v :: n1 v :: expandPath p := by
  simp [expandPath]

theorem expandPath_append (p q : List Node) : expandPath (p ++ q) = expandPath p ++ expandPath q := by
  simp [expandPath]

theorem evens_expandPath (p : List Node) : evens (expandPath p) = p.map n0 := by
  induction p with
  | nil => rfl
  | cons v p ih => rw [expandPath_cons, evens, ih]; rfl

theorem condenseNames_map_n0 (orig globals : List Node) (p : List Node)
    (h : ∀ v ∈ p, v ∈ orig ∨ v ∈ globals) :
    condenseNames orig globals (p.map n0) = .ok (p.filter fun v => !globals.contains v) := by
  induction p with
  | nil => rfl
  | cons v p ih =>
    have hv := h v (List.mem_cons_self ..)
    have ih' := ih (fun w hw => h w (List.mem_cons_of_mem _ hw))
    simp only [List.map_cons, condenseNames, endsWith0_n0, strip2_n0, ih']
    have hc : (!orig.contains v && !globals.contains v) = false := by
      rcases hv with hv | hv
      · simp [hv]
      · simp [hv]
    simp only [hc]
    by_cases hg : globals.contains v = true <;> simp [List.filter_cons]

theorem condense_expand_globals (orig globals : List Node) (p : List Node)
    (h : ∀ v ∈ p, v ∈ orig ∨ v ∈ globals) :
    condensePath orig globals (expandPath p) = .ok (p.filter fun v => !globals.contains v) := by
  unfold condensePath; rw [evens_expandPath]; exact condenseNames_map_n0 orig globals p h

theorem condense_expand (orig : List Node) (p : List Node) (h : ∀ v ∈ p, v ∈ orig) :
    condensePath orig [] (expandPath p) = .ok p := by
  have := condense_expand_globals orig [] p (fun v hv => Or.inl (h v hv))
  rw [this]; congr 1
  exact List.filter_eq_self.2 (fun a _ => by simp)

theorem condensePaths_expand (orig : List Node) (ps : List (List Node)) (h : ∀ p ∈ ps, ∀ v ∈ p, v ∈ orig) :
    condensePaths orig [] (ps.map expandPath) = .ok ps := by
  unfold condensePaths
  rw [List.mapM_map, mapM_except_ok (condensePath orig [] ∘ expandPath) id ps (fun p hp => condense_expand orig p (h p hp)),
    List.map_id]

end NX
end FP
