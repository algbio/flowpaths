import FP.Model.WalkSafetyRows
import FP.Proofs.KFDC
import FP.Proofs.C05Perm
/-!
# FP.Proofs.C05Flow — `kFlowDecompCycles`' flow block with simplified products

`kfdcFlowS` is `_encode_flow_decomposition` with the three branches of its loop; it splits into the boxes of the weight
channel, one part per non-ignored edge and layer, and the flow rows (`FlowParts`). For a key of `edges_set_to_zero` /
`edges_set_to_one` whose edge variable is `0` / `1` the product block implies the simplified row.
-/
namespace FP

/-- the part of the loop body for the edge `e` and the layer `i` -/
def prodPart (inp : WalkInput) (zero one : List (Edge × Nat)) (e : Edge) (i : Nat) : LP :=
  if zero.contains (e, i) then { rows := [rowEq [(1, piVar e i)] 0] }
  else if one.contains (e, i) then { rows := [rowEq [(1, piVar e i), (-1, weightsVar i)] 0] }
  else intProdQ (edgeVar e i) (weightsVar i) (piVar e i) 0 (inp.wmax false) (kfdcProdName e i)

def kfdcFlowS (inp : WalkInput) (zero one : List (Edge × Nat)) : LP :=
  let prods := walkProductsS zero one (inp.activeEdges false) inp.k weightsVar piVar (inp.wmax false) kfdcProdName
  { cols := ((List.range inp.k).flatMap fun i => inp.st.g.edges.map fun e =>
        { v := piVar e i, lb := 0, ub := some (inp.wmax false), isInt := inp.weightInt })
      ++ ((List.range inp.k).map fun i =>
        { v := weightsVar i, lb := 0, ub := some (inp.wmax false), isInt := inp.weightInt })
      ++ prods.cols,
    rows := prods.rows
      ++ (inp.activeEdges false).map fun e => rowEq (ones (List.range inp.k) (piVar e)) (inp.f e) }

theorem kfdcLPS_none (inp : WalkInput) (fr : SafetyFrag) :
    kfdcLPS inp none fr = (walkCoreS inp.st inp.cfg (kfdcCap inp) fr).append (kfdcFlowS inp fr.zero fr.one) := rfl

theorem kfdcLPS_some (inp : WalkInput) (ws : List Rat) (fr : SafetyFrag) :
    kfdcLPS inp (some ws) fr = ((walkCoreS inp.st inp.cfg (kfdcCap inp) fr).append
      (kfdcFlowS inp fr.zero fr.one)).append (kfdcGiven inp ws) := rfl

/-- `kfdcFlowS` read in values: the boxes of the weight channel (as in `WalkChan`), the part of every non-ignored edge and
layer, the flow rows. With `zero = one = []` the parts are the blocks of the channel, as in `sat_kfdcFlow_iff`. -/
structure FlowParts (inp : WalkInput) (zero one : List (Edge × Nat)) (a : Asg) : Prop where
  contBox : ∀ i, i < inp.k → 0 ≤ a (weightsVar i) ∧ a (weightsVar i) ≤ inp.wmax false ∧
    (inp.weightInt = true → ∃ z : Int, a (weightsVar i) = z)
  prodBox : ∀ i, i < inp.k → ∀ e ∈ inp.st.g.edges, 0 ≤ a (piVar e i) ∧ a (piVar e i) ≤ inp.wmax false ∧
    (inp.weightInt = true → ∃ z : Int, a (piVar e i) = z)
  part : ∀ e ∈ inp.activeEdges false, ∀ i, i < inp.k → Sat a (prodPart inp zero one e i)
  sum : ∀ e ∈ inp.activeEdges false, ((List.range inp.k).map fun i => a (piVar e i)).sum = inp.f e

theorem sat_kfdcFlowS_iff (inp : WalkInput) (zero one : List (Edge × Nat)) (a : Asg) :
    Sat a (kfdcFlowS inp zero one) ↔ FlowParts inp zero one a := by
  have hprods : Sat a (walkProductsS zero one (inp.activeEdges false) inp.k weightsVar piVar (inp.wmax false)
      kfdcProdName) ↔ ∀ e ∈ inp.activeEdges false, ∀ i, i < inp.k → Sat a (prodPart inp zero one e i) := by
    refine (sat_flatMap_lps a _).trans ?_
    simp only [List.forall_mem_flatMap, List.forall_mem_map, List.mem_range]
    rfl
  simp only [Sat, kfdcFlowS, List.forall_mem_append, List.forall_mem_flatMap, List.forall_mem_map,
    List.mem_range] at hprods ⊢
  simp only [col_holds_iff, rowEq_holds, evalTerms_ones]
  exact ⟨fun ⟨⟨⟨h1, h2⟩, h3⟩, h4, h5⟩ => ⟨h2, h1, hprods.1 ⟨h3, h4⟩, h5⟩,
    fun h => ⟨⟨⟨h.prodBox, h.contBox⟩, (hprods.2 h.part).1⟩, (hprods.2 h.part).2, h.sum⟩⟩

theorem prodPart_simplify (inp : WalkInput) (zero one : List (Edge × Nat)) (a : Asg) (e : Edge) (i : Nat)
    (hz : (e, i) ∈ zero → a (edgeVar e i) = 0) (ho : (e, i) ∈ one → a (edgeVar e i) = 1)
    (h : Sat a (intProdQ (edgeVar e i) (weightsVar i) (piVar e i) 0 (inp.wmax false) (kfdcProdName e i))) :
    Sat a (prodPart inp zero one e i) := by
  have hpi : a (piVar e i) = a (edgeVar e i) * a (weightsVar i) := intProdQ_prod h
  fun_cases prodPart inp zero one e i with
  | case1 hcz =>
    refine ⟨fun _ hcol => (nomatch hcol), fun r hr => ?_⟩
    rw [List.mem_singleton.1 hr, rowEq_single_holds, hpi, hz (by simpa using hcz), Rat.zero_mul]
  | case2 _ hco =>
    refine ⟨fun _ hcol => (nomatch hcol), fun r hr => ?_⟩
    rw [List.mem_singleton.1 hr, rowEq_holds, evalTerms_cons, evalTerms_single, hpi, ho (by simpa using hco)]
    grind
  | case3 => exact h

end FP
