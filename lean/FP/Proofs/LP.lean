import FP.Model.PathCore
import FP.Proofs.Lib
/-!
# FP.Proofs.LP — the interface of `evalTerms`, `Row.holds` and `Sat`

Every encoder proof reads rows off a satisfying assignment (soundness) or shows that a witness assignment satisfies
them (completeness); both go through the lemmas below. The one block every product constraint of the wrapper is made of,
the McCormick block `binProd`, is read here as well (`binProd_exact`), and the model's `listMax`/`listMin` are bounds (`listMax` of a non-empty list is one of its members).
-/
namespace FP

theorem evalTerms_nil (a : Asg) : evalTerms a [] = 0 := rfl

theorem evalTerms_cons (a : Asg) (t : Rat × Var) (ts : Terms) :
    evalTerms a (t :: ts) = t.1 * a t.2 + evalTerms a ts := rfl

theorem evalTerms_append (a : Asg) (s t : Terms) :
    evalTerms a (s ++ t) = evalTerms a s + evalTerms a t := by
  simp [evalTerms, List.sum_append]

theorem evalTerms_single (a : Asg) (c : Rat) (v : Var) : evalTerms a [(c, v)] = c * a v := by
  simp [evalTerms, Rat.add_zero]

theorem evalTerms_map {α} (a : Asg) (l : List α) (f : α → Rat) (g : α → Var) :
    evalTerms a (l.map (fun i => (f i, g i))) = (l.map (fun i => f i * a (g i))).sum := by
  simp [evalTerms, List.map_map, Function.comp_def]

/-- terms with unit coefficients; `sumTerms` of `Model/Enc/MGS.lean` has the body of `ones`, and `GS.evalTerms_sumTerms` is this lemma -/
theorem evalTerms_ones {α} (a : Asg) (l : List α) (f : α → Var) :
    evalTerms a (ones l f) = (l.map (fun x => a (f x))).sum := by
  unfold ones
  rw [evalTerms_map]
  congr 1; apply List.map_congr_left; intro x _; grind

theorem evalTerms_flatMap {α} (a : Asg) (l : List α) (f : α → Terms) :
    evalTerms a (l.flatMap f) = (l.map fun x => evalTerms a (f x)).sum := by
  induction l with
  | nil => rfl
  | cons x xs ih => rw [List.flatMap_cons, evalTerms_append, ih]; rfl

theorem evalTerms_negTerms (a : Asg) (ts : Terms) : evalTerms a (negTerms ts) = - evalTerms a ts := by
  induction ts with
  | nil => simp [negTerms, evalTerms_nil]
  | cons t ts ih =>
    simp only [negTerms, List.map_cons, evalTerms_cons] at ih ⊢
    rw [ih]; grind

/-- the coefficients `-(c · sc)` of rows 9aa / 9ab of `kMinPathError` (`errRows`) -/
theorem evalTerms_scaled (a : Asg) (ts : Terms) (sc : Rat) :
    evalTerms a (ts.map fun t => (-(t.1 * sc), t.2)) = -(sc * evalTerms a ts) := by
  induction ts with
  | nil => simp [evalTerms_nil]
  | cons t ts ih =>
    simp only [List.map_cons, evalTerms_cons] at ih ⊢
    rw [ih]; grind

theorem evalTerms_congr (a a' : Asg) (ts : Terms) (h : ∀ t ∈ ts, a' t.2 = a t.2) :
    evalTerms a' ts = evalTerms a ts := by
  unfold evalTerms
  rw [List.map_congr_left fun t ht => by rw [h t ht]]

theorem rowEq_holds (a : Asg) (ts : Terms) (c : Rat) : (rowEq ts c).holds a ↔ evalTerms a ts = c := by
  simp only [Row.holds, rowEq, Option.some.injEq, forall_eq']
  exact ⟨fun ⟨h1, h2⟩ => Rat.le_antisymm h2 h1, fun h => h ▸ ⟨Rat.le_refl, Rat.le_refl⟩⟩

theorem rowLe_holds (a : Asg) (ts : Terms) (c : Rat) : (rowLe ts c).holds a ↔ evalTerms a ts ≤ c := by
  simp [Row.holds, rowLe]

theorem rowLe_holds_p03 (a : Asg) (ts : Terms) (c : Rat) (h : evalTerms a ts ≤ c) : (rowLe ts c).holds a :=
  (rowLe_holds a ts c).2 h

theorem rowGe_holds (a : Asg) (ts : Terms) (c : Rat) : (rowGe ts c).holds a ↔ c ≤ evalTerms a ts := by
  simp [Row.holds, rowGe]

theorem rowGe_pair_holds (a : Asg) (x y : Var) :
    (rowGe [(1, x), (-1, y)] 0).holds a ↔ a y ≤ a x := by
  rw [rowGe_holds, evalTerms_cons, evalTerms_single]; grind

theorem rowLe_pair_holds (a : Asg) (x y : Var) (k : Rat) :
    (rowLe [(1, x), (-k, y)] 0).holds a ↔ a x ≤ k * a y := by
  rw [rowLe_holds, evalTerms_cons, evalTerms_single]; grind

theorem rowGe_single_holds (a : Asg) (v : Var) (q : Rat) : (rowGe [(1, v)] q).holds a ↔ q ≤ a v := by
  rw [rowGe_holds, evalTerms_single, Rat.one_mul]

theorem rowEq_single_holds (a : Asg) (v : Var) (q : Rat) : (rowEq [(1, v)] q).holds a ↔ a v = q := by
  rw [rowEq_holds, evalTerms_single, Rat.one_mul]

theorem Row.holds_congr (a a' : Asg) (r : Row) (h : ∀ t ∈ r.terms, a' t.2 = a t.2) :
    r.holds a' ↔ r.holds a := by
  simp only [Row.holds, evalTerms_congr a a' r.terms h]

theorem col_holds_iff (a : Asg) (v : Var) (lb u : Rat) (i : Bool) :
    Col.holds a { v := v, lb := lb, ub := some u, isInt := i } ↔
      lb ≤ a v ∧ a v ≤ u ∧ (i = true → ∃ z : Int, a v = z) := by
  simp [Col.holds]

theorem col01_holds_iff (a : Asg) (v : Var) :
    Col.holds a { v := v, lb := 0, ub := some 1, isInt := true } ↔ a v = 0 ∨ a v = 1 := by
  rw [col_holds_iff]
  constructor
  · rintro ⟨h0, h1, hz⟩; exact int01 _ h0 h1 (hz rfl)
  · rintro (h | h) <;> rw [h]
    · exact ⟨Rat.le_refl, by decide, fun _ => ⟨0, rfl⟩⟩
    · exact ⟨by decide, Rat.le_refl, fun _ => ⟨1, rfl⟩⟩

theorem cols_map_holds_iff {α} (a : Asg) (l : List α) (v : α → Var) (lb ub : α → Rat) (i : Bool) :
    (∀ c ∈ l.map (fun x => ({ v := v x, lb := lb x, ub := some (ub x), isInt := i } : Col)), c.holds a) ↔
      ∀ x ∈ l, lb x ≤ a (v x) ∧ a (v x) ≤ ub x ∧ (i = true → ∃ z : Int, a (v x) = z) := by
  simp only [List.forall_mem_map, col_holds_iff]

theorem sat_empty (a : Asg) : Sat a {} := ⟨fun _ h => (nomatch h), fun _ h => (nomatch h)⟩

theorem sat_append_iff (a : Asg) (A B : LP) : Sat a (A.append B) ↔ Sat a A ∧ Sat a B := by
  simp only [Sat, LP.append, List.mem_append]
  exact ⟨fun ⟨hc, hr⟩ => ⟨⟨fun c h => hc c (.inl h), fun r h => hr r (.inl h)⟩,
                          ⟨fun c h => hc c (.inr h), fun r h => hr r (.inr h)⟩⟩,
         fun ⟨hA, hB⟩ => ⟨fun c h => h.elim (hA.1 c) (hB.1 c), fun r h => h.elim (hA.2 r) (hB.2 r)⟩⟩

theorem sat_append {a : Asg} {A B : LP} (hA : Sat a A) (hB : Sat a B) : Sat a (A.append B) :=
  (sat_append_iff a A B).2 ⟨hA, hB⟩

theorem sat_append_left {a : Asg} {A B : LP} (h : Sat a (A.append B)) : Sat a A :=
  ((sat_append_iff a A B).1 h).1

theorem sat_append_right {a : Asg} {A B : LP} (h : Sat a (A.append B)) : Sat a B :=
  ((sat_append_iff a A B).1 h).2

theorem sat_congr (lp : LP) (a a' : Asg) (hc : ∀ c ∈ lp.cols, a' c.v = a c.v)
    (hr : ∀ r ∈ lp.rows, ∀ t ∈ r.terms, a' t.2 = a t.2) (h : Sat a lp) : Sat a' lp := by
  refine ⟨fun c hcm => ?_, fun r hrm => (Row.holds_congr a a' r (hr r hrm)).2 (h.2 r hrm)⟩
  have := h.1 c hcm
  unfold Col.holds at this ⊢
  rw [hc c hcm]
  exact this

/-- a fold whose step adds, as far as `Sat` sees, the block `g i` -/
theorem sat_foldl_step {ι} (a : Asg) (step : LP → ι → LP) (g : ι → LP)
    (h : ∀ acc i, Sat a (step acc i) ↔ Sat a acc ∧ Sat a (g i)) (l : List ι) : ∀ acc : LP,
    Sat a (l.foldl step acc) ↔ Sat a acc ∧ ∀ i ∈ l, Sat a (g i) := by
  induction l with
  | nil => intro acc; simp
  | cons x xs ih =>
    intro acc
    rw [List.foldl_cons, ih, h, and_assoc, List.forall_mem_cons]

theorem sat_foldl_append (a : Asg) (l : List LP) (base : LP) :
    Sat a (l.foldl LP.append base) ↔ Sat a base ∧ ∀ x ∈ l, Sat a x :=
  sat_foldl_step a LP.append id (sat_append_iff a) l base

theorem sat_flatMap_lps (a : Asg) (l : List LP) :
    Sat a { cols := l.flatMap (·.cols), rows := l.flatMap (·.rows) } ↔ ∀ p ∈ l, Sat a p := by
  simp only [Sat, List.mem_flatMap, forall_exists_index, and_imp]
  exact ⟨fun h p hp => ⟨fun c hc => h.1 c p hp hc, fun r hr => h.2 r p hp hr⟩,
         fun h => ⟨fun c p hp hc => (h p hp).1 c hc, fun r p hp hr => (h p hp).2 r hr⟩⟩

/-- `Sat` of an LP written out as a structure, and of nothing else: a `simp` set with this lemma leaves `Sat a (f x)` alone -/
theorem sat_mk (a : Asg) (c : List Col) (r : List Row) (o : Terms) (oc : Rat) (mx : Bool) :
    Sat a ⟨c, r, o, oc, mx⟩ ↔ (∀ x ∈ c, x.holds a) ∧ ∀ x ∈ r, x.holds a := Iff.rfl

theorem sat_rows_only (a : Asg) (rows : List Row) :
    Sat a { rows := rows } ↔ ∀ r ∈ rows, r.holds a :=
  ⟨fun h => h.2, fun h => ⟨fun _ hc => (nomatch hc), h⟩⟩

@[simp] theorem LP.append_cols (A B : LP) : (A.append B).cols = A.cols ++ B.cols := rfl
@[simp] theorem LP.append_rows (A B : LP) : (A.append B).rows = A.rows ++ B.rows := rfl
@[simp] theorem LP.append_obj (A B : LP) : (A.append B).obj = B.obj := rfl

theorem sat_append_anti (a : Asg) {H P P' : LP} (h : Sat a (H.append P)) (hc : P'.cols ⊆ P.cols)
    (hr : P'.rows ⊆ P.rows) : Sat a (H.append P') :=
  have hP := sat_append_right h
  sat_append (sat_append_left h) ⟨fun c hm => hP.1 c (hc hm), fun r hm => hP.2 r (hr hm)⟩

/-- the McCormick rows force `p = b·c` for a binary `b` whatever the value of `c`: the box on `c` is needed for the converse only -/
theorem binProd_sound {a : Asg} {b : Var} (c p : Var) {lb ub : Rat} (hb : a b = 0 ∨ a b = 1)
    (h : ∀ r ∈ binProd b c p lb ub, r.holds a) : a p = a b * a c := by
  simp only [binProd, List.forall_mem_cons, List.not_mem_nil, false_imp_iff, implies_true, and_true,
    rowLe_holds, rowGe_holds, evalTerms_cons, evalTerms_nil] at h
  rcases hb with hb | hb <;> rw [hb] at h ⊢ <;> grind

/-- McCormick block of `add_binary_continuous_product_constraint`: for binary `b` and `c ∈ [lb, ub]`
its four rows say exactly `p = b·c`. After the case split on `b` each direction is linear arithmetic
in `lb`, `ub`, `a c`, `a p`. -/
theorem binProd_exact (a : Asg) (b c p : Var) (lb ub : Rat)
    (hb : a b = 0 ∨ a b = 1) (hc : lb ≤ a c ∧ a c ≤ ub) :
    (∀ r ∈ binProd b c p lb ub, r.holds a) ↔ a p = a b * a c := by
  refine ⟨binProd_sound c p hb, fun h => ?_⟩
  simp only [binProd, List.forall_mem_cons, List.not_mem_nil, false_imp_iff, implies_true, and_true,
    rowLe_holds, rowGe_holds, evalTerms_cons, evalTerms_nil]
  rcases hb with hb | hb <;> rw [hb] at h ⊢ <;> grind

theorem le_listMax {l : List Rat} {x : Rat} (h : x ∈ l) : x ≤ listMax l :=
  (foldl_bound (r := (· ≤ ·)) (fun _ => Rat.le_refl) Rat.le_trans (fun _ _ => by grind) (fun _ _ => by grind) l _).2 x h

theorem listMin_le {l : List Rat} {x : Rat} (h : x ∈ l) : listMin l ≤ x :=
  (foldl_bound (r := (· ≥ ·)) (fun _ => Rat.le_refl) (fun h h' => Rat.le_trans h' h) (fun _ _ => Std.min_le_left)
    (fun _ _ => Std.min_le_right) l _).2 x h

theorem listMax_mem (l : List Rat) (h : l ≠ []) : listMax l ∈ l := by
  unfold listMax
  cases l with
  | nil => exact absurd rfl h
  | cons a l =>
    simp only [List.headD_cons]
    rcases foldl_max_mem (a :: l) a with h' | h'
    · rw [h']; simp
    · exact h'

end FP
