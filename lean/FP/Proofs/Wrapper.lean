import FP.Proofs.WrapperIntProd
import FP.Proofs.WrapperPiecewise
import FP.Proofs.WrapperState
/-!
# FP.Proofs.Wrapper — the LP fragments and the bound/objective bookkeeping of the solver wrapper

Integer × continuous product and piecewise-constant constraint (their fragments are read in
`WrapperIntProd` and `WrapperPiecewise`), and `flush` / `setObjective` (on top of `WrapperState`).
-/
namespace FP

theorem intProd_sound (a : Asg) (n c p : Var) (lb : Rat) (ubN : Nat) (name : String)
    (hc : lb ≤ a c ∧ a c ≤ (ubN : Rat)) (h : Sat a (intProd n c p lb ubN name)) :
    a p = a n * a c :=
  have _ := hc -- not needed: only completeness uses the box on `c`
  prodFrag_sound a n p name h

theorem intProd_complete (a : Asg) (n c p : Var) (lb : Rat) (ubN : Nat) (name : String) (k : Nat)
    (hk : a n = k) (hkub : k ≤ ubN) (hlb : lb ≤ 0)
    (hc : lb ≤ a c ∧ a c ≤ (ubN : Rat)) (hp : a p = a n * a c)
    (hfresh : ∀ i, bitVar name i ≠ n ∧ bitVar name i ≠ c ∧ bitVar name i ≠ p ∧
                   compVar name i ≠ n ∧ compVar name i ≠ c ∧ compVar name i ≠ p)
    (hbc : ∀ i j, bitVar name i ≠ compVar name j) :
    ∃ a' : Asg, (∀ v, (∀ i, v ≠ bitVar name i ∧ v ≠ compVar name i) → a' v = a v) ∧
      Sat a' (intProd n c p lb ubN name) := by
  have _ := hbc -- not needed: true of every `name` (`binary_ne_comp`)
  -- the one block as a family of blocks: its bit and component columns get the digits of `k` (times `c`)
  let a' := klaecProdAsg [()] (fun _ => name) (fun _ => k) (fun _ => a c) a
  have hoth : ∀ v, (∀ i, v ≠ bitVar name i ∧ v ≠ compVar name i) → a' v = a v :=
    fun v hv => klaecProdAsg_other _ _ _ _ _ v fun _ _ => hv
  have hn : a' n = a n := hoth n fun i => ⟨(hfresh i).1.symm, (hfresh i).2.2.2.1.symm⟩
  have hcc : a' c = a c := hoth c fun i => ⟨(hfresh i).2.1.symm, (hfresh i).2.2.2.2.1.symm⟩
  have hpp : a' p = a p := hoth p fun i => ⟨(hfresh i).2.2.1.symm, (hfresh i).2.2.2.2.2.symm⟩
  have h1 : ∀ p ∈ [()], ∀ q ∈ [()], (fun _ : Unit => name) p = (fun _ : Unit => name) q → p = q := fun _ _ _ _ _ => rfl
  exact ⟨a', hoth, prodFrag_sat_of_values _ name (hn.trans hk) (lt_two_pow_numBits k ubN hkub) hlb
    Rat.natCast_nonneg (hcc.symm ▸ hc) (by rw [hpp, hn, hcc]; exact hp)
    (klaecProdAsg_bit _ _ _ _ a h1 () (List.mem_singleton.2 rfl))
    (fun j => by rw [hcc]; exact klaecProdAsg_comp _ _ _ _ a h1 () (List.mem_singleton.2 rfl) j)⟩

theorem piecewise_sound (a : Asg) (x y : Var) (ranges : List (Rat × Rat)) (constants : List Rat)
    (name : String) (hlen : ranges.length = constants.length)
    (hLU : ∀ r ∈ ranges, r.1 ≤ r.2)
    (h : Sat a (piecewise x y ranges constants name)) :
    ∃ i, ∃ hi : i < ranges.length, (ranges[i]).1 ≤ a x ∧ a x ≤ (ranges[i]).2 ∧
      a y = constants[i]'(hlen ▸ hi) := by
  have _ := hLU -- not needed: only completeness uses that the ranges are ordered
  obtain ⟨hcols, hrows⟩ := h
  rw [piecewise_rows] at hrows
  have hz : ∀ i ∈ List.range ranges.length, a (zVar name i) = 0 ∨ a (zVar name i) = 1 := fun i hi =>
    (col01_holds_iff a _).1 (hcols _ (List.mem_map.2 ⟨i, hi, rfl⟩))
  have hsum := (rowEq_holds a _ 1).1 (hrows _ (List.mem_append_left _ (List.mem_singleton.2 rfl)))
  simp only [evalTerms_map, Rat.one_mul] at hsum
  obtain ⟨i, hi, hzi⟩ := exists_one_of_sum_ge_one hz (hsum ▸ Rat.le_refl)
  have hi' : i < ranges.length := List.mem_range.1 hi
  refine ⟨i, hi', ?_⟩
  -- with `z_i = 1` the big-M terms of block `i` cancel
  have hb := (pwBlock_holds a x y (bigM ranges) (bigMy constants) name (i, ranges[i], constants[i]'(hlen ▸ hi'))).1
    (fun r hr => hrows r (List.mem_append_right _
      (List.mem_flatMap.2 ⟨_, (mem_zip3 ranges constants hlen _).2 ⟨i, hi', rfl⟩, hr⟩)))
  simp only [hzi] at hb
  grind

theorem piecewise_complete (a : Asg) (x y : Var) (ranges : List (Rat × Rat))
    (constants : List Rat) (name : String) (hlen : ranges.length = constants.length)
    (hLU : ∀ r ∈ ranges, r.1 ≤ r.2) (j : Nat) (hj : j < ranges.length)
    (hx : (ranges[j]).1 ≤ a x ∧ a x ≤ (ranges[j]).2) (hy : a y = constants[j]'(hlen ▸ hj))
    (hfresh : ∀ i, zVar name i ≠ x ∧ zVar name i ≠ y) :
    ∃ a' : Asg, (∀ v, (∀ i, v ≠ zVar name i) → a' v = a v) ∧
      Sat a' (piecewise x y ranges constants name) := by
  refine ⟨pwAsg a name j, pwAsg_other a name j, ?_⟩
  have hxx : pwAsg a name j x = a x := pwAsg_other _ _ _ _ (fun i => (hfresh i).1.symm)
  have hyy : pwAsg a name j y = a y := pwAsg_other _ _ _ _ (fun i => (hfresh i).2.symm)
  have hmin : ∀ i (hi : i < ranges.length), listMin (ranges.map (·.1)) ≤ ranges[i].1 :=
    fun i hi => listMin_le (List.mem_map.2 ⟨ranges[i], List.getElem_mem hi, rfl⟩)
  have hmax : ∀ i (hi : i < ranges.length), ranges[i].2 ≤ listMax (ranges.map (·.2)) :=
    fun i hi => le_listMax (List.mem_map.2 ⟨ranges[i], List.getElem_mem hi, rfl⟩)
  constructor
  · intro col hcol
    obtain ⟨i, _, rfl⟩ := List.mem_map.1 hcol
    rw [col01_holds_iff, pwAsg_z]
    by_cases hij : i = j
    · exact Or.inr (if_pos hij)
    · exact Or.inl (if_neg hij)
  · intro r hr
    rw [piecewise_rows] at hr
    rcases List.mem_append.1 hr with h | h
    · rw [List.mem_singleton.1 h, rowEq_holds, evalTerms_map]
      simp only [pwAsg_z, Rat.one_mul, eq_comm (b := j)]
      rw [sum_ite_eq_range, if_pos hj]
    · obtain ⟨t, ht, hrt⟩ := List.mem_flatMap.1 h
      obtain ⟨i, hi, rfl⟩ := (mem_zip3 ranges constants hlen t).1 ht
      refine (pwBlock_holds (pwAsg a name j) x y (bigM ranges) (bigMy constants) name _).2 ?_ r hrt
      simp only [pwAsg_z, hxx, hyy]
      by_cases hij : i = j
      · -- the selected block: its rows say `L ≤ x ≤ U`, `y = c`
        subst hij
        simp only [if_true]
        clear hmin hmax hLU hfresh hxx hyy ht hrt hr h
        grind
      · -- any other block: its rows are slack by the big-M terms
        simp only [hij, if_false, Rat.mul_zero, Rat.add_zero]
        have hne := Rat.le_trans (hmin j hj) (Rat.le_trans (Rat.le_trans hx.1 hx.2) (hmax j hj))
        have hM1 : ranges[i].1 - a x ≤ bigM ranges :=
          sub_le_bigM ranges (Rat.le_trans (hLU _ (List.getElem_mem hi)) (hmax i hi))
            (Rat.le_trans (hmin j hj) hx.1) hne
        have hM2 : a x - ranges[i].2 ≤ bigM ranges :=
          sub_le_bigM ranges (Rat.le_trans hx.2 (hmax j hj))
            (Rat.le_trans (hmin i hi) (hLU _ (List.getElem_mem hi))) hne
        have hY1 : a y - constants[i]'(hlen ▸ hi) ≤ bigMy constants :=
          hy ▸ sub_le_bigMy constants (List.getElem_mem _) (List.getElem_mem _)
        have hY2 : constants[i]'(hlen ▸ hi) - a y ≤ bigMy constants :=
          hy ▸ sub_le_bigMy constants (List.getElem_mem _) (List.getElem_mem _)
        clear hmin hmax hLU hfresh hxx hyy ht hrt hr h hne hx hy
        generalize bigM ranges = M at hM1 hM2 ⊢
        generalize bigMy constants = My at hY1 hY2 ⊢
        grind

/-- the user part of `piecewise_far_constants_feasible`: `x = 1/2`, everything else `0` -/
def farAsg : Asg := fun v => if v = .ix "x" 0 then 1/2 else 0

theorem farAsg_x : farAsg (.ix "x" 0) = 1/2 := by simp [farAsg]
theorem farAsg_y : farAsg (.ix "y" 0) = 0 := by simp [farAsg]

theorem piecewise_far_constants_feasible :
    ∃ a : Asg, a (.ix "x" 0) = 1/2 ∧ a (.ix "y" 0) = 0 ∧
      Sat a (piecewise (.ix "x" 0) (.ix "y" 0) [(0,1),(2,3)] [0,100] "f") := by
  have hzx : ∀ i, Var.ix "x" 0 ≠ zVar "f" i := by intro i; simp [zVar]
  have hzy : ∀ i, Var.ix "y" 0 ≠ zVar "f" i := by intro i; simp [zVar]
  obtain ⟨a', hfr, hsat⟩ := piecewise_complete farAsg (.ix "x" 0) (.ix "y" 0)
    [(0,1),(2,3)] [0,100] "f" rfl
    (by intro r hr; simp at hr; rcases hr with rfl | rfl <;> decide)
    0 (by decide) (by rw [farAsg_x]; simp only [List.getElem_cons_zero]; grind) (by rw [farAsg_y]; rfl)
    (fun i => ⟨(hzx i).symm, (hzy i).symm⟩)
  exact ⟨a', by rw [hfr _ hzx, farAsg_x], by rw [hfr _ hzy, farAsg_y], hsat⟩

/-- `cols1` comes with its equation so that a caller can hand it over simplified (`s.cols` when no fix is queued) -/
theorem flush_exact (f : GetColsField) (s : WState) (hnd : (s.pendingLb.map (·.1)).Nodup) (i : Nat)
    (cols1 : List WCol) (h1 : cols1 = s.pendingFix.foldl (fun cs iv => setBounds cs iv.1 iv.2 iv.2) s.cols) :
    (∀ v, (i, v) ∈ s.pendingLb → (flush f s).cols[i]?
        = (cols1[i]?).map fun c => { c with lb := v, ub := fieldOf f (cols1.getD i default) }) ∧
    (i ∉ s.pendingLb.map (·.1) → (flush f s).cols[i]? = cols1[i]?) := by
  subst h1
  rw [flush_cols]
  exact ⟨fun v hv => foldl_setBounds_mem s.pendingLb (·.1) (·.2) _ hnd hv _, foldl_setBounds_notin _ _ _ _ i _⟩

theorem flush_fix_exact (f : GetColsField) (s : WState) (hnolb : s.pendingLb = [])
    (hnd : (s.pendingFix.map (·.1)).Nodup) (i : Nat) (hi : i < s.cols.length) :
    ((flush f s).cols.length = s.cols.length) ∧
    (∀ v, (i, v) ∈ s.pendingFix →
        (flush f s).cols[i]? = some { lb := v, ub := v, cost := (s.cols.getD i default).cost }) ∧
    (i ∉ s.pendingFix.map (·.1) → (flush f s).cols[i]? = s.cols[i]?) := by
  rw [flush_cols, hnolb, List.foldl_nil]
  refine ⟨foldl_setBounds_length _ _ _ _ _, fun v hv => ?_, foldl_setBounds_notin _ _ _ _ i _⟩
  rw [foldl_setBounds_mem s.pendingFix (·.1) (·.2) (·.2) hnd hv]
  simp [hi]

theorem flush_lb_exact (s : WState) (hnofix : s.pendingFix = [])
    (hnd : (s.pendingLb.map (·.1)).Nodup) (i : Nat) (hi : i < s.cols.length) :
    (∀ v, (i, v) ∈ s.pendingLb →
        (flush .upper s).cols[i]? = some { (s.cols.getD i default) with lb := v }) ∧
    (i ∉ s.pendingLb.map (·.1) → (flush .upper s).cols[i]? = s.cols[i]?) := by
  obtain ⟨h1, h2⟩ := flush_exact .upper s hnd i s.cols (by rw [hnofix, List.foldl_nil])
  exact ⟨fun v hv => by rw [h1 v hv]; simp [hi, fieldOf], h2⟩

theorem flush_clears (f : GetColsField) (s : WState) :
    (flush f s).pendingFix = [] ∧ (flush f s).pendingLb = [] := ⟨rfl, rfl⟩

/-- using the wrong tuple component of `getCols` is observable: raising the lower bound of a
`[0, 5]` column to `2` yields `[2, 0]` (infeasible) -/
theorem flush_lb_wrong_field_witness :
    (flush .lower { cols := [{ lb := 0, ub := 5, cost := 0 }], pendingLb := [(0, 2)] }).cols
      = [{ lb := 2, ub := 0, cost := 0 }] := by decide

theorem setObjective_cost (cols : List WCol) (t : List (Nat × Rat)) (i : Nat) (hi : i < cols.length) :
    ((setObjective cols t)[i]?).map (·.cost) = some ((t.filter (·.1 = i)).map (·.2)).sum := by
  rw [setObjective_getElem?]
  simp [hi]

end FP