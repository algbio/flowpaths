import FP.Proofs.KLAECComplete
import FP.Proofs.SatCheck
/-!
Where the walk error models falsify C10 (the model mirrors the code): two concrete witnesses on `klaecLP` (`kLeastAbsErrorsCycles`), both replayed on the real code by
the check (`known_findings.json`: `C10-cyclic-cap-uses-ignored-flow`, `C10-walk-product-bits-from-wmax`):

* `klaec_ignored_flow_matters`: two inputs that differ only in the flow value of an *ignored* edge
  have different LPs (the repetition cap of that edge, the floor of `compute_edge_max_reachable_value`,
  reads it: `floor(3/2) = 1` against `floor(7/2) = 3`) —
  the analogue of `ignored_flow_irrelevant` fails for the cyclic encoder.
* `klaec_infeasible_after_ignoring`: after ignoring the only edge of positive flow, `w_max = 0`, the
  integer × continuous product helper gets 0 bits and forces the multiplicity of every non-ignored
  edge to 0: the LP has no satisfying assignment at all, although ignoring should only relax.
-/
namespace FP.C10Witness
open FP FP.Spec

deriving instance DecidableEq for Row

def wbase : Graph :=
  { nodes := ["f", "h", "hc", "g"], edges := [("f", "h"), ("h", "hc"), ("h", "g"), ("hc", "h")] }

/-- `f → h ⇄ hc`, `h → g`; the edge `(h, hc)` is ignored and carries the flow value `q` -/
def winp (q : Rat) : WalkInput :=
  { base := wbase, flow := [(("f", "h"), 1/2), (("h", "hc"), q), (("hc", "h"), 3/2), (("h", "g"), 1/2)],
    ignore := [("h", "hc")], cfg := { k := 1 } }

theorem agree_off_ignored : ∀ e ∈ (winp (3/2)).activeEdges true,
    (winp (7/2)).flow.lookup e = (winp (3/2)).flow.lookup e := by decide +kernel

theorem klaec_ignored_flow_matters : klaecLP (winp (3/2)) ≠ klaecLP (winp (7/2)) :=
  NX.ne_of_capOf (e := ("h", "hc")) (x := 1) (y := 3) (by decide +kernel) (by decide +kernel) (by decide)

def zbase : Graph := { nodes := ["s", "d", "u0"], edges := [("s", "s"), ("s", "u0"), ("d", "s")] }

/-- `d → s → u0` with a self-loop at `s`; flows 1, 0, 0 -/
def zinp (ign : List Edge) : WalkInput :=
  { base := zbase, flow := [(("d", "s"), 1), (("s", "s"), 0), (("s", "u0"), 0)], ignore := ign,
    weightInt := true, cfg := { k := 1 } }

theorem zinp_wmax : (zinp [("s", "s"), ("d", "s")]).wmax true = 0 := by decide +kernel

/-- four rows of the LP: 17a (the walk leaves the source), 17b at `d` and at `s`, and the `int_eq` row of the
product block of the only non-ignored edge, which has zero bits -/
theorem zrows :
    rowEq [(1, edgeVar ("source", "d") 0)] 1 ∈ (klaecLP (zinp [("d", "s"), ("s", "s")])).rows ∧
    rowEq ([(1, edgeVar ("source", "d") 0)] ++ negTerms [(1, edgeVar ("d", "s") 0)]) 0
      ∈ (klaecLP (zinp [("d", "s"), ("s", "s")])).rows ∧
    rowEq ([(1, edgeVar ("s", "s") 0), (1, edgeVar ("d", "s") 0)]
        ++ negTerms [(1, edgeVar ("s", "s") 0), (1, edgeVar ("s", "u0") 0)]) 0
      ∈ (klaecLP (zinp [("d", "s"), ("s", "s")])).rows ∧
    rowEq [(-1, edgeVar ("s", "u0") 0)] 0 ∈ (klaecLP (zinp [("d", "s"), ("s", "s")])).rows := by
  decide +kernel

theorem klaec_infeasible_after_ignoring (a : Asg) :
    ¬ Sat a (klaecLP (zinp [("d", "s"), ("s", "s")])) := by
  intro hsat
  obtain ⟨m1, m2, m3, m4⟩ := zrows
  have r1 := (rowEq_holds a _ _).1 (hsat.2 _ m1)
  have r2 := (rowEq_holds a _ _).1 (hsat.2 _ m2)
  have r3 := (rowEq_holds a _ _).1 (hsat.2 _ m3)
  have r4 := (rowEq_holds a _ _).1 (hsat.2 _ m4)
  simp only [evalTerms_append, evalTerms_negTerms, evalTerms_cons, evalTerms_nil] at r1 r2 r3 r4
  grind

/-- the walk `d, s, u0` with weight 0 (error 1 on `(d, s)`) is within the caps of `zinp [("s", "s")]` -/
theorem zwithin : LaecWithinCaps (zinp [("s", "s")]) (fun _ => ["d", "s", "u0"]) (fun _ => 0) where
  isWalk := by intro i _; unfold IsWalkIn; decide +kernel
  withinCap := by intro i _; decide +kernel
  weights := fun _ _ => ⟨by decide +kernel, by decide +kernel, fun _ => ⟨0, by decide +kernel⟩⟩
  multBits := by intro i _; decide +kernel
  prodLe := by intro i _; decide +kernel
  errLe := by decide +kernel
  covered := fun j hj => absurd hj (Nat.not_lt_zero j)

/-- before `(d, s)` is ignored the LP is feasible: the assignment of that walk -/
theorem klaec_feasible_before_ignoring : ∃ a, Sat a (klaecLP (zinp [("s", "s")])) :=
  ⟨_, klaecWalkAsg_sat _ _ _ (by decide +kernel) (klaecNameInj_of_edges _ (by decide +kernel))
    (fun _ e he => ⟨_, (by decide +kernel : ∀ e ∈ (zinp [("s", "s")]).activeEdges true,
      (zinp [("s", "s")]).f e = (((zinp [("s", "s")]).f e).floor : Rat)) e he⟩) zwithin⟩

end FP.C10Witness
