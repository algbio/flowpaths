import FP.Spec.ErrorFlow
import FP.Proofs.ReachLemmas
import FP.Proofs.WalkLemmas
/-!
`cap_flow`: every non-negative flow `x` on a graph with duplicate-free edge list can be lowered, on the
edges where it exceeds `M ≥ 0` only and never below `M` there, to a flow with all values `≤ M · |E|`.

Proof: induction on the number of *heavy* edges (`x e > M`). If some edge `e0 = (u, v)` exceeds
`M · |E|`, the heavy edges contain a closed walk through `e0`, or a simple path between two nodes at
which conservation is not demanded — otherwise the set of nodes reachable from `v` (or reaching `u`)
along heavy edges is a cut crossed by `e0` in one direction and only by light edges in the other,
which bounds `x e0` by `M · |E|`. Lowering the flow along that walk by the least excess makes one heavy
edge light and keeps everything else.
-/
namespace FP
open FP.Spec

/-- `w` is a node at which conservation is demanded -/
def Constrained (g : Graph) (w : Node) : Prop :=
  w ∈ g.nodes ∧ g.inEdges w ≠ [] ∧ g.outEdges w ≠ []

/-- for a duplicate-free set `S` of constrained nodes the flow entering `S` equals the flow leaving it -/
theorem cut_balance (g : Graph) (x : Edge → Rat) (hx : IsFlow g x) (S : List Node) (hS : S.Nodup)
    (hcon : ∀ w ∈ S, Constrained g w) :
    ((g.edges.filter (fun e => !decide (e.1 ∈ S) && decide (e.2 ∈ S))).map x).sum
      = ((g.edges.filter (fun e => !decide (e.2 ∈ S) && decide (e.1 ∈ S))).map x).sum := by
  have hz : (S.map fun v => outflow g x v - inflow g x v).sum = 0 :=
    sum_map_zero fun w hw => by
      have ⟨h1, h2, h3⟩ := hcon w hw
      rw [show inflow g x w = outflow g x w from hx.cons w h1 h2 h3]
      exact Rat.sub_self
  rw [cut_net g x S hS] at hz
  exact (Rat.zero_add _).symm.trans ((congrArg (· + _) hz.symm).trans Rat.sub_add_cancel)

theorem crossing_bound (L : List Edge) (x : Edge → Rat) (hnn : ∀ e ∈ L, 0 ≤ x e) (M : Rat)
    (hM : 0 ≤ M) (p q : Edge → Bool) (hb : ((L.filter p).map x).sum = ((L.filter q).map x).sum)
    (hlight : ∀ e ∈ L, q e = true → x e ≤ M) (e0 : Edge) (he0 : e0 ∈ L) (hp : p e0 = true) :
    x e0 ≤ M * (L.length : Rat) := by
  have hle : x e0 ≤ ((L.filter p).map x).sum :=
    le_sum_of_mem x (fun e he => hnn e (List.mem_filter.1 he).1) (List.mem_filter.2 ⟨he0, hp⟩)
  have hub := sum_le_mul_length (L.filter q) x M fun e he =>
    hlight e (List.mem_filter.1 he).1 (List.mem_filter.1 he).2
  have hlen : ((L.filter q).length : Rat) ≤ (L.length : Rat) := by
    exact_mod_cast List.length_filter_le _ _
  have := Rat.mul_le_mul_of_nonneg_left hlen hM
  grind

theorem exists_reach_from (H : List Edge) (a : Node) :
    ∃ S : List Node, S.Nodup ∧ ∀ w, w ∈ S ↔ Reach H a w := by
  obtain ⟨S, hnd, hS⟩ := exists_nodup_filter (a :: H.map (·.2)) (fun w => Reach H a w)
  refine ⟨S, hnd, fun w => (hS w).trans ⟨fun h => h.2, fun h => ⟨?_, h⟩⟩⟩
  rcases reach_tail_cases h with rfl | ⟨_, _, he⟩
  · exact List.mem_cons_self
  · exact List.mem_cons_of_mem _ (List.mem_map.2 ⟨_, he, rfl⟩)

theorem exists_reach_to (H : List Edge) (a : Node) :
    ∃ S : List Node, S.Nodup ∧ ∀ w, w ∈ S ↔ Reach H w a :=
  have ⟨S, hnd, hS⟩ := exists_reach_from (swapEdges H) a
  ⟨S, hnd, fun w => (hS w).trans reach_swap⟩

/-- lowering along a walk changes inflow and outflow of `v` by the number of times the walk enters and
leaves `v` -/
theorem lowerAlong_sums (g : Graph) (hnd : g.edges.Nodup) (x : Edge → Rat) (δ : Rat) (l : List Node)
    (hP : ∀ e ∈ walkEdges l, e ∈ g.edges) (v : Node) :
    inSum g (lowerAlong x δ (walkEdges l)) v = inSum g x v - δ * occR l.tail v ∧
    outSum g (lowerAlong x δ (walkEdges l)) v = outSum g x v - δ * occR l.dropLast v := by
  unfold inSum outSum lowerAlong
  rw [sum_map_sub, sum_map_mul_left, sum_map_sub, sum_map_mul_left]
  exact ⟨by rw [← heads_walkEdges, ← inflow_cntR g hnd _ hP]; rfl,
         by rw [← tails_walkEdges, ← outflow_cntR g hnd _ hP]; rfl⟩

theorem capped_le {M a b : Rat} (h : b = a ∨ (M ≤ b ∧ b ≤ a)) : b ≤ a :=
  h.elim (fun h => h ▸ Rat.le_refl) (·.2)

theorem capped_trans {M a b c : Rat} (h1 : c = b ∨ (M ≤ c ∧ c ≤ b)) (h2 : b = a ∨ (M ≤ b ∧ b ≤ a)) :
    c = a ∨ (M ≤ c ∧ c ≤ a) := by
  rcases h1 with rfl | ⟨l1, u1⟩
  · exact h2
  · exact Or.inr ⟨l1, Rat.le_trans u1 (capped_le h2)⟩

theorem reduce_along (g : Graph) (hnd : g.edges.Nodup) (x : Edge → Rat) (hx : IsFlow g x) (M : Rat)
    (hM : 0 ≤ M) (l : List Node) (hlen : walkEdges l ≠ []) (hPnd : (walkEdges l).Nodup)
    (hP : ∀ e ∈ walkEdges l, e ∈ g.edges ∧ M < x e)
    (hbal : ∀ w, Constrained g w → occR l.tail w = occR l.dropLast w) :
    ∃ x'' : Edge → Rat, IsFlow g x'' ∧
      (∀ e, x'' e = x e ∨ (M ≤ x'' e ∧ x'' e ≤ x e)) ∧
      (∃ e ∈ g.edges, M < x e ∧ x'' e = M) ∧
      ((∃ z : Int, M = z) → (∀ e ∈ g.edges, ∃ z : Int, x e = z) →
        ∀ e ∈ g.edges, ∃ z : Int, x'' e = z) := by
  -- lower by the least excess over `M` on the walk
  obtain ⟨em, hem, hmin⟩ := exists_min (walkEdges l) x hlen
  have hemM : M < x em := (hP em hem).2
  have hkey : ∀ e, lowerAlong x (x em - M) (walkEdges l) e = x e ∨
      (M ≤ lowerAlong x (x em - M) (walkEdges l) e ∧ lowerAlong x (x em - M) (walkEdges l) e ≤ x e) := by
    intro e
    by_cases he : e ∈ walkEdges l
    · have := hmin e he
      rw [lowerAlong_mem x _ hPnd e he]
      exact Or.inr (by grind)
    · exact Or.inl (lowerAlong_not_mem x _ _ e he)
  refine ⟨lowerAlong x (x em - M) (walkEdges l), ⟨fun e he => ?_, ?_⟩, hkey,
    ⟨em, (hP em hem).1, hemM, ?_⟩, ?_⟩
  · rcases hkey e with h | h
    · exact h ▸ hx.nonneg e he
    · exact Rat.le_trans hM h.1
  · intro v hv hin hout
    obtain ⟨hi, ho⟩ := lowerAlong_sums g hnd x (x em - M) l (fun e he => (hP e he).1) v
    rw [hi, ho, hbal v ⟨hv, hin, hout⟩, hx.cons v hv hin hout]
  · rw [lowerAlong_mem x _ hPnd em hem]; grind
  · intro hMz hint e he
    by_cases hin : e ∈ walkEdges l
    · rw [lowerAlong_mem x _ hPnd e hin]
      exact sub_isInt (hint e he) (sub_isInt (hint em (hP em hem).1) hMz)
    · rw [lowerAlong_not_mem x _ _ e hin]
      exact hint e he

/-- a closed walk through `e0`, or a simple path between two nodes at which conservation is not demanded, along heavy
edges: given as one vertex list that enters every constrained node as often as it leaves it -/
theorem exists_heavy_structure (g : Graph) (x : Edge → Rat) (hx : IsFlow g x) (M : Rat) (hM : 0 ≤ M)
    (e0 : Edge) (he0 : e0 ∈ g.edges) (hbig : M * (g.edges.length : Rat) < x e0) :
    ∃ l : List Node, walkEdges l ≠ [] ∧ (walkEdges l).Nodup ∧
      (∀ e ∈ walkEdges l, e ∈ g.edges ∧ M < x e) ∧
      (∀ w, Constrained g w → occR l.tail w = occR l.dropLast w) := by
  have hlen : (1 : Rat) ≤ (g.edges.length : Rat) := by
    exact_mod_cast (List.length_pos_of_mem he0 : 1 ≤ g.edges.length)
  have hheavy0 : M < x e0 := by
    have := Rat.mul_le_mul_of_nonneg_left hlen hM
    rw [Rat.mul_one] at this
    exact Std.lt_of_le_of_lt this hbig
  have hH : ∀ e, e ∈ g.edges.filter (fun e => decide (M < x e)) ↔ (e ∈ g.edges ∧ M < x e) :=
    fun e => by rw [List.mem_filter, decide_eq_true_iff]
  generalize hHdef : g.edges.filter (fun e => decide (M < x e)) = H at hH
  have he0H : e0 ∈ H := (hH e0).2 ⟨he0, hheavy0⟩
  by_cases h1 : Reach H e0.2 e0.1
  · -- a simple heavy path from the head of `e0` back to its tail closes a cycle
    obtain ⟨p, hh, hl, hnd, hw⟩ := simple_path_of_reach H _ _ h1
    cases p with
    | nil => simp at hh
    | cons c p' =>
      have hc : c = e0.2 := by simpa using hh
      subst hc
      refine ⟨e0.1 :: e0.2 :: p', ?_, ?_, ?_, ?_⟩
      · rw [we_cons_cons]; simp
      · rw [we_cons_cons]
        refine List.nodup_cons.2 ⟨?_, walkEdges_nodup hnd⟩
        intro hmem
        have := we_snd_mem_tail hmem
        exact (List.nodup_cons.1 hnd).1 (by simpa using this)
      · intro e he
        rw [we_cons_cons] at he
        rcases List.mem_cons.1 he with rfl | h
        · exact ⟨he0, hheavy0⟩
        · exact (hH e).1 (hw e h)
      · intro w _
        have := occR_tail_dropLast (e0.1 :: e0.2 :: p') e0.1 e0.1 w rfl
          (by rw [List.getLast?_cons_cons]; exact hl)
        exact Rat.add_right_cancel _ this
  · by_cases h2 : ∃ t, Reach H e0.2 t ∧ ¬ Constrained g t
    · by_cases h3 : ∃ s, Reach H s e0.1 ∧ ¬ Constrained g s
      · -- a simple heavy path between two free nodes
        obtain ⟨t, ht, hut⟩ := h2
        obtain ⟨s, hs, hus⟩ := h3
        have hst : Reach H s t := Reach.trans hs (Reach.head he0H ht)
        have hne : s ≠ t := by
          intro h; subst h
          exact h1 (Reach.trans ht hs)
        obtain ⟨l, hh, hl, hnd, hw⟩ := simple_path_of_reach H s t hst
        refine ⟨l, ?_, walkEdges_nodup hnd, fun e he => (hH e).1 (hw e he), ?_⟩
        · cases l with
          | nil => simp at hh
          | cons a l' =>
            cases l' with
            | nil =>
              have ha : a = s := by simpa using hh
              have hb : a = t := by simpa using hl
              exact absurd (ha.symm.trans hb) hne
            | cons b l'' => rw [we_cons_cons]; simp
        · intro w hw'
          have := occR_tail_dropLast l s t w hh hl
          have hws : s ≠ w := fun h => hus (h ▸ hw')
          have hwt : t ≠ w := fun h => hut (h ▸ hw')
          rwa [if_neg hws, if_neg hwt, Rat.add_zero, Rat.add_zero] at this
      · -- every node reaching the tail of `e0` along heavy edges is constrained: cut argument
        exfalso
        have hall : ∀ s, Reach H s e0.1 → Constrained g s := fun s hs =>
          Classical.byContradiction (fun hn => h3 ⟨s, hs, hn⟩)
        obtain ⟨B, hBnd, hB⟩ := exists_reach_to H e0.1
        have := crossing_bound g.edges x hx.nonneg M hM _ _
          (cut_balance g x hx B hBnd fun w hw => hall w ((hB w).1 hw)).symm
          (fun e he hq => Rat.not_lt.1 fun hlt => by
            simp only [Bool.and_eq_true, Bool.not_eq_true', decide_eq_false_iff_not, decide_eq_true_eq, hB] at hq
            exact hq.1 (Reach.head ((hH e).2 ⟨he, hlt⟩) hq.2))
          e0 he0 (by simp [hB, h1, Reach.refl])
        exact absurd hbig (Rat.not_lt.2 this)
    · -- every node reachable from the head of `e0` along heavy edges is constrained: cut argument
      exfalso
      have hall : ∀ t, Reach H e0.2 t → Constrained g t := fun t ht =>
        Classical.byContradiction (fun hn => h2 ⟨t, ht, hn⟩)
      obtain ⟨F, hFnd, hF⟩ := exists_reach_from H e0.2
      have := crossing_bound g.edges x hx.nonneg M hM _ _
        (cut_balance g x hx F hFnd fun w hw => hall w ((hF w).1 hw))
        (fun e he hq => Rat.not_lt.1 fun hlt => by
          simp only [Bool.and_eq_true, Bool.not_eq_true', decide_eq_false_iff_not, decide_eq_true_eq, hF] at hq
          exact hq.1 (Reach.step hq.2 ((hH e).2 ⟨he, hlt⟩)))
        e0 he0 (by simp [hF, h1, Reach.refl])
      exact absurd hbig (Rat.not_lt.2 this)

theorem cap_flow (g : Graph) (hnd : g.edges.Nodup) (M : Rat) (hM : 0 ≤ M) :
    ∀ n, ∀ x : Edge → Rat, IsFlow g x → (g.edges.filter (fun e => decide (M < x e))).length = n →
      ∃ x' : Edge → Rat, IsFlow g x' ∧
        (∀ e, x' e = x e ∨ (M ≤ x' e ∧ x' e ≤ x e)) ∧
        (∀ e ∈ g.edges, x' e ≤ M * (g.edges.length : Rat)) ∧
        ((∃ z : Int, M = z) → (∀ e ∈ g.edges, ∃ z : Int, x e = z) →
          ∀ e ∈ g.edges, ∃ z : Int, x' e = z) := by
  intro n
  induction n using Nat.strongRecOn with
  | _ n ih =>
    intro x hx hn
    by_cases hall : ∀ e ∈ g.edges, x e ≤ M * (g.edges.length : Rat)
    · exact ⟨x, hx, fun e => Or.inl rfl, hall, fun _ h => h⟩
    · obtain ⟨e0, he0, hbig⟩ : ∃ e0 ∈ g.edges, M * (g.edges.length : Rat) < x e0 :=
        Classical.byContradiction fun hn =>
          hall fun e he => Rat.not_lt.1 fun hlt => hn ⟨e, he, hlt⟩
      obtain ⟨l, hne, hPnd, hP, hbal⟩ := exists_heavy_structure g x hx M hM e0 he0 hbig
      obtain ⟨x2, hx2, hinv2, ⟨em, hem, hemh, hemM⟩, hint2⟩ :=
        reduce_along g hnd x hx M hM l hne hPnd hP hbal
      -- `em` is light under `x2`, and no light edge has become heavy
      have hlt : (g.edges.filter (fun e => decide (M < x2 e))).length < n :=
        hn ▸ length_filter_lt_length_filter g.edges _ _
          (fun e _ h => decide_eq_true (Std.lt_of_lt_of_le (of_decide_eq_true h) (capped_le (hinv2 e))))
          em hem (decide_eq_true hemh) (decide_eq_false (hemM ▸ Rat.lt_irrefl))
      obtain ⟨x', hx', hinv, hbound, hint'⟩ := ih _ hlt x2 hx2 rfl
      exact ⟨x', hx', fun e => capped_trans (hinv e) (hinv2 e), hbound,
        fun hMz hxz => hint' hMz (hint2 hMz hxz)⟩

end FP
