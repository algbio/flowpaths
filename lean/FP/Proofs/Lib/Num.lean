/-
Casts of `Nat` into `Rat`, integer-valued rationals (`floor`, `den = 1`, closure under `-`, `*`, `abs`, `min`), `Rat.abs`, order and products
(`mul01_bounds`, factors of either sign, cancellation), `x ≤ max a b` and `x ≤ if ..` as disjunctions, choice functions, least witnesses in `Nat`,
and decimal digits.
Nothing here mentions the model.
-/
namespace FP

theorem natCast_isInt (n : Nat) : ∃ z : Int, (n : Rat) = z := ⟨n, (Rat.intCast_natCast n).symm⟩

theorem one_le_natCast {n : Nat} (h : 1 ≤ n) : (1 : Rat) ≤ (n : Rat) := (Rat.natCast_le_natCast (a := 1)).2 h

theorem natCast_le_one {n : Nat} : (n : Rat) ≤ 1 ↔ n ≤ 1 := Rat.natCast_le_natCast (b := 1)

theorem natCast_eq_one {n : Nat} : (n : Rat) = 1 ↔ n = 1 := Rat.natCast_inj (b := 1)

theorem isInt_of_den_one (q : Rat) (h : q.den = 1) : ∃ z : Int, q = z := ⟨q.num, Rat.ext rfl h⟩

theorem rat_of_den_one (q : Rat) (hd : q.den = 1) (hn : 0 ≤ q.num) : ((q.num.toNat : Nat) : Rat) = q := by
  apply Rat.ext
  · rw [Rat.num_natCast]; omega
  · rw [Rat.den_natCast, hd]

theorem floor_natCast (n : Nat) : (n : Rat).floor = n := by
  rw [← Rat.intCast_natCast, Rat.floor_intCast]

theorem floor_toNat_natCast (n : Nat) : ((n : Rat)).floor.toNat = n := by
  rw [floor_natCast, Int.toNat_natCast]

theorem natCast_le_floor {n : Nat} {q : Rat} (h : (n : Rat) ≤ q) : (n : Rat) ≤ ((q.floor : Int) : Rat) := by
  rw [← Rat.intCast_natCast] at h ⊢
  exact Rat.intCast_le_intCast.2 (Rat.le_floor_iff.2 h)

theorem nat_of_int_nonneg (q : Rat) (h0 : 0 ≤ q) (hz : ∃ z : Int, q = z) :
    q = ((q.floor.toNat : Nat) : Rat) := by
  obtain ⟨z, rfl⟩ := hz
  rw [Rat.floor_intCast, ← Rat.intCast_natCast, Int.toNat_of_nonneg (Rat.intCast_nonneg.1 h0)]

theorem nat_of_int_le (q : Rat) (m : Nat) (h0 : 0 ≤ q) (h1 : q ≤ (m : Rat)) (hz : ∃ z : Int, q = z) :
    ∃ c : Nat, c ≤ m ∧ q = (c : Rat) :=
  have hc := nat_of_int_nonneg q h0 hz
  ⟨_, Rat.natCast_le_natCast.1 (hc ▸ h1), hc⟩

theorem int01 (q : Rat) (h0 : 0 ≤ q) (h1 : q ≤ 1) (hz : ∃ z : Int, q = z) : q = 0 ∨ q = 1 := by
  obtain ⟨c, hc, rfl⟩ := nat_of_int_le q 1 h0 h1 hz
  have : c = 0 ∨ c = 1 := by omega
  rcases this with rfl | rfl
  · exact .inl rfl
  · exact .inr rfl

theorem sub_isInt {a b : Rat} (ha : ∃ z : Int, a = z) (hb : ∃ z : Int, b = z) : ∃ z : Int, a - b = z := by
  obtain ⟨x, rfl⟩ := ha; obtain ⟨y, rfl⟩ := hb; exact ⟨x - y, (Rat.intCast_sub x y).symm⟩

theorem mul_isInt {a b : Rat} (ha : ∃ z : Int, a = z) (hb : ∃ z : Int, b = z) : ∃ z : Int, a * b = z := by
  obtain ⟨x, rfl⟩ := ha; obtain ⟨y, rfl⟩ := hb; exact ⟨x * y, (Rat.intCast_mul x y).symm⟩

theorem abs_isInt {a : Rat} (ha : ∃ z : Int, a = z) : ∃ z : Int, a.abs = z := by
  unfold Rat.abs; split
  · exact ha
  · obtain ⟨x, rfl⟩ := ha
    exact ⟨-x, (Rat.intCast_neg x).symm⟩

theorem min_isInt {a b : Rat} (ha : ∃ z : Int, a = z) (hb : ∃ z : Int, b = z) : ∃ z : Int, min a b = z := by
  rw [Rat.min_def]; split
  · exact ha
  · exact hb

theorem abs_le_iff (q g : Rat) : q.abs ≤ g ↔ q ≤ g ∧ -q ≤ g := by unfold Rat.abs; split <;> grind

theorem le_abs (q : Rat) : q ≤ q.abs := ((abs_le_iff q q.abs).1 Rat.le_refl).1

theorem neg_le_abs (q : Rat) : -q ≤ q.abs := ((abs_le_iff q q.abs).1 Rat.le_refl).2

theorem abs_le (q g : Rat) (h1 : q ≤ g) (h2 : -q ≤ g) : q.abs ≤ g := (abs_le_iff q g).2 ⟨h1, h2⟩

/-- `|q|·c` is `q·c` or `−q·c`: no sign condition on `c` in this direction -/
theorem abs_mul_le (q c g : Rat) (h1 : q * c ≤ g) (h2 : -q * c ≤ g) : q.abs * c ≤ g := by
  unfold Rat.abs; split
  · exact h1
  · exact h2

theorem le_of_abs_mul_le (q c g : Rat) (hc : 0 ≤ c) (h : q.abs * c ≤ g) : q * c ≤ g ∧ -q * c ≤ g :=
  ⟨Rat.le_trans (Rat.mul_le_mul_of_nonneg_right (le_abs q) hc) h,
   Rat.le_trans (Rat.mul_le_mul_of_nonneg_right (neg_le_abs q) hc) h⟩

theorem abs_sub_le_of_bounds (f S W : Rat) (hf0 : 0 ≤ f) (hfW : f ≤ W) (hS0 : 0 ≤ S) (hSW : S ≤ W) :
    (f - S).abs ≤ W := by
  apply abs_le <;> grind

theorem mul_le_self_of_le_one {x c : Rat} (hx : 0 ≤ x) (hc : c ≤ 1) : x * c ≤ x := by
  have := Rat.mul_le_mul_of_nonneg_left hc hx
  rwa [Rat.mul_one] at this

theorem le_add_of_nonneg (a : Rat) {s : Rat} (h : 0 ≤ s) : a ≤ a + s := by
  have := (Rat.add_le_add_left (c := a)).2 h
  rwa [Rat.add_zero] at this

theorem add_sub_add_left (a b c : Rat) : a + b - (a + c) = b - c := by
  rw [Rat.sub_eq_add_neg, Rat.neg_add, Rat.add_assoc, ← Rat.add_assoc b, Rat.add_comm b, Rat.add_assoc,
    ← Rat.add_assoc a, Rat.add_neg_cancel, Rat.zero_add, ← Rat.sub_eq_add_neg]

theorem mul01_bounds {t c lb ub : Rat} (ht : t = 0 ∨ t = 1) (hlb : lb ≤ 0) (hub : 0 ≤ ub) (h1 : lb ≤ c)
    (h2 : c ≤ ub) : lb ≤ t * c ∧ t * c ≤ ub := by
  rcases ht with rfl | rfl
  · rw [Rat.zero_mul]; exact ⟨hlb, hub⟩
  · rw [Rat.one_mul]; exact ⟨h1, h2⟩

theorem mul_le_mul_of_nonpos_left {a b c : Rat} (h : a ≤ b) (hc : c ≤ 0) : c * b ≤ c * a := by
  have := Rat.mul_le_mul_of_nonneg_left h (show 0 ≤ -c by grind)
  grind

theorem le_of_mul_le_mul_neg {a b c : Rat} (hc : c < 0) (h : c * a ≤ c * b) : b ≤ a := by
  apply Rat.le_of_mul_le_mul_left (c := -c) ?_ (by grind)
  grind

theorem le_ite_iff {c : Prop} [Decidable c] (a b x : Rat) (h1 : c → a ≤ b) (h2 : ¬ c → b ≤ a) :
    x ≤ (if c then b else a) ↔ x ≤ a ∨ x ≤ b := by
  split
  · exact ⟨Or.inr, fun h => h.elim (fun h' => Rat.le_trans h' (h1 ‹_›)) id⟩
  · exact ⟨Or.inl, fun h => h.elim id fun h' => Rat.le_trans h' (h2 ‹_›)⟩

theorem le_ite_max (a b x : Rat) : x ≤ (if b > a then b else a) ↔ x ≤ a ∨ x ≤ b :=
  le_ite_iff a b x Rat.le_of_lt Rat.not_lt.1

theorem le_max_iff (a b x : Rat) : x ≤ max a b ↔ x ≤ a ∨ x ≤ b := by
  rw [Rat.max_def]; exact le_ite_iff a b x id fun h => Rat.le_of_lt (Rat.not_le.1 h)

theorem ne_and_or_eq_iff {α} [DecidableEq α] {d c : α} {R : Prop} (hr : d = c → R) : (d ≠ c ∧ R) ∨ d = c ↔ R :=
  ⟨fun h => h.elim And.right hr, fun h => (Decidable.em (d = c)).elim Or.inr fun hd => Or.inl ⟨hd, h⟩⟩

/-- a choice function for witnesses that exist on part of the domain only -/
theorem exists_choice {α β} [Nonempty β] {Q : α → Prop} {P : α → β → Prop} (h : ∀ x, Q x → ∃ y, P x y) :
    ∃ g : α → β, ∀ x, Q x → P x (g x) := by
  classical
  refine ⟨fun x => if hx : Q x then (h x hx).choose else Classical.ofNonempty, fun x hx => ?_⟩
  show P x (dite _ _ _)
  rw [dif_pos hx]
  exact (h x hx).choose_spec

theorem exists_least (Q : Nat → Prop) (k : Nat) (hk : Q k) : ∃ m, m ≤ k ∧ Q m ∧ ∀ j, j < m → ¬ Q j := by
  induction k using Nat.strongRecOn with
  | _ k ih =>
    by_cases hall : ∀ j, j < k → ¬ Q j
    · exact ⟨k, Nat.le_refl _, hk, hall⟩
    · obtain ⟨j, hj⟩ := Classical.not_forall.1 hall
      obtain ⟨hjk, hq⟩ := Classical.not_imp.1 hj
      obtain ⟨m, hm, h⟩ := ih j hjk (Classical.not_not.1 hq)
      exact ⟨m, by omega, h⟩

theorem toDigits_inj {i j : Nat} (h : Nat.toDigits 10 i = Nat.toDigits 10 j) : i = j := by
  rw [← @Nat.ofDigitChars_ten_toDigits i, h, Nat.ofDigitChars_ten_toDigits]

theorem exists_nat_weights {α} (D : List (α × Rat)) (h : ∀ d ∈ D, 0 < d.2 ∧ ∃ z : Int, d.2 = z) :
    ∃ D' : List (α × Nat), D = D'.map (fun d => (d.1, (d.2 : Rat))) ∧ ∀ d ∈ D', 1 ≤ d.2 := by
  have hc : ∀ d ∈ D, d.2 = ((d.2.floor.toNat : Nat) : Rat) := fun d hd =>
    nat_of_int_nonneg d.2 (Rat.le_of_lt (h d hd).1) (h d hd).2
  refine ⟨D.map fun d => (d.1, d.2.floor.toNat), ?_, fun d' hd' => ?_⟩
  · rw [List.map_map]
    exact (List.map_id D).symm.trans (List.map_congr_left fun d hd => Prod.ext rfl (hc d hd))
  · obtain ⟨d, hd, rfl⟩ := List.mem_map.1 hd'
    exact Rat.natCast_pos.1 (hc d hd ▸ (h d hd).1)

end FP
