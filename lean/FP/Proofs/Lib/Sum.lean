/-
Sums of the form `(l.map f).sum`. Linearity, filters and indicator sums are stated over any `Lean.Grind.Semiring`
(core's class; `Rat`, `Int` and `Nat` are instances, so one lemma serves flows, balances and multiplicities);
monotonicity, maxima and permutations over `Rat`, with a few `Nat` companions.  Nothing here mentions the model.
-/
namespace FP

theorem sum_map_add {α R} [Lean.Grind.Semiring R] (l : List α) (f g : α → R) :
    (l.map fun e => f e + g e).sum = (l.map f).sum + (l.map g).sum := by
  induction l with
  | nil => simp only [List.map_nil, List.sum_nil]; grind
  | cons x xs ih => simp only [List.map_cons, List.sum_cons, ih]; grind

theorem sum_map_sub {α R} [Lean.Grind.Ring R] (l : List α) (f g : α → R) :
    (l.map fun e => f e - g e).sum = (l.map f).sum - (l.map g).sum := by
  induction l with
  | nil => simp only [List.map_nil, List.sum_nil]; grind
  | cons x xs ih => simp only [List.map_cons, List.sum_cons, ih]; grind

theorem sum_map_mul_left {α R} [Lean.Grind.Semiring R] (l : List α) (f : α → R) (k : R) :
    (l.map fun e => k * f e).sum = k * (l.map f).sum := by
  induction l with
  | nil => simp only [List.map_nil, List.sum_nil]; grind
  | cons x xs ih => simp only [List.map_cons, List.sum_cons, ih]; grind

theorem sum_map_mul_right {α} (l : List α) (f : α → Rat) (k : Rat) :
    (l.map fun e => f e * k).sum = (l.map f).sum * k := by
  simp only [Rat.mul_comm _ k, sum_map_mul_left]

theorem sum_map_zero {α R} [Lean.Grind.Semiring R] {l : List α} {f : α → R} (h : ∀ e ∈ l, f e = 0) :
    (l.map f).sum = 0 := by
  induction l with
  | nil => rfl
  | cons x xs ih =>
    simp only [List.map_cons, List.sum_cons, h x List.mem_cons_self, ih fun e he => h e (List.mem_cons_of_mem _ he)]
    grind

theorem exists_ne_zero_of_sum_ne_zero {α} {l : List α} {f : α → Rat} (h : (l.map f).sum ≠ 0) :
    ∃ e ∈ l, f e ≠ 0 :=
  Classical.byContradiction fun hn =>
    h (sum_map_zero fun e he => Classical.byContradiction fun h0 => hn ⟨e, he, h0⟩)

theorem sum_map_le {α} {l : List α} {f g : α → Rat} (h : ∀ e ∈ l, f e ≤ g e) :
    (l.map f).sum ≤ (l.map g).sum := by
  induction l with
  | nil => exact Rat.le_refl
  | cons x xs ih =>
    have := h x List.mem_cons_self
    have := ih fun e he => h e (List.mem_cons_of_mem _ he)
    simp only [List.map_cons, List.sum_cons]; grind

theorem sum_map_nonneg {α} {l : List α} {f : α → Rat} (h : ∀ e ∈ l, 0 ≤ f e) : 0 ≤ (l.map f).sum := by
  have := sum_map_le (f := fun _ => 0) h
  rwa [sum_map_zero fun _ _ => rfl] at this

theorem sum_nonneg (l : List Rat) (h : ∀ x ∈ l, 0 ≤ x) : 0 ≤ l.sum :=
  List.map_id l ▸ sum_map_nonneg h

theorem sum_take_le (l : List Rat) (h : ∀ x ∈ l, 0 ≤ x) (n : Nat) :
    0 ≤ (l.take n).sum ∧ (l.take n).sum ≤ l.sum := by
  have h1 : 0 ≤ (l.take n).sum := sum_nonneg _ (fun x hx => h x (List.mem_of_mem_take hx))
  have h2 : 0 ≤ (l.drop n).sum := sum_nonneg _ (fun x hx => h x (List.mem_of_mem_drop hx))
  have h3 : (l.take n).sum + (l.drop n).sum = l.sum := by
    rw [← List.sum_append, List.take_append_drop]
  refine ⟨h1, ?_⟩
  grind

theorem le_sum_of_mem {α} {l : List α} (f : α → Rat) (h : ∀ e ∈ l, 0 ≤ f e) {a : α} (ha : a ∈ l) :
    f a ≤ (l.map f).sum := by
  obtain ⟨s, t, rfl⟩ := List.append_of_mem ha
  have := sum_map_nonneg fun e he => h e (List.mem_append_left _ he)
  have := sum_map_nonneg fun e he => h e (List.mem_append_right _ (List.mem_cons_of_mem _ he))
  simp only [List.map_append, List.map_cons, List.sum_append, List.sum_cons]; grind

theorem sum_map_lt {α} (l : List α) (f g : α → Rat) (h : ∀ e ∈ l, f e ≤ g e) (a : α) (ha : a ∈ l)
    (hlt : f a < g a) : (l.map f).sum < (l.map g).sum := by
  have := le_sum_of_mem (fun e => g e - f e) (fun e he => by have := h e he; grind) ha
  rw [sum_map_sub] at this; grind

theorem all_zero_of_sum_zero {α} {l : List α} {f : α → Rat} (h : ∀ e ∈ l, 0 ≤ f e)
    (hs : (l.map f).sum = 0) : ∀ e ∈ l, f e = 0 := fun e he =>
  Rat.le_antisymm (hs ▸ le_sum_of_mem f h he) (h e he)

theorem sum_map_const {α} (l : List α) (c : Rat) : (l.map fun _ => c).sum = (l.length : Rat) * c := by
  induction l with
  | nil => simp
  | cons x xs ih => simp only [List.map_cons, List.sum_cons, ih, List.length_cons, Rat.natCast_add]; grind

theorem sum_map_eq_length {α} {l : List α} {f : α → Rat} (h : ∀ e ∈ l, f e = 1) :
    (l.map f).sum = (l.length : Rat) := by
  rw [List.map_congr_left h, sum_map_const, Rat.mul_one]

theorem sum_le_mul_length {α} (l : List α) (f : α → Rat) (M : Rat) (h : ∀ e ∈ l, f e ≤ M) :
    (l.map f).sum ≤ M * (l.length : Rat) := by
  have := sum_map_le (g := fun _ => M) h
  rwa [sum_map_const, Rat.mul_comm] at this

theorem all_one_of_sum_ge_length {α} {l : List α} {f : α → Rat} (h : ∀ e ∈ l, f e ≤ 1)
    (hs : (l.length : Rat) ≤ (l.map f).sum) : ∀ e ∈ l, f e = 1 := by
  intro e he
  have h0 := all_zero_of_sum_zero (f := fun e => 1 - f e) (fun e he => by have := h e he; grind)
    (by rw [sum_map_sub, sum_map_const]; have := sum_le_mul_length l f 1 h; grind) e he
  grind

theorem exists_one_of_sum_ge_one {α} {l : List α} {f : α → Rat} (h01 : ∀ x ∈ l, f x = 0 ∨ f x = 1)
    (hs : 1 ≤ (l.map f).sum) : ∃ x ∈ l, f x = 1 := by
  have hne : (l.map f).sum ≠ 0 := by grind
  obtain ⟨x, hx, h0⟩ := exists_ne_zero_of_sum_ne_zero hne
  exact ⟨x, hx, (h01 x hx).resolve_left h0⟩

theorem perm_sum {l₁ l₂ : List Rat} (h : l₁.Perm l₂) : l₁.sum = l₂.sum := by
  induction h with
  | nil => rfl
  | cons x _ ih => simp only [List.sum_cons, ih]
  | swap x y l => simp only [List.sum_cons]; grind
  | trans _ _ ih₁ ih₂ => exact ih₁.trans ih₂

theorem sum_erase {α} [DecidableEq α] (f : α → Rat) (l : List α) (a : α) (ha : a ∈ l) :
    (l.map f).sum = f a + ((l.erase a).map f).sum :=
  perm_sum ((List.perm_cons_erase ha).map f)

theorem one_hot_range (t : Nat) (f : Nat → Rat) (h01 : ∀ j, j < t → f j = 0 ∨ f j = 1)
    (hs : ((List.range t).map f).sum = 1) : ∃ j0, j0 < t ∧ ∀ j, j < t → (f j = 1 ↔ j = j0) := by
  have h01' : ∀ j ∈ List.range t, f j = 0 ∨ f j = 1 := fun j hj => h01 j (List.mem_range.1 hj)
  obtain ⟨j0, hj0, h1⟩ := exists_one_of_sum_ge_one h01' (by rw [hs]; exact Rat.le_refl)
  -- the other terms add up to `0`, so each of them is `0`
  have hrest : (((List.range t).erase j0).map f).sum = 0 := by
    have := sum_erase f _ j0 hj0
    rw [hs, h1] at this
    grind
  have hz := all_zero_of_sum_zero (fun j hj => by
    rcases h01' j (List.mem_of_mem_erase hj) with h | h <;> rw [h] <;> decide) hrest
  refine ⟨j0, List.mem_range.1 hj0, fun j hj => ⟨fun hj1 => ?_, fun e => e ▸ h1⟩⟩
  apply Classical.byContradiction
  intro hne
  have := hz j ((List.nodup_range.mem_erase_iff).2 ⟨hne, List.mem_range.2 hj⟩)
  rw [hj1] at this
  exact absurd this (by decide)

theorem sum_filter_ite {α R} [Lean.Grind.Semiring R] (l : List α) (p : α → Bool) (f : α → R) :
    (l.map fun e => if p e then f e else 0).sum = ((l.filter p).map f).sum := by
  induction l with
  | nil => rfl
  | cons x xs ih =>
    cases hp : p x <;> simp only [List.map_cons, List.sum_cons, List.filter_cons, hp, ih] <;> grind

theorem sum_filter_of_zero {α R} [Lean.Grind.Semiring R] (l : List α) (p : α → Bool) (f : α → R)
    (h : ∀ x ∈ l, p x = false → f x = 0) : ((l.filter p).map f).sum = (l.map f).sum := by
  rw [← sum_filter_ite]
  exact congrArg List.sum (List.map_congr_left fun x hx => by
    cases hp : p x
    · simp [h x hx hp]
    · simp)

theorem sum_filter_split {α R} [Lean.Grind.Semiring R] (l : List α) (f : α → R) (p : α → Bool) :
    (l.map f).sum = ((l.filter p).map f).sum + ((l.filter fun e => !p e).map f).sum := by
  induction l with
  | nil => exact (Lean.Grind.AddCommMonoid.add_zero 0).symm
  | cons x xs ih =>
    cases hp : p x <;>
      simp [hp, ih, Lean.Grind.AddCommMonoid.add_left_comm, Lean.Grind.AddCommMonoid.add_assoc]

theorem sum_ind_eq_countP {α} (l : List α) (p : α → Bool) :
    (l.map fun x => if p x then (1 : Rat) else 0).sum = (l.countP p : Rat) := by
  rw [sum_filter_ite, sum_map_const, Rat.mul_one, List.countP_eq_length_filter]

theorem sum_ite_eq_of_not_mem {α R} [Lean.Grind.Semiring R] [DecidableEq α] (l : List α) (a : α) (c : α → R) (ha : a ∉ l) :
    (l.map fun v => if a = v then c v else 0).sum = 0 :=
  sum_map_zero fun v hv => if_neg fun (e : a = v) => ha (e ▸ hv)

theorem sum_ite_eq_of_mem {α R} [Lean.Grind.Semiring R] [DecidableEq α] (l : List α) (hnd : l.Nodup) (a : α) (ha : a ∈ l)
    (c : α → R) : (l.map fun v => if a = v then c v else 0).sum = c a := by
  induction l with
  | nil => cases ha
  | cons x xs ih =>
    obtain ⟨hx, hxs⟩ := List.nodup_cons.1 hnd
    simp only [List.map_cons, List.sum_cons]
    rcases List.mem_cons.1 ha with rfl | ha'
    · rw [if_pos rfl, sum_ite_eq_of_not_mem xs a c hx]; grind
    · rw [if_neg fun (e : a = x) => hx (e ▸ ha'), ih hxs ha']; grind

theorem sum_ite_eq_mem {α R} [Lean.Grind.Semiring R] [DecidableEq α] (S : List α) (hS : S.Nodup) (a : α) (c : α → R) :
    (S.map fun w => if a = w then c w else 0).sum = if a ∈ S then c a else 0 := by
  by_cases h : a ∈ S
  · rw [if_pos h, sum_ite_eq_of_mem S hS a h c]
  · rw [if_neg h, sum_ite_eq_of_not_mem S a c h]

theorem sum_ite_eq_range (n p : Nat) (x : Rat) :
    ((List.range n).map fun j => if p = j then x else 0).sum = if p < n then x else 0 := by
  rw [sum_ite_eq_mem _ List.nodup_range p fun _ => x]
  simp only [List.mem_range]

theorem sum_filter_pick {α} [DecidableEq α] (l : List α) (hnd : l.Nodup) (p : α → Bool) (a : α) (ha : a ∈ l)
    (c : α → Rat) :
    ((l.filter p).map fun v => if a = v then c v else 0).sum = if p a then c a else 0 := by
  rw [sum_ite_eq_mem _ (hnd.filter p)]
  simp [ha]

theorem exists_pos_of_filter_sum_pos {α} {l : List α} {f : α → Rat} (hnn : ∀ a ∈ l, 0 ≤ f a) (p : α → Bool)
    (h : 0 < ((l.filter p).map f).sum) : ∃ a ∈ l, p a ∧ 0 < f a := by
  obtain ⟨a, ha, hfa⟩ := exists_ne_zero_of_sum_ne_zero (Rat.ne_of_gt h)
  obtain ⟨hm, hp⟩ := List.mem_filter.1 ha
  exact ⟨a, hm, hp, Rat.lt_of_le_of_ne (hnn a hm) (Ne.symm hfa)⟩

/-- double counting: summing fibre sums over a duplicate-free list of fibres -/
theorem sum_sum_fiber {α β} [DecidableEq β] (L : List α) (S : List β) (hS : S.Nodup) (π : α → β)
    (x : α → Rat) :
    (S.map fun w => ((L.filter (fun e => π e = w)).map x).sum).sum
      = ((L.filter (fun e => decide (π e ∈ S))).map x).sum := by
  induction L with
  | nil => exact sum_map_zero fun _ _ => rfl
  | cons e L ih =>
    have hfun : (fun w => (((e :: L).filter (fun e => π e = w)).map x).sum)
        = fun w => (if π e = w then x e else 0) + ((L.filter (fun e => π e = w)).map x).sum := by
      funext w
      by_cases h : π e = w <;> simp [h, Rat.zero_add]
    rw [hfun, sum_map_add, ih, sum_ite_eq_mem S hS (π e) fun _ => x e]
    by_cases h : π e ∈ S <;> simp [h, Rat.zero_add]

theorem sum_map_isInt {α} {l : List α} {f : α → Rat} (h : ∀ e ∈ l, ∃ z : Int, f e = z) :
    ∃ z : Int, (l.map f).sum = z := by
  induction l with
  | nil => exact ⟨0, rfl⟩
  | cons x xs ih =>
    obtain ⟨a, ha⟩ := h x List.mem_cons_self
    obtain ⟨b, hb⟩ := ih fun e he => h e (List.mem_cons_of_mem _ he)
    exact ⟨a + b, by simp only [List.map_cons, List.sum_cons, ha, hb, Rat.intCast_add]⟩

theorem natCast_sum {α} (l : List α) (f : α → Nat) :
    (((l.map f).sum : Nat) : Rat) = (l.map fun x => (f x : Rat)).sum := by
  induction l with
  | nil => rfl
  | cons x xs ih => simp only [List.map_cons, List.sum_cons, Rat.natCast_add, ih]

theorem exists_min {α} (l : List α) (f : α → Rat) (hne : l ≠ []) : ∃ a ∈ l, ∀ b ∈ l, f a ≤ f b := by
  induction l with
  | nil => exact absurd rfl hne
  | cons x xs ih =>
    cases xs with
    | nil => exact ⟨x, List.mem_cons_self, fun b hb => by simp at hb; subst hb; exact Rat.le_refl⟩
    | cons y ys =>
      obtain ⟨a, ha, hmin⟩ := ih (List.cons_ne_nil _ _)
      rcases @Rat.le_total (f x) (f a) with hxa | hax
      · exact ⟨x, List.mem_cons_self, fun b hb => by
          rcases List.mem_cons.1 hb with rfl | hb
          · exact Rat.le_refl
          · exact Rat.le_trans hxa (hmin b hb)⟩
      · exact ⟨a, List.mem_cons_of_mem _ ha, fun b hb => by
          rcases List.mem_cons.1 hb with rfl | hb
          · exact hax
          · exact hmin b hb⟩

/-- folding an `op` that lies above both its arguments in the preorder `r` bounds the seed and every member:
`max` with `≤`, `min` with `≥` -/
theorem foldl_bound {α} {r : α → α → Prop} {op : α → α → α} (hrefl : ∀ a, r a a)
    (htrans : ∀ {a b c}, r a b → r b c → r a c) (hl : ∀ a b, r a (op a b)) (hr : ∀ a b, r b (op a b))
    (l : List α) (acc : α) : r acc (l.foldl op acc) ∧ ∀ x ∈ l, r x (l.foldl op acc) := by
  induction l generalizing acc with
  | nil => exact ⟨hrefl _, fun _ h => nomatch h⟩
  | cons y ys ih =>
    obtain ⟨h1, h2⟩ := ih (op acc y)
    refine ⟨htrans (hl _ _) h1, fun x hx => ?_⟩
    rcases List.mem_cons.1 hx with rfl | hx
    · exact htrans (hr _ _) h1
    · exact h2 x hx

theorem foldl_max_mem (l : List Rat) (acc : Rat) : l.foldl max acc = acc ∨ l.foldl max acc ∈ l := by
  induction l generalizing acc with
  | nil => exact .inl rfl
  | cons y ys ih =>
    rw [List.foldl_cons]
    rcases ih (max acc y) with h | h
    · rw [h]
      rw [Rat.max_def]; split
      · exact .inr List.mem_cons_self
      · exact .inl rfl
    · exact .inr (List.mem_cons_of_mem _ h)

theorem nat_le_sum_of_mem {α} {l : List α} (f : α → Nat) {a : α} (ha : a ∈ l) : f a ≤ (l.map f).sum := by
  obtain ⟨s, t, rfl⟩ := List.append_of_mem ha
  simp only [List.map_append, List.map_cons, List.sum_append, List.sum_cons]; omega

theorem sum_range_add_zero (f : Nat → Rat) (k c : Nat) (h : ∀ i, k ≤ i → f i = 0) :
    ((List.range (k + c)).map f).sum = ((List.range k).map f).sum := by
  rw [List.range_add, List.map_append, List.sum_append, List.map_map,
    sum_map_zero (l := List.range c) (f := f ∘ (k + ·)) fun j _ => h _ (Nat.le_add_right k j), Rat.add_zero]

theorem sum_le_sum_of_subset {α} [DecidableEq α] (A : List α) (hA : A.Nodup) :
    ∀ (L : List α), (∀ e ∈ A, e ∈ L) → ∀ (h : α → Rat), (∀ e ∈ L, 0 ≤ h e) → (A.map h).sum ≤ (L.map h).sum := by
  induction A with
  | nil => intro L _ h hnn; exact sum_map_nonneg hnn
  | cons a A ih =>
    intro L hsub h hnn
    obtain ⟨haA, hA'⟩ := List.nodup_cons.1 hA
    have hsub' : ∀ e ∈ A, e ∈ L.erase a := fun e he =>
      (List.mem_erase_of_ne fun (h' : e = a) => haA (h' ▸ he)).2 (hsub e (List.mem_cons_of_mem _ he))
    rw [sum_erase h L a (hsub a List.mem_cons_self), List.map_cons, List.sum_cons]
    exact Rat.add_le_add_left.2 (ih hA' _ hsub' h fun e he => hnn e (List.mem_of_mem_erase he))

theorem all_of_sum_ite_ge {α} (l : List α) (f : α → Rat) (P : α → Prop) [DecidablePred P]
    (hpos : ∀ e ∈ l, 0 < f e) (h : (l.map f).sum ≤ (l.map fun e => if P e then f e else 0).sum) :
    ∀ e ∈ l, P e := by
  intro e he
  apply Classical.byContradiction
  intro hn
  have hlt := sum_map_lt l (fun e => if P e then f e else 0) f
    (fun x hx => by
      split
      · exact Rat.le_refl
      · exact Rat.le_of_lt (hpos x hx))
    e he (by rw [if_neg hn]; exact hpos e he)
  exact absurd h (Rat.not_le.2 hlt)

/-- a duplicate-free list all of whose members are `a` is `[]` or `[a]`, so its sum is `0` or `f a` -/
theorem sum_le_of_all_eq {α} (l : List α) (hnd : l.Nodup) (f : α → Rat) (a : α)
    (hfa : 0 ≤ f a) (hall : ∀ x ∈ l, x = a) : (l.map f).sum ≤ f a := by
  match l, hnd, hall with
  | [], _, _ => exact hfa
  | [x], _, hall =>
    rw [hall x (by simp), List.map_singleton, List.sum_singleton]
    exact Rat.le_refl
  | x :: y :: _, hnd, hall =>
    have hxy : x = y := (hall x (by simp)).trans (hall y (by simp)).symm
    exact absurd (hxy ▸ List.mem_cons_self) (List.nodup_cons.1 hnd).1

end FP
