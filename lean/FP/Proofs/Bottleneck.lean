import FP.Model.Bottleneck
import FP.Spec.Substrate
import FP.Proofs.Sweep
import FP.Proofs.FlowLemmas
/-!
The DP of `max_bottleneck_path` computes the best bottleneck over all source-to-sink paths, and
following its back pointers gives a path that realises it. In the table `none` stands for `+∞`.
-/
namespace FP
open FP.Spec

theorem bmin_le_right (b : Option Rat) (x : Rat) : bmin b x ≤ x := by
  cases b with
  | none => exact Rat.le_refl
  | some q =>
    show (if x < q then x else q) ≤ x
    split
    · exact Rat.le_refl
    · exact Rat.not_lt.1 ‹_›

theorem bmin_le_left (q x : Rat) : bmin (some q) x ≤ q := by
  show (if x < q then x else q) ≤ q
  split
  · exact Rat.le_of_lt ‹_›
  · exact Rat.le_refl

theorem bmin_attained (b : Option Rat) (x : Rat) : bmin b x = x ∨ b = some (bmin b x) := by
  cases b with
  | none => exact Or.inl rfl
  | some q =>
    show (if x < q then x else q) = x ∨ some q = some (if x < q then x else q)
    split
    · exact Or.inl rfl
    · exact Or.inr rfl

theorem bgt_some (a b : Rat) : bgt (some a) (some b) = false ↔ a ≤ b := by
  unfold bgt; simp [Rat.not_lt]

theorem bgt_self (a : Option Rat) : bgt a a = false := by
  cases a <;> simp [bgt]

/-- `a ≤ b` and `b < c` give `a ≤ c` -/
theorem bgt_trans {a b c : Option Rat} (h1 : bgt a b = false) (h2 : bgt c b = true) : bgt a c = false := by
  cases a <;> cases b <;> cases c <;> simp [bgt, Rat.not_lt] at h1 h2 ⊢
  exact Rat.le_trans h1 (Rat.le_of_lt h2)

theorem bestPred_cons (B : Node → Option Rat) (f : Edge → Rat) (v u : Node) (l : List Node)
    (init : Option Rat × Node) :
    bestPred B f v (u :: l) init = bestPred B f v l
      (match init.1 with
        | none => (some (bmin (B u) (f (u, v))), u)
        | some q => if bmin (B u) (f (u, v)) > q then (some (bmin (B u) (f (u, v))), u) else init) := rfl

/-- invariant of the inner loop once the predecessors `pre` are done: the running maximum bounds their candidates
and, when finite, is the candidate of the recorded node, one of them -/
def BPred (B : Node → Option Rat) (f : Edge → Rat) (v : Node) (pre : List Node) (acc : Option Rat × Node) : Prop :=
  (∀ u ∈ pre, ∃ q, acc.1 = some q ∧ bmin (B u) (f (u, v)) ≤ q) ∧
  ∀ q, acc.1 = some q → acc.2 ∈ pre ∧ q = bmin (B acc.2) (f (acc.2, v))

theorem bestPred_spec (B : Node → Option Rat) (f : Edge → Rat) (v : Node) (l : List Node) :
    ∀ pre acc, BPred B f v pre acc → BPred B f v (pre ++ l) (bestPred B f v l acc) := by
  induction l with
  | nil => intro pre acc h; rw [List.append_nil]; exact h
  | cons u l ih =>
    intro pre acc ⟨h1, h2⟩
    rw [bestPred_cons, List.append_cons]
    apply ih
    have hlast : u ∈ pre ++ [u] := List.mem_append_right _ (List.mem_singleton.2 rfl)
    obtain ⟨o, a⟩ := acc
    cases o with
    | none =>
      refine ⟨List.forall_mem_append.2 ⟨fun u' hu' => ?_, List.forall_mem_singleton.2 ⟨_, rfl, Rat.le_refl⟩⟩,
        fun q hq => by cases hq; exact ⟨hlast, rfl⟩⟩
      obtain ⟨q, hq, -⟩ := h1 u' hu'
      cases hq
    | some q0 =>
      show BPred B f v (pre ++ [u])
        (if bmin (B u) (f (u, v)) > q0 then (some (bmin (B u) (f (u, v))), u) else (some q0, a))
      by_cases hgt : bmin (B u) (f (u, v)) > q0
      · rw [if_pos hgt]
        refine ⟨List.forall_mem_append.2 ⟨fun u' hu' => ?_, List.forall_mem_singleton.2 ⟨_, rfl, Rat.le_refl⟩⟩,
          fun q hq => by cases hq; exact ⟨hlast, rfl⟩⟩
        obtain ⟨q, hq, hle⟩ := h1 u' hu'
        cases hq
        exact ⟨_, rfl, Rat.le_trans hle (Rat.le_of_lt hgt)⟩
      · rw [if_neg hgt]
        exact ⟨List.forall_mem_append.2 ⟨h1, List.forall_mem_singleton.2 ⟨q0, rfl, Rat.not_lt.1 hgt⟩⟩,
          fun q hq => ⟨List.mem_append_left _ (h2 q hq).1, (h2 q hq).2⟩⟩

/-- local optimality equations of the table at `v` -/
def BLoc (g : Graph) (f : Edge → Rat) (st : BState) (v : Node) : Prop :=
  (g.pred v = [] → st.B v = none) ∧
  (g.pred v ≠ [] → ∃ q, st.B v = some q ∧ (st.arg v, v) ∈ g.edges ∧
      q = bmin (st.B (st.arg v)) (f (st.arg v, v)) ∧ ∀ u, (u, v) ∈ g.edges → bmin (st.B u) (f (u, v)) ≤ q)

/-- the equations at `v` read `B` at `v` and at its in-neighbours, and `arg` at `v` -/
theorem bLoc_congr {g : Graph} {f : Edge → Rat} {st st' : BState} {v : Node} (h : BLoc g f st v)
    (hB : st'.B v = st.B v) (harg : st'.arg v = st.arg v) (hpred : ∀ u, (u, v) ∈ g.edges → st'.B u = st.B u) :
    BLoc g f st' v := by
  refine ⟨fun hp => hB.trans (h.1 hp), fun hp => ?_⟩
  obtain ⟨q, e1, e2, e3, e4⟩ := h.2 hp
  refine ⟨q, hB.trans e1, harg ▸ e2, ?_, fun u hu => hpred u hu ▸ e4 u hu⟩
  rw [harg, hpred _ e2]; exact e3

/-- the nodes `max_bottleneck_path` considers as ends of a path -/
def ProperSink (g : Graph) (v : Node) : Prop := g.pred v ≠ [] ∧ g.succ v = []

/-- `maxBottleneckSink` is a best among the processed proper sinks (the code keeps the first; nothing here needs that) -/
def BBest (g : Graph) (B : Node → Option Rat) (pre : List Node) : Option Node → Prop
  | none => ∀ v ∈ pre, ¬ ProperSink g v
  | some m => m ∈ pre ∧ ProperSink g m ∧ ∀ v ∈ pre, ProperSink g v → bgt (B v) (B m) = false

theorem bBest_congr {g : Graph} {B B' : Node → Option Rat} {pre : List Node} {best : Option Node}
    (h : BBest g B pre best) (hB : ∀ v ∈ pre, B' v = B v) : BBest g B' pre best := by
  cases best with
  | none => exact h
  | some m => exact ⟨h.1, h.2.1, fun v hv hs => by rw [hB v hv, hB m h.1]; exact h.2.2 v hv hs⟩

theorem bBest_skip {g : Graph} {B : Node → Option Rat} {pre : List Node} {best : Option Node} {c : Node}
    (h : BBest g B pre best) (hc : ¬ ProperSink g c) : BBest g B (pre ++ [c]) best := by
  cases best with
  | none => exact List.forall_mem_append.2 ⟨h, List.forall_mem_singleton.2 hc⟩
  | some m =>
    exact ⟨List.mem_append_left _ h.1, h.2.1,
      List.forall_mem_append.2 ⟨h.2.2, List.forall_mem_singleton.2 fun hs => absurd hs hc⟩⟩

theorem bBest_push {g : Graph} {B : Node → Option Rat} {pre : List Node} {best : Option Node} {c : Node}
    (h : BBest g B pre best) (hc : ProperSink g c) : BBest g B (pre ++ [c]) (newBest B best c) := by
  have hlast : c ∈ pre ++ [c] := List.mem_append_right _ (List.mem_singleton.2 rfl)
  cases best with
  | none =>
    exact ⟨hlast, hc, List.forall_mem_append.2
      ⟨fun v hv hs => absurd hs (h v hv), List.forall_mem_singleton.2 fun _ => bgt_self _⟩⟩
  | some m =>
    show BBest g B (pre ++ [c]) (if bgt (B c) (B m) then some c else some m)
    by_cases hgt : bgt (B c) (B m) = true
    · rw [if_pos hgt]
      exact ⟨hlast, hc, List.forall_mem_append.2
        ⟨fun v hv hs => bgt_trans (h.2.2 v hv hs) hgt, List.forall_mem_singleton.2 fun _ => bgt_self _⟩⟩
    · rw [if_neg hgt]
      exact ⟨List.mem_append_left _ h.1, h.2.1, List.forall_mem_append.2
        ⟨h.2.2, List.forall_mem_singleton.2 fun _ => Bool.eq_false_iff.2 hgt⟩⟩

/-! `bstep`, the body of `for v in nx.topological_sort(G)`, field by field -/

theorem bstep_B (g : Graph) (f : Edge → Rat) (st : BState) (c : Node) :
    (bstep g f st c).B =
      upd st.B c (if g.pred c = [] then none else (bestPred st.B f c (g.pred c) (none, st.arg c)).1) := by
  unfold bstep
  by_cases h : g.pred c = []
  · simp [h]
  · simp [h]

theorem bstep_arg (g : Graph) (f : Edge → Rat) (st : BState) (c : Node) :
    (bstep g f st c).arg =
      if g.pred c = [] then st.arg else upd st.arg c (bestPred st.B f c (g.pred c) (none, st.arg c)).2 := by
  unfold bstep
  by_cases h : g.pred c = []
  · simp [h]
  · simp [h]

theorem bstep_best (g : Graph) (f : Edge → Rat) (st : BState) (c : Node) :
    (bstep g f st c).best =
      if g.pred c ≠ [] ∧ g.succ c = [] then newBest (bstep g f st c).B st.best c else st.best := by
  rw [bstep_B]
  unfold bstep
  by_cases h : g.pred c = []
  · simp [h]
  · by_cases h' : g.succ c = []
    · simp [h, h']
    · simp [h, h']

theorem bstep_B_ne (g : Graph) (f : Edge → Rat) (st : BState) {c v : Node} (hv : v ≠ c) :
    (bstep g f st c).B v = st.B v := by
  rw [bstep_B]; exact upd_ne _ _ hv

theorem bstep_inv (g : Graph) (f : Edge → Rat) (hloop : ∀ a, (a, a) ∉ g.edges) (pre : List Node) (c : Node)
    (st : BState) (hcpre : c ∉ pre)
    (hnotpred : ∀ v ∈ pre, (c, v) ∉ g.edges) (h1 : ∀ v ∈ pre, BLoc g f st v) (h2 : BBest g st.B pre st.best) :
    (∀ v ∈ pre ++ [c], BLoc g f (bstep g f st c) v) ∧
      BBest g (bstep g f st c).B (pre ++ [c]) (bstep g f st c).best := by
  have hne : ∀ v ∈ pre, v ≠ c := fun v hv h => hcpre (h ▸ hv)
  -- an already processed node keeps its equations: neither it nor an in-neighbour of it is `c`
  have hold : ∀ v ∈ pre, BLoc g f (bstep g f st c) v := fun v hv =>
    bLoc_congr (h1 v hv) (bstep_B_ne g f st (hne v hv))
      (by rw [bstep_arg]; split
          · rfl
          · exact upd_ne _ _ (hne v hv))
      fun u hu => bstep_B_ne g f st fun h => hnotpred v hv (h ▸ hu)
  have hnew : BLoc g f (bstep g f st c) c := by
    rw [BLoc, bstep_B, bstep_arg, upd_same]
    refine ⟨fun hp => if_pos hp, fun hp => ?_⟩
    rw [if_neg hp, if_neg hp, upd_same]
    obtain ⟨u0, hu0⟩ := List.exists_mem_of_ne_nil _ hp
    obtain ⟨r1, r3⟩ := bestPred_spec st.B f c (g.pred c) [] (none, st.arg c) 
      ⟨fun _ h => (nomatch h), fun _ h => (nomatch h)⟩
    obtain ⟨q, hq, -⟩ := r1 u0 hu0
    obtain ⟨ra, rb⟩ := r3 q hq
    have hac : (bestPred st.B f c (g.pred c) (none, st.arg c)).2 ≠ c := fun h =>
      hloop c (mem_pred.1 (by rw [h] at ra; exact ra))
    refine ⟨q, hq, mem_pred.1 ra, ?_, fun u hu => ?_⟩
    · rw [upd_ne _ _ hac]; exact rb
    · rw [upd_ne _ _ fun (h : u = c) => hloop c (h ▸ hu)]
      obtain ⟨q', hq', hle⟩ := r1 u (mem_pred.2 hu)
      rw [hq] at hq'; cases hq'; exact hle
  have hbest := bBest_congr h2 fun v hv => bstep_B_ne g f st (hne v hv)
  refine ⟨List.forall_mem_append.2 ⟨hold, List.forall_mem_singleton.2 hnew⟩, ?_⟩
  rw [bstep_best]
  by_cases hs : g.pred c ≠ [] ∧ g.succ c = []
  · rw [if_pos hs]; exact bBest_push hbest hs
  · rw [if_neg hs]; exact bBest_skip hbest hs

theorem bTable_spec (g : Graph) (f : Edge → Rat) (topo : List Node) (h : IsTopo g.edges topo) :
    (∀ v ∈ topo, BLoc g f (bTable g f topo) v) ∧ BBest g (bTable g f topo).B topo (bTable g f topo).best :=
  foldl_topo_induction h (bstep g f)
    (fun pre st => (∀ v ∈ pre, BLoc g f st v) ∧ BBest g st.B pre st.best) bInit
    ⟨fun _ hv => (nomatch hv), fun _ hv => (nomatch hv)⟩
    fun pre c st hc _ hnot hP => bstep_inv g f h.noloop pre c st hc hnot hP.1 hP.2

/-- in a graph without in-edges `maxBottleneckSink` stays `None` (whatever the order swept) -/
theorem bTable_best_none (g : Graph) (f : Edge → Rat) (hp : ∀ v, g.pred v = []) (topo : List Node) :
    ∀ st : BState, st.best = none → (topo.foldl (bstep g f) st).best = none :=
  foldl_inv (·.best = none) (bstep g f) topo fun st v _ h => by
    unfold bstep
    simp [hp v, h]

/-- along a walk every finite table value is at least the flow of some edge walked so far (`E`
collects the edges before `u`) -/
theorem walk_ub (g : Graph) (f : Edge → Rat) (st : BState) (topo : List Node) (htopo : IsTopo g.edges topo)
    (hloc : ∀ v ∈ topo, BLoc g f st v) (p : List Node) :
    ∀ (u : Node) (E : List Edge), IsWalkIn g (u :: p) → (∀ q, st.B u = some q → ∃ e ∈ E, f e ≤ q) →
      ∀ t, (u :: p).getLast? = some t → ∀ q, st.B t = some q → ∃ e ∈ E ++ walkEdges (u :: p), f e ≤ q := by
  induction p with
  | nil =>
    intro u E _ hinv t ht q hq
    cases ht
    obtain ⟨e, he, hle⟩ := hinv q hq
    exact ⟨e, List.mem_append_left _ he, hle⟩
  | cons w p ih =>
    intro u E hw hinv t ht q hq
    have huw := (isWalkIn_cons_cons.1 hw).1
    obtain ⟨qw, hqw, -, -, hall⟩ := (hloc w (htopo.cover _ huw).2).2 (List.ne_nil_of_mem (mem_pred.2 huw))
    have hinv' : ∀ q, st.B w = some q → ∃ e ∈ E ++ [(u, w)], f e ≤ q := by
      intro q' hq'
      obtain rfl : qw = q' := Option.some.inj (hqw.symm.trans hq')
      rcases bmin_attained (st.B u) (f (u, w)) with h | h
      · exact ⟨(u, w), by simp, h ▸ hall u huw⟩
      · obtain ⟨e, he, hle⟩ := hinv _ h
        exact ⟨e, List.mem_append_left _ he, Rat.le_trans hle (hall u huw)⟩
    rw [List.getLast?_cons_cons] at ht
    obtain ⟨e, he, hle⟩ := ih w _ hw.tail hinv' t ht q hq
    exact ⟨e, by rw [we_cons_cons]; simpa using he, hle⟩

theorem _root_.FP.Spec.IsSTPath.exists_ends {g : Graph} {p : List Node} (hp : IsSTPath g p) :
    ∃ s w rest t, p = s :: w :: rest ∧ p.getLast? = some t :=
  match p, hp.len with
  | s :: w :: rest, _ => ⟨s, w, rest, _, rfl, List.getLast?_eq_some_getLast (List.cons_ne_nil s _)⟩

theorem stpath_ub (g : Graph) (f : Edge → Rat) (st : BState) (topo : List Node) (htopo : IsTopo g.edges topo)
    (hloc : ∀ v ∈ topo, BLoc g f st v) (p : List Node) (hp : IsSTPath g p) :
    ∃ t q, t ∈ topo ∧ ProperSink g t ∧ st.B t = some q ∧ ∃ e ∈ walkEdges p, f e ≤ q := by
  obtain ⟨s, w, rest, t, rfl, ht⟩ := hp.exists_ends
  -- the last node has an in-edge, so its value is finite
  obtain ⟨u, hu⟩ := exists_we_into (w := s :: w :: rest)
    (List.mem_of_getLast? (by rw [List.getLast?_cons_cons] at ht; exact ht))
  have hut := hp.walk _ hu
  have hpt : g.pred t ≠ [] := List.ne_nil_of_mem (mem_pred.2 hut)
  obtain ⟨q, hq, -⟩ := (hloc t (htopo.cover _ hut).2).2 hpt
  have hsw := (isWalkIn_cons_cons.1 hp.walk).1
  have hs : st.B s = none := (hloc s (htopo.cover _ hsw).1).1 (hp.first s rfl)
  obtain ⟨e, he, hle⟩ := walk_ub g f st topo htopo hloc _ s [] hp.walk
    (fun q h => by rw [hs] at h; cases h) t ht q hq
  exact ⟨t, q, (htopo.cover _ hut).2, ⟨hpt, hp.last t ht⟩, hq, e, he, hle⟩

/-- the back-pointer walk from `v` reaches a source within `index of v` steps; `B[v]` bounds its
edges from below and, when finite, is attained on it -/
theorem recover_spec (g : Graph) (f : Edge → Rat) (st : BState) (topo : List Node) (htopo : IsTopo g.edges topo)
    (hloc : ∀ v ∈ topo, BLoc g f st v) (n : Nat) (v : Node) (rest : List Node) :
    v ∈ topo → topo.idxOf v < n →
      ∃ pre, recover g st.arg n v rest = some (pre ++ v :: rest) ∧ IsWalkIn g (pre ++ [v]) ∧
        (∀ s, (pre ++ [v]).head? = some s → g.pred s = []) ∧
        (∀ e ∈ walkEdges (pre ++ [v]), ∃ q, st.B v = some q ∧ q ≤ f e) ∧
        (∀ q, st.B v = some q → ∃ e ∈ walkEdges (pre ++ [v]), f e = q) := by
  fun_induction recover g st.arg n v rest with
  | case1 => exact fun _ h => nomatch h
  | case2 n v rest hp =>
    intro hv _
    rw [List.isEmpty_iff] at hp
    refine ⟨[], rfl, fun e he => (nomatch he), fun s hs => ?_, fun e he => (nomatch he), fun q hq => ?_⟩
    · cases hs; exact hp
    · rw [(hloc v hv).1 hp] at hq; cases hq
  | case3 n v rest hp ih =>
    intro hv hlen
    rw [List.isEmpty_iff] at hp
    obtain ⟨q, hq, hav, hqeq, -⟩ := (hloc v hv).2 hp
    -- the back pointer lies strictly before `v`
    have hlt : topo.idxOf (st.arg v) < topo.idxOf v := topo_rank htopo _ hav
    obtain ⟨pre', r1, r2, r3, r4, r5⟩ := ih (htopo.cover _ hav).1
      (Nat.lt_of_lt_of_le hlt (Nat.le_of_lt_succ hlen))
    refine ⟨pre' ++ [st.arg v], by rw [r1, List.append_assoc]; rfl, ?_, ?_, ?_, ?_⟩
    · intro e he
      rw [we_concat _ _ _ List.getLast?_concat] at he
      rcases List.mem_append.1 he with h | h
      · exact r2 e h
      · rw [List.mem_singleton.1 h]; exact hav
    · intro s' hs'
      rw [head?_append_ne_nil _ _ (List.append_ne_nil_of_right_ne_nil _ (List.cons_ne_nil _ _))] at hs'
      exact r3 s' hs'
    · intro e he
      refine ⟨q, hq, ?_⟩
      rw [we_concat _ _ _ List.getLast?_concat] at he
      rw [hqeq]
      rcases List.mem_append.1 he with h | h
      · obtain ⟨qa, hqa, hle⟩ := r4 e h
        rw [hqa]; exact Rat.le_trans (bmin_le_left qa _) hle
      · rw [List.mem_singleton.1 h]; exact bmin_le_right _ _
    · intro q' hq'
      obtain rfl : q = q' := Option.some.inj (hq.symm.trans hq')
      rw [we_concat _ _ _ List.getLast?_concat, hqeq]
      rcases bmin_attained (st.B (st.arg v)) (f (st.arg v, v)) with h | h
      · exact ⟨(st.arg v, v), List.mem_append_right _ (List.mem_singleton.2 rfl), h.symm⟩
      · obtain ⟨e0, he0, hfe0⟩ := r5 _ h
        exact ⟨e0, List.mem_append_left _ he0, hfe0⟩

/-- what the outcomes of `max_bottleneck_path` mean. `(None, None)` covers two situations: there is
no source-to-sink path at all (`maxBottleneckSink is None`, e.g. a graph without edges), or the best
bottleneck over all source-to-sink paths is exactly `0`. -/
def BottleneckSpec (g : Graph) (f : Edge → Rat) : BResult → Prop
  | .none => (∀ p, ¬ IsSTPath g p) ∨
      ((∀ p, IsSTPath g p → ∃ e ∈ walkEdges p, f e ≤ 0) ∧
        ∃ p, IsSTPath g p ∧ (∀ e ∈ walkEdges p, 0 ≤ f e) ∧ ∃ e ∈ walkEdges p, f e = 0)
  | .path q p => q ≠ 0 ∧ IsSTPath g p ∧ (∀ e ∈ walkEdges p, q ≤ f e) ∧ (∃ e ∈ walkEdges p, f e = q) ∧
      ∀ p', IsSTPath g p' → ∃ e ∈ walkEdges p', f e ≤ q
  | .stuck => False

theorem BottleneckSpec.none_le {g : Graph} {f : Edge → Rat} (h : BottleneckSpec g f .none) :
    ∀ p, IsSTPath g p → ∃ e ∈ walkEdges p, f e ≤ 0 := by
  intro p hp
  rcases h with h | h
  · exact absurd hp (h p)
  · exact h.1 p hp

theorem mbp_noSink (g : Graph) (f : Edge → Rat) (topo : List Node) (h : (bTable g f topo).best = none) :
    maxBottleneckPath g f topo = BResult.none := by
  unfold maxBottleneckPath; simp [h]

theorem mbp_some (g : Graph) (f : Edge → Rat) (topo : List Node) (m : Node) (q : Rat)
    (h : (bTable g f topo).best = some m) (hq : (bTable g f topo).B m = some q) :
    maxBottleneckPath g f topo = (if q = 0 then BResult.none else
      match recover g (bTable g f topo).arg (topo.length + 1) m [] with
      | some p => BResult.path q p
      | none => BResult.stuck) := by
  unfold maxBottleneckPath; simp only [h, hq]
  by_cases hq0 : q = 0
  · simp [hq0]
  · simp only [hq0, if_false]
    generalize recover g (bTable g f topo).arg (topo.length + 1) m [] = r
    cases r <;> rfl

theorem maxBottleneckPath_spec {g : Graph} (f : Edge → Rat) {topo : List Node} (htopo : IsTopo g.edges topo) :
    BottleneckSpec g f (maxBottleneckPath g f topo) := by
  obtain ⟨hloc, hbest⟩ := bTable_spec g f topo htopo
  cases hb : (bTable g f topo).best with
  | none =>
    rw [hb] at hbest
    rw [mbp_noSink g f topo hb]
    refine Or.inl fun p hp => ?_
    obtain ⟨t, q, ht, hst, -⟩ := stpath_ub g f _ topo htopo hloc p hp
    exact hbest t ht hst
  | some m =>
    rw [hb] at hbest
    obtain ⟨m1, m2, m4⟩ := hbest
    obtain ⟨q, hq, -⟩ := (hloc m m1).2 m2.1
    rw [mbp_some g f topo m q hb hq]
    obtain ⟨pre, r1, r2, r3, r4, r5⟩ := recover_spec g f _ topo htopo hloc (topo.length + 1) m [] m1
      (Nat.lt_succ_of_lt (List.idxOf_lt_length_of_mem m1))
    have v1 : ∀ e ∈ walkEdges (pre ++ [m]), q ≤ f e := fun e he => by
      obtain ⟨q', hq', hle⟩ := r4 e he
      cases hq.symm.trans hq'; exact hle
    have v2 := r5 q hq
    have hst : IsSTPath g (pre ++ [m]) := by
      refine ⟨?_, r2, r3, fun v hv => ?_⟩
      · cases pre with
        | nil => exact absurd (r3 m rfl) m2.1
        | cons x pre => simp
      · rw [List.getLast?_concat] at hv; cases hv; exact m2.2
    have hub : ∀ p', IsSTPath g p' → ∃ e ∈ walkEdges p', f e ≤ q := by
      intro p' hp'
      obtain ⟨t, qt, ht, hstt, hqt, e, he, hfe⟩ := stpath_ub g f _ topo htopo hloc p' hp'
      have := m4 t ht hstt
      rw [hqt, hq] at this
      exact ⟨e, he, Rat.le_trans hfe ((bgt_some qt q).1 this)⟩
    by_cases hq0 : q = 0
    · rw [if_pos hq0]
      subst hq0
      exact Or.inr ⟨hub, pre ++ [m], hst, v1, v2⟩
    · rw [if_neg hq0, r1]
      exact ⟨hq0, hst, v1, v2, hub⟩

/-- `(None, None)` is returned exactly when no source-to-sink path has a positive bottleneck
and — unless there is no source-to-sink path at all — some path has a non-negative one (a best
bottleneck `< 0` is returned as a path with that negative value) -/
theorem maxBottleneckPath_none_iff {g : Graph} (f : Edge → Rat) {topo : List Node} (htopo : IsTopo g.edges topo) :
    maxBottleneckPath g f topo = .none ↔
      (∀ p, IsSTPath g p → ∃ e ∈ walkEdges p, f e ≤ 0) ∧
      ((∃ p, IsSTPath g p) → ∃ p, IsSTPath g p ∧ ∀ e ∈ walkEdges p, 0 ≤ f e) := by
  have hs := maxBottleneckPath_spec f htopo
  constructor
  · intro h
    rw [h] at hs
    refine ⟨hs.none_le, ?_⟩
    rintro ⟨p, hp⟩
    rcases hs with h0 | ⟨_, p', hp', hnn, _⟩
    · exact absurd hp (h0 p)
    · exact ⟨p', hp', hnn⟩
  · rintro ⟨h1, h2⟩
    cases hm : maxBottleneckPath g f topo with
    | none => rfl
    | path q p =>
      rw [hm] at hs
      obtain ⟨hq0, hp, hmin, _, hub⟩ := hs
      obtain ⟨e, he, hfe⟩ := h1 p hp
      have hq : q ≤ 0 := Rat.le_trans (hmin e he) hfe
      obtain ⟨p', hp', hnn⟩ := h2 ⟨p, hp⟩
      obtain ⟨e', he', hfe'⟩ := hub p' hp'
      have : 0 ≤ q := Rat.le_trans (hnn e' he') hfe'
      exact absurd (Rat.le_antisymm hq this) hq0
    | stuck => rw [hm] at hs; exact hs.elim

theorem maxBottleneckPath_none_iff_nonneg {g : Graph} (f : Edge → Rat) {topo : List Node}
    (htopo : IsTopo g.edges topo) (hnn : ∀ e ∈ g.edges, 0 ≤ f e) :
    maxBottleneckPath g f topo = .none ↔ ∀ p, IsSTPath g p → ∃ e ∈ walkEdges p, f e ≤ 0 := by
  rw [maxBottleneckPath_none_iff f htopo]
  constructor
  · exact fun h => h.1
  · intro h
    refine ⟨h, ?_⟩
    rintro ⟨p, hp⟩
    exact ⟨p, hp, fun e he => hnn e (hp.walk e he)⟩

end FP
