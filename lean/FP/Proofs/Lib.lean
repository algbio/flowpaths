/-
Pure facts about `List`, `Nat`, `Int` and `Rat` used throughout the proofs: sums (`Lib.Sum`), list operations
(`Lib.List`) and numbers (`Lib.Num`).
-/
import FP.Proofs.Lib.Sum
import FP.Proofs.Lib.List
import FP.Proofs.Lib.Num
