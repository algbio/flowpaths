import FP.Proofs.SafetyIdom
import FP.Proofs.SafetyDom
/-!
`maximal_safe_sequences_via_dominators` assembles one sequence `s_doms[::-1] + t_doms[1:]` per *core*; the cores
are distinct members of `X`, each sequence contains its core and is forced by it. Safety, and `CoreFamily` (the
same with the cores numbered), are read off that.
-/
namespace FP.Safety
open FP FP.Spec

/-- Invariant of the loop over the edges: `find_idom` hands back dicts with the same neighbour sets
(`findIdom_sameOut`), so each later call still runs on the adjacency of `g`, and the entry it adds is an arc
on every walk (`findIdom_sound`). -/
theorem idomTables_sound (g : Graph) (hg : GraphWF g) (s t : Node) :
    ∀ es adj adjRev si ti si' ti', idomTables s t es adj adjRev si ti = .ok (si', ti') →
      (∀ u v, v ∈ out adj u ↔ v ∈ out (succAdj g) u) →
      (∀ u v, v ∈ out adjRev u ↔ v ∈ out (predAdj g) u) →
      SIdomSound g s si → TIdomSound g t ti → SIdomSound g s si' ∧ TIdomSound g t ti' := by
  intro es adj adjRev si ti
  fun_induction idomTables s t es adj adjRev si ti with
  | case1 =>
    intro si' ti' h _ _ hs ht
    injection h with h; injection h with h1 h2; subst h1; subst h2
    exact ⟨hs, ht⟩
  | case2 | case3 | case4 | case5 => exact fun _ _ h => nomatch h
  | case6 u v es adj adjRev si ti sb adjRev' hsb tb adj' htb sn tn ih =>
    intro si' ti' h hadj hrev hs ht
    have hrev' : ∀ a b, b ∈ out adjRev' a ↔ b ∈ out (predAdj g) a := fun a b =>
      (findIdom_sameOut _ _ _ _ _ hsb a b).trans (hrev a b)
    have hadj' : ∀ a b, b ∈ out adj' a ↔ b ∈ out (succAdj g) a := fun a b =>
      (findIdom_sameOut _ _ _ _ _ htb a b).trans (hadj a b)
    apply ih _ _ h hadj' hrev'
    · intro e d hm
      rcases List.mem_append.1 hm with hm | hm
      · exact hs e d hm
      · simp only [List.mem_singleton, Prod.mk.injEq] at hm
        obtain ⟨rfl, hd⟩ := hm
        simp only [sn] at hd
        cases sb with
        | none => cases hd
        | some yz =>
          obtain ⟨y, z⟩ := yz
          simp only [TNode.arc.injEq] at hd; subst hd
          exact thru_predAdj hg ((findIdom_sound _ _ _ _ _ hsb).mono fun _ he => (hrev _ _).2 he)
    · intro e d hm
      rcases List.mem_append.1 hm with hm | hm
      · exact ht e d hm
      · simp only [List.mem_singleton, Prod.mk.injEq] at hm
        obtain ⟨rfl, hd⟩ := hm
        simp only [tn] at hd
        cases tb with
        | none => cases hd
        | some b =>
          simp only [TNode.arc.injEq] at hd; subst hd
          exact thru_succAdj hg ((findIdom_sound _ _ _ _ _ htb).mono fun _ he => (hadj _ _).2 he)

/-- what `maxSafeSeqs` hands to the dominator machinery: some list of edges and a sublist `X'` of `X` -/
theorem maxSafeSeqs_cases (g : Graph) (s t : Node) (X : List Edge) (seqs : List (List Edge))
    (h : maxSafeSeqs g s t X = .ok seqs) :
    seqs = [] ∨ ∃ es X' si ti, (∀ c ∈ X', c ∈ X) ∧
      idomTables s t es (succAdj g) (predAdj g) [] [] = .ok (si, ti) ∧ maxSeqsFromIdoms si ti X' = .ok seqs := by
  revert h
  fun_cases maxSafeSeqs g s t X with
  | case1 | case4 => exact fun h => Or.inl (Res.ok.inj h).symm
  | case5 _ es _ X' _ si ti htab =>
    refine fun h => Or.inr ⟨es, X', si, ti, fun c hc => ?_, htab, h⟩
    simp only [X'] at hc
    split at hc
    · exact (List.mem_filter.1 hc).1
    · exact hc
  | _ => exact fun h => nomatch h

theorem maxSafeSeqs_cores (g : Graph) (hg : GraphWF g) (s t : Node) (X : List Edge) (seqs : List (List Edge))
    (h : maxSafeSeqs g s t X = .ok seqs) :
    ∃ cores : List Edge, cores.Nodup ∧ (∀ c ∈ cores, c ∈ X) ∧
      Aligned (fun c q => c ∈ q ∧ ForcedBy g s t [c] q) cores seqs := by
  rcases maxSafeSeqs_cases g s t X seqs h with rfl | ⟨es, X', si, ti, hsub, htab, hm⟩
  · exact ⟨[], List.nodup_nil, fun _ hc => (nomatch hc), .nil⟩
  · obtain ⟨hs, ht⟩ := idomTables_sound g hg s t _ _ _ _ _ _ _ htab (fun _ _ => Iff.rfl) (fun _ _ => Iff.rfl)
      (fun e d hm => (nomatch hm)) (fun e d hm => (nomatch hm))
    obtain ⟨cores, hnd, hX, hal⟩ := maxSeqsFromIdoms_cores g s t si ti hs ht X' seqs hm
    exact ⟨cores, hnd, fun c hc => hsub c (hX c hc), hal⟩

theorem maxSafeSeqs_safe (g : Graph) (hg : GraphWF g) (s t : Node) (X : List Edge) (seqs : List (List Edge))
    (h : maxSafeSeqs g s t X = .ok seqs) : ∀ q ∈ seqs, ∃ c ∈ X, ForcedBy g s t [c] q := by
  obtain ⟨cores, _, hX, hal⟩ := maxSafeSeqs_cores g hg s t X seqs h
  intro q hq
  obtain ⟨c, hc, _, hf⟩ := hal.exists_left q hq
  exact ⟨c, hX c hc, hf⟩

/-- What `get_longest_incompatible_sequences` may assume of its input: the sequences come with pairwise different
edges (their cores), each sequence contains its core and occurs in every source-to-sink walk through its core -/
def CoreFamily (g : Graph) (s t : Node) (seqs : List (List Edge)) : Prop :=
  ∃ core : Nat → Edge,
    (∀ i j, i < seqs.length → j < seqs.length → i ≠ j → core i ≠ core j) ∧
    ∀ i, i < seqs.length → core i ∈ seqs.getD i [] ∧ ForcedBy g s t [core i] (seqs.getD i [])

theorem maxSafeSeqs_coreFamily (g : Graph) (hg : GraphWF g) (s t : Node) (X : List Edge)
    (seqs : List (List Edge)) (h : maxSafeSeqs g s t X = .ok seqs) : CoreFamily g s t seqs := by
  obtain ⟨cores, hnd, _, hal⟩ := maxSafeSeqs_cores g hg s t X seqs h
  have hlen := hal.length_eq
  refine ⟨fun i => cores.getD i ("", ""), ?_, hal.getD ("", "") []⟩
  intro i j hi hj hij heq
  apply hij
  have hi' : i < cores.length := by omega
  have hj' : j < cores.length := by omega
  simp only [getD_eq_getElem cores _ hi', getD_eq_getElem cores _ hj'] at heq
  exact (List.getElem?_inj hi' hnd).1 (by rw [List.getElem?_eq_getElem hi', List.getElem?_eq_getElem hj', heq])

end FP.Safety
