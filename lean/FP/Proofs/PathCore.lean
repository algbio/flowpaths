import FP.Proofs.PathCoreEnc
import FP.Proofs.Augment
/-!
# FP.Proofs.PathCore — soundness of `_encode_paths` on a well-formed s-t DAG

`decodeLayer` follows successors of value `1` from the source. On a layer that is a 0/1 unit flow this reaches
the sink along a simple path; the layer minus the indicator of that path is a flow of value zero, hence zero.
So the 0/1 unit flows are exactly the indicators `trav s p` of routes (`layer_sound`, `layerFacts_of_trav`), and whatever
`decodePaths` returns on a satisfying assignment of `_encode_paths` are routes with the edge variables as indicators (`routes_of_decode`, `decode_routes`).
-/
namespace FP
open FP.Spec

theorem trav_eq_cntR (s : STGraph) (p : List Node) (e : Edge) :
    trav s p e = cntR (walkEdges (full s p)) e :=
  traversals_eq_cntR _ e

theorem trav_nonneg (s : STGraph) (p : List Node) (e : Edge) : 0 ≤ trav s p e := Rat.natCast_nonneg

section
variable {s : STGraph} {ae : Bool} {p : List Node}

theorem trav_eq_zero_of_not_mem {e : Edge} (h : e ∉ walkEdges (full s p)) : trav s p e = 0 := by
  rw [trav_eq_cntR, cntR_not_mem _ e h]

/-- `full s []` traverses only `(source, sink)`, which `noDirect` excludes -/
theorem trav_empty (hwf : STWF s) (e : Edge) (he : e ∈ s.g.edges) : trav s [] e = 0 :=
  trav_eq_zero_of_not_mem fun hm => hwf.noDirect (List.mem_singleton.1 hm ▸ he)

theorem route_cases (h : Route s ae p) :
    p = [] ∨ (p ≠ [] ∧ IsWalkIn s.g (full s p) ∧ (full s p).Nodup) := by
  rcases h with h | h
  · exact Or.inl h.1
  · exact Or.inr h

/-- also the wrapped empty route `[source, sink]` has no repeated node -/
theorem route_nodup (hwf : STWF s) (h : Route s ae p) : (full s p).Nodup :=
  h.elim (fun h => by simp [h.1, full, hwf.ne]) (·.2.2)

theorem trav_of_route (hwf : STWF s) (h : Route s ae p) (e : Edge) :
    trav s p e = if e ∈ walkEdges (full s p) then 1 else 0 := by
  rw [trav_eq_cntR, cntR_of_nodup _ (walkEdges_nodup (route_nodup hwf h))]

theorem trav01 (hwf : STWF s) (h : Route s ae p) (e : Edge) : trav s p e = 0 ∨ trav s p e = 1 := by
  rw [trav_of_route hwf h e]; split <;> simp

theorem Route.walk_of_ne (h : Route s ae p) (hp : p ≠ []) : IsWalkIn s.g (full s p) :=
  h.elim (fun h => absurd h.1 hp) fun h => h.2.1

theorem Route.walk (h : Route s false p) : IsWalkIn s.g (full s p) :=
  h.elim (fun h => nomatch h.2) fun h => h.2.1

theorem mem_of_trav_ne_zero {e : Edge} (h : trav s p e ≠ 0) : e ∈ walkEdges (full s p) :=
  Classical.byContradiction fun hn => h (trav_eq_zero_of_not_mem hn)

theorem route_src (hwf : STWF s) (h : Route s ae p) :
    outflow s.g (trav s p) s.source = if p = [] then 0 else 1 := by
  rcases route_cases h with rfl | ⟨hp, hwalk, hnd⟩
  · exact sum_map_zero (fun e he => trav_empty hwf e (List.mem_filter.1 he).1)
  · rw [if_neg hp, funext (trav_eq_cntR s p)]
    exact path_src hwf.edgesNodup hwalk
      fun hm => (List.nodup_cons.1 hnd).1 (List.mem_append_left _ hm)

theorem layerFacts_of_trav (hwf : STWF s) (h : Route s ae p) : LayerFacts s ae (trav s p) := by
  refine ⟨fun e _ => trav01 hwf h e, ?_, fun v _ h1 h2 => ?_⟩
  · rw [route_src hwf h]
    rcases h with ⟨rfl, rfl⟩ | ⟨hp, _⟩
    · decide
    · rw [if_neg hp]; split <;> simp
  · rcases route_cases h with rfl | ⟨_, hwalk, _⟩
    · exact (sum_map_zero (fun e he => trav_empty hwf e (List.mem_filter.1 he).1)).trans
        (sum_map_zero (fun e he => trav_empty hwf e (List.mem_filter.1 he).1)).symm
    · rw [funext (trav_eq_cntR s p)]
      exact path_cons hwf.edgesNodup hwalk h1 h2

end

section Layer
variable {s : STGraph} {X : Edge → Nat → Rat} {i : Nat} {ae : Bool}

theorem nextOn_some {v w : Node} (h : nextOn s X i v = some w) :
    (v, w) ∈ s.g.edges ∧ X (v, w) i = 1 := by
  unfold nextOn at h
  exact ⟨mem_succ.1 (List.mem_of_find?_eq_some h), by simpa using List.find?_some h⟩

theorem outflow_zero_of_nextOn_none (hf : LayerFacts s ae (fun e => X e i)) {v : Node}
    (h : nextOn s X i v = none) : outflow s.g (fun e => X e i) v = 0 := by
  unfold nextOn at h
  rw [List.find?_eq_none] at h
  apply sum_map_zero
  intro e he
  have hm := List.mem_filter.1 he
  have h1 : e.1 = v := by simpa using hm.2
  have h2 : e.2 ∈ s.g.succ v := mem_succ.2 (by rw [← h1]; exact hm.1)
  have h3 := h e.2 h2
  rw [← h1] at h3
  rcases hf.bin e hm.1 with h0 | h0
  · exact h0
  · exact absurd (by simpa using h0) h3

/-- the invariant of `follow_exists`: conservation at `w` and the in-flow `X (v, w) = 1` give `w` a successor -/
theorem step_ok (hwf : STWF s) (hf : LayerFacts s ae (fun e => X e i)) {v w : Node}
    (h : nextOn s X i v = some w) : w = s.sink ∨ ∃ w', nextOn s X i w = some w' := by
  obtain ⟨he, hx⟩ := nextOn_some h
  by_cases hs : w = s.sink
  · exact Or.inl hs
  · right
    cases hn : nextOn s X i w with
    | some w' => exact ⟨w', rfl⟩
    | none =>
      have h0 := outflow_zero_of_nextOn_none hf hn
      rw [← hf.cons w (hwf.closed _ he).2 (hwf.srcNoIn _ he) hs] at h0
      have hle : X (v, w) i ≤ inflow s.g (fun e => X e i) w := le_inflow_of_mem hf.nonneg he
      rw [h0, hx] at hle
      exact absurd hle (by decide)

/-- number of nodes of rank above that of `v`: the fuel needed from `v` -/
def above (s : STGraph) (rank : Node → Nat) (v : Node) : Nat :=
  s.g.nodes.countP (fun u => rank v < rank u)

theorem above_lt (hwf : STWF s) (rank : Node → Nat) (hr : ∀ e ∈ s.g.edges, rank e.1 < rank e.2)
    {v w : Node} (he : (v, w) ∈ s.g.edges) : above s rank w < above s rank v := by
  have hvw : rank v < rank w := hr _ he
  refine countP_lt_countP _ _ _ (fun u _ hu => ?_) w (hwf.closed _ he).2 (by simpa using hvw) (by simp)
  have : rank w < rank u := by simpa using hu
  simp; omega

theorem follow_exists (hwf : STWF s) (hf : LayerFacts s ae (fun e => X e i)) (rank : Node → Nat)
    (hr : ∀ e ∈ s.g.edges, rank e.1 < rank e.2) (n : Nat) (v : Node) (acc : List Node) :
    (v = s.sink ∨ ∃ w, nextOn s X i v = some w) → above s rank v < n →
      ∃ t, follow s X i n v acc = some (acc ++ t) ∧
        (∀ e ∈ walkEdges (v :: t), e ∈ s.g.edges ∧ X e i = 1) ∧ (v :: t).getLast? = some s.sink := by
  fun_induction follow s X i n v acc with
  | case1 => exact fun _ h => nomatch h
  | case2 => exact fun _ _ => ⟨[], by simp, by simp [Safety.we_single], rfl⟩
  | case3 n v acc hvs hn =>
    intro hv _
    obtain ⟨w, hw⟩ := hv.resolve_left hvs
    cases hn.symm.trans hw
  | case4 n v acc hvs w hw ih =>
    intro _ hlt
    obtain ⟨he, hx⟩ := nextOn_some hw
    have hlt' := above_lt hwf rank hr he
    obtain ⟨t, ht, hch, hlast⟩ := ih (step_ok hwf hf hw) (by omega)
    refine ⟨w :: t, by rw [ht]; simp, ?_, ?_⟩
    · intro e hmem
      rw [we_cons_cons] at hmem
      rcases List.mem_cons.1 hmem with rfl | hmem
      · exact ⟨he, hx⟩
      · exact hch e hmem
    · rw [List.getLast?_cons_cons]; exact hlast

theorem layer_sound (hwf : STWF s) (hf : LayerFacts s ae (fun e => X e i)) :
    ∃ p, decodeLayer s X i = some p ∧ Route s ae p ∧ ∀ e ∈ s.g.edges, X e i = trav s p e := by
  obtain ⟨rank, hr⟩ := hwf.acyclic
  unfold decodeLayer
  cases hn : nextOn s X i s.source with
  | none =>
    have h0 := outflow_zero_of_nextOn_none hf hn
    refine ⟨[], rfl, Or.inl ⟨rfl, ?_⟩, fun e he => ?_⟩
    · have := hf.src
      cases hae : ae
      · rw [hae, h0] at this
        simp only [Bool.false_eq_true, if_false] at this
        exact absurd this (by decide)
      · rfl
    · rw [trav_empty hwf e he]; exact hwf.flow_zero _ hf.nonneg hf.cons h0 e he
  | some w0 =>
    have hfuel : above s rank s.source < s.g.nodes.length + 1 :=
      Nat.lt_succ_of_le List.countP_le_length
    obtain ⟨t, ht, hch, hlast⟩ :=
      follow_exists hwf hf rank hr (s.g.nodes.length + 1) s.source [s.source] (Or.inr ⟨w0, hn⟩) hfuel
    -- the followed vertices are `p ++ [sink]`
    obtain ⟨p, rfl⟩ : ∃ p, t = p ++ [s.sink] := by
      cases t with
      | nil => exact absurd (Option.some.inj hlast) hwf.ne
      | cons b t' => exact List.getLast?_eq_some_iff.1 ((List.getLast?_cons_cons).symm.trans hlast)
    have hwalk : IsWalkIn s.g (s.source :: p ++ [s.sink]) := fun e he => (hch e he).1
    have hnd : (s.source :: p ++ [s.sink]).Nodup := nodup_of_walk rank _ (fun e he => hr e (hch e he).1)
    have hp : p ≠ [] := by rintro rfl; exact hwf.noDirect (hwalk _ List.mem_cons_self)
    refine ⟨p, ?_, Or.inr ⟨hp, hwalk, hnd⟩, ?_⟩
    · simp only
      rw [ht]
      simp
    · have hsp : s.source ∉ p := fun h => (List.nodup_cons.1 hnd).1 (List.mem_append_left _ h)
      have hPnd := walkEdges_nodup hnd
      have hw0 := nextOn_some hn
      have hsrc1 : outflow s.g (fun e => X e i) s.source = 1 := by
        have hle : X (s.source, w0) i ≤ outflow s.g (fun e => X e i) s.source :=
          le_outflow_of_mem hf.nonneg hw0.1
        rw [hw0.2] at hle
        have := hf.src
        cases ae
        · exact this
        · exact Rat.le_antisymm this hle
      -- the difference to the indicator of the path is a flow of value zero
      have hzero := hwf.flow_zero (fun e => X e i - cntR (walkEdges (s.source :: p ++ [s.sink])) e) ?_ ?_ ?_
      · intro e he
        have h0 : X e i - cntR (walkEdges (s.source :: p ++ [s.sink])) e = 0 := hzero e he
        rw [trav_eq_cntR, full]
        grind
      · intro e he
        show 0 ≤ X e i - cntR (walkEdges (s.source :: p ++ [s.sink])) e
        rw [cntR_of_nodup _ hPnd e]
        split
        · next hm => rw [(hch e hm).2, Rat.sub_self]; exact Rat.le_refl
        · have := hf.nonneg e he
          grind
      · intro v hv h1 h2
        rw [inflow_sub, outflow_sub, hf.cons v hv h1 h2, path_cons hwf.edgesNodup hwalk h1 h2]
      · rw [outflow_sub, hsrc1, path_src hwf.edgesNodup hwalk hsp, Rat.sub_self]

end Layer

theorem pathcore_sound (s : STGraph) (c : PathCfg) (a : Asg) (hwf : STWF s)
    (hsat : Sat a (encodePaths s c)) (i : Nat) (hi : i < c.k) :
    ∃ p, decodeLayer s (fun e i => a (edgeVar e i)) i = some p ∧
      (p = [] → c.allowEmpty = true ∧ ∀ e ∈ s.g.edges, a (edgeVar e i) = 0) ∧
      (p ≠ [] → IsWalkIn s.g (s.source :: p ++ [s.sink]) ∧ (s.source :: p ++ [s.sink]).Nodup ∧
        ∀ e ∈ s.g.edges, a (edgeVar e i) = if e ∈ walkEdges (s.source :: p ++ [s.sink]) then 1 else 0) := by
  obtain ⟨p, hdec, hr, hx⟩ :=
    layer_sound (X := fun e i => a (edgeVar e i)) hwf (layerFacts_of_sat hsat hi)
  refine ⟨p, hdec, fun hp => ?_, fun hp => ?_⟩
  · subst hp
    exact ⟨hr.elim (·.2) (absurd rfl ·.1), fun e he => (hx e he).trans (trav_empty hwf e he)⟩
  · obtain ⟨_, hw, hnd⟩ := hr.resolve_left (hp ·.1)
    exact ⟨hw, hnd, fun e he => (hx e he).trans (trav_of_route hwf hr e)⟩

/-- converse of `route_of_validRoute` -/
theorem validRoute_of_route {base : Graph} {starts ends : List Node} (h : BaseWF base) {ae : Bool}
    {p : List Node} (hr : Route (augment base starts ends) ae p) (hp : p ≠ []) :
    ValidRoute base starts ends p ∧ p.Nodup :=
  hr.elim (fun h0 => absurd h0.1 hp) fun ⟨_, hw, hnd⟩ =>
    ⟨validRoute_of_augWalk h hw,
      (List.nodup_append.1 (List.nodup_cons.1 hnd).2).1⟩

theorem dag_routes_valid (base : Graph) (starts ends : List Node) (c : PathCfg) (a : Asg)
    (h : BaseWF base) (hac : Acyclic base)
    (hsat : Sat a (encodePaths (augment base starts ends) c)) (i : Nat) (hi : i < c.k) :
    ∃ p, decodeLayer (augment base starts ends) (fun e i => a (edgeVar e i)) i = some p ∧
      (p = [] → c.allowEmpty = true) ∧
      (p ≠ [] → ValidRoute base starts ends p ∧ p.Nodup) := by
  obtain ⟨p, hdec, hr, _⟩ := layer_sound (X := fun e i => a (edgeVar e i))
    (h.stwf hac) (layerFacts_of_sat hsat hi)
  exact ⟨p, hdec, fun hp => hr.elim (·.2) (absurd hp ·.1), validRoute_of_route h hr⟩

theorem decodePaths_length (s : STGraph) (x : Edge → Nat → Rat) (k : Nat) (ps : List (List Node))
    (h : decodePaths s x k = some ps) : ps.length = k :=
  (mapM_range_get (decodeLayer s x) k ps [] h).1

theorem routes_of_decode (s : STGraph) (c : PathCfg) (a : Asg) (hwf : STWF s)
    (hsat : Sat a (encodePaths s c)) {ps : List (List Node)}
    (hps : decodePaths s (fun e i => a (edgeVar e i)) c.k = some ps) :
    ps.length = c.k ∧ ∀ i, i < c.k → Route s c.allowEmpty (ps.getD i []) ∧
      ∀ e ∈ s.g.edges, a (edgeVar e i) = trav s (ps.getD i []) e := by
  obtain ⟨hlen, hget⟩ := mapM_range_get _ c.k ps [] hps
  refine ⟨hlen, fun i hi => ?_⟩
  obtain ⟨p, hp, h⟩ :=
    layer_sound (X := fun e i => a (edgeVar e i)) hwf (layerFacts_of_sat hsat hi)
  rwa [← Option.some.inj (hp.symm.trans (hget i hi))]

theorem decode_routes {s : STGraph} {c : PathCfg} (a : Asg) (hwf : STWF s)
    (hsat : Sat a (encodePaths s c)) :
    ∃ ps : List (List Node), decodePaths s (fun e i => a (edgeVar e i)) c.k = some ps ∧
      ps.length = c.k ∧
      (∀ i, i < c.k → Route s c.allowEmpty (ps.getD i [])) ∧
      ∀ i, i < c.k → ∀ e ∈ s.g.edges, a (edgeVar e i) = trav s (ps.getD i []) e := by
  obtain ⟨ps, hps⟩ := mapM_option_exists (decodeLayer s fun e i => a (edgeVar e i)) (List.range c.k)
    fun i hi =>
      let ⟨p, hp, _⟩ := layer_sound (X := fun e i => a (edgeVar e i)) hwf
        (layerFacts_of_sat hsat (List.mem_range.1 hi))
      ⟨p, hp⟩
  obtain ⟨hlen, h⟩ := routes_of_decode s c a hwf hsat hps
  exact ⟨ps, hps, hlen, fun i hi => (h i hi).1, fun i hi => (h i hi).2⟩

theorem decode_valid_routes {base : Graph} {starts ends : List Node} {c : PathCfg} (a : Asg) (h : BaseWF base)
    (hac : Acyclic base) (henc : Sat a (encodePaths (augment base starts ends) c)) :
    ∃ ps : List (List Node),
      decodePaths (augment base starts ends) (fun e i => a (edgeVar e i)) c.k = some ps ∧ ps.length = c.k ∧
      (∀ i, i < c.k → Route (augment base starts ends) c.allowEmpty (ps.getD i [])) ∧
      (∀ i, i < c.k → ps.getD i [] ≠ [] →
        ValidRoute base starts ends (ps.getD i []) ∧ (ps.getD i []).Nodup) ∧
      (∀ i, i < c.k → ∀ e ∈ (augment base starts ends).g.edges,
        a (edgeVar e i) = trav (augment base starts ends) (ps.getD i []) e) := by
  obtain ⟨ps, hps, hlen, hroutes, htrav⟩ := decode_routes a (h.stwf hac) henc
  exact ⟨ps, hps, hlen, hroutes, fun i hi hne => validRoute_of_route h (hroutes i hi) hne, htrav⟩

end FP
