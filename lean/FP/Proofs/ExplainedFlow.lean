import FP.Spec.WalkDecomp
import FP.Proofs.PathCore
import FP.Spec.ErrModels
/-!
The explained value `e ↦ Σ_i w_i · m_i(e)`. `explained` (routes), `walkExplained` (walks) and `explainedM`
(multiplicity vectors) are one sum, `rfl` apart, so what needs no route is stated on `explainedM`: linear and monotone
in the weights, at least every single term. For `k` routes of an s-t DAG it is moreover a flow: conserved at every
inner node, leaving the source with at most the total weight, and with equal weights `c` it is `c` times the number
of layers through the edge. Bounds on instances are proved from these facts about *solutions* and carried to the LP
by the soundness theorems. "At least every single term" is what makes the repetition caps of the cyclic models adequate: a walk of
weight at least `δ` runs through `e` at most `f(e)/δ` times (`cap_adequate_min_weight`, `_int`, `_floor`).
-/
namespace FP
open FP.Spec

section
variable (k : Nat) (m : Nat → Edge → Nat) (w w' : Nat → Rat) (e : Edge)

theorem explainedM_succ : explainedM (k + 1) m w e = explainedM k m w e + w k * (m k e : Rat) := by
  unfold explainedM
  rw [List.range_succ, List.map_append, List.sum_append]
  simp [Rat.add_zero]

theorem explainedM_one : explainedM 1 m w e = w 0 * (m 0 e : Rat) := by
  rw [explainedM_succ]; exact Rat.zero_add _

theorem explainedM_sub : explainedM k m (fun i => w i - w' i) e = explainedM k m w e - explainedM k m w' e := by
  unfold explainedM
  rw [← sum_map_sub]
  exact congrArg List.sum (List.map_congr_left fun i _ => by grind)

theorem explainedM_zero : explainedM k m (fun _ => 0) e = 0 :=
  sum_map_zero fun _ _ => Rat.zero_mul _

theorem explainedM_nonneg (hw : ∀ i, i < k → 0 ≤ w i) : 0 ≤ explainedM k m w e :=
  sum_map_nonneg fun i hi => Rat.mul_nonneg (hw i (List.mem_range.1 hi)) Rat.natCast_nonneg

theorem explainedM_mono (h : ∀ i, i < k → w i ≤ w' i) : explainedM k m w e ≤ explainedM k m w' e :=
  sum_map_le fun i hi => Rat.mul_le_mul_of_nonneg_right (h i (List.mem_range.1 hi)) Rat.natCast_nonneg

theorem explainedM_congr {m' : Nat → Edge → Nat} (h : ∀ i, i < k → w i * (m i e : Rat) = w' i * (m' i e : Rat)) :
    explainedM k m w e = explainedM k m' w' e :=
  congrArg List.sum (List.map_congr_left fun i hi => h i (List.mem_range.1 hi))

theorem explainedM_term_le (hw : ∀ i, i < k → 0 ≤ w i) (i : Nat) (hi : i < k) :
    w i * (m i e : Rat) ≤ explainedM k m w e :=
  le_sum_of_mem (fun j => w j * (m j e : Rat))
    (fun j hj => Rat.mul_nonneg (hw j (List.mem_range.1 hj)) Rat.natCast_nonneg) (List.mem_range.2 hi)

end

section
variable (s : STGraph) (k : Nat) (P : Nat → List Node) (w w' : Nat → Rat) (e : Edge)

theorem explained_succ : explained s (k + 1) P w e = explained s k P w e + w k * trav s (P k) e :=
  explainedM_succ k _ w e

theorem explained_sub : explained s k P (fun i => w i - w' i) e = explained s k P w e - explained s k P w' e :=
  explainedM_sub k _ w w' e

theorem explained_zero : explained s k P (fun _ => 0) e = 0 := explainedM_zero k _ e

theorem explained_nonneg (hw : ∀ i, i < k → 0 ≤ w i) : 0 ≤ explained s k P w e := explainedM_nonneg k _ w e hw

theorem explained_mono (h : ∀ i, i < k → w i ≤ w' i) : explained s k P w e ≤ explained s k P w' e :=
  explainedM_mono k _ w w' e h

/-- a route through `e` contributes its whole weight -/
theorem le_explained (hw : ∀ i, i < k → 0 ≤ w i) (i : Nat) (hi : i < k) (ht : trav s (P i) e = 1) :
    w i ≤ explained s k P w e := by
  have := explainedM_term_le k (multsOf s.source s.sink P) w e hw i hi
  rwa [show ((multsOf s.source s.sink P i e : Nat) : Rat) = 1 from ht, Rat.mul_one] at this

/-- an edge that every route uses at most once carries at most the total weight -/
theorem explained_le_sum (h01 : ∀ i, i < k → trav s (P i) e = 0 ∨ trav s (P i) e = 1)
    (hw : ∀ i, i < k → 0 ≤ w i) : explained s k P w e ≤ ((List.range k).map w).sum :=
  sum_map_le fun i hi => by
    have h0 := hw i (List.mem_range.1 hi)
    rcases h01 i (List.mem_range.1 hi) with h | h <;> rw [h]
    · rwa [Rat.mul_zero]
    · rw [Rat.mul_one]; exact Rat.le_refl

end

theorem explained_congr (s : STGraph) (k : Nat) (P P' : Nat → List Node) (w w' : Nat → Rat) (e : Edge)
    (h : ∀ i, i < k → w i * trav s (P i) e = w' i * trav s (P' i) e) :
    explained s k P w e = explained s k P' w' e :=
  explainedM_congr k _ w w' e h

section
variable {s : STGraph} {ae : Bool} (hwf : STWF s) (P : Nat → List Node) (w : Nat → Rat)
include hwf

theorem explained_flow (v : Node) (hv : v ∈ s.g.nodes) (h1 : v ≠ s.source) (h2 : v ≠ s.sink) :
    ∀ k, (∀ i, i < k → Route s ae (P i)) →
      inflow s.g (explained s k P w) v = outflow s.g (explained s k P w) v := by
  intro k
  induction k with
  | zero => intro _; exact (sum_map_zero fun _ _ => rfl).trans (sum_map_zero fun _ _ => rfl).symm
  | succ k ih =>
    intro hr
    have hc := (layerFacts_of_trav hwf (hr k (Nat.lt_succ_self k))).cons v hv h1 h2
    have ih := ih fun i hi => hr i (Nat.lt_succ_of_lt hi)
    rw [funext (explained_succ s k P w), inflow_add, outflow_add, inflow_mul_left, outflow_mul_left, hc, ih]

/-- what leaves the source is the weight of the used layers -/
theorem explained_src_le : ∀ k, (∀ i, i < k → Route s ae (P i) ∧ 0 ≤ w i) →
    outflow s.g (explained s k P w) s.source ≤ ((List.range k).map w).sum := by
  intro k
  induction k with
  | zero =>
    intro _
    have : outflow s.g (explained s 0 P w) s.source = 0 := sum_map_zero fun _ _ => rfl
    rw [this]; exact Rat.le_refl
  | succ k ih =>
    intro hr
    obtain ⟨hk, hw⟩ := hr k (Nat.lt_succ_self k)
    have ih := ih fun i hi => hr i (Nat.lt_succ_of_lt hi)
    have hs := route_src hwf hk
    rw [funext (explained_succ s k P w), outflow_add, outflow_mul_left, hs, List.range_succ, List.map_append,
      List.sum_append]
    simp only [List.map_cons, List.map_nil, List.sum_cons, List.sum_nil, Rat.add_zero]
    refine Rat.le_trans (Rat.add_le_add_right.2 ih) (Rat.add_le_add_left.2 ?_)
    split
    · rw [Rat.mul_zero]; exact hw
    · rw [Rat.mul_one]; exact Rat.le_refl

theorem explained_const (c : Rat) (e : Edge) :
    ∀ k, (∀ i, i < k → Route s ae (P i) ∧ w i = c) → ∃ n : Nat, n ≤ k ∧ explained s k P w e = c * n := by
  intro k
  induction k with
  | zero => intro _; exact ⟨0, Nat.le_refl 0, (Rat.mul_zero c).symm⟩
  | succ k ih =>
    intro hr
    obtain ⟨n, hn, hE⟩ := ih fun i hi => hr i (Nat.lt_succ_of_lt hi)
    obtain ⟨hk, hw⟩ := hr k (Nat.lt_succ_self k)
    rw [explained_succ, hE, hw]
    rcases trav01 hwf hk e with h | h <;> rw [h]
    · exact ⟨n, Nat.le_succ_of_le hn, by rw [Rat.mul_zero, Rat.add_zero]⟩
    · exact ⟨n + 1, Nat.succ_le_succ hn, by rw [Rat.natCast_add, Rat.mul_add]; rfl⟩

end

theorem cap_adequate_min_weight (k : Nat) (m : Nat → Edge → Nat) (w : Nat → Rat) (fe δ : Rat) (e : Edge)
    (hw0 : ∀ j, j < k → 0 ≤ w j) (hdec : explainedM k m w e = fe)
    (i : Nat) (hi : i < k) (hw : δ ≤ w i) : δ * (m i e : Rat) ≤ fe := by
  rw [← hdec]
  exact Rat.le_trans (Rat.mul_le_mul_of_nonneg_right hw Rat.natCast_nonneg)
    (explainedM_term_le k m w e hw0 i hi)

theorem cap_adequate_int (k : Nat) (m : Nat → Edge → Nat) (w : Nat → Rat) (fe : Rat) (e : Edge)
    (hw0 : ∀ j, j < k → 0 ≤ w j) (hdec : explainedM k m w e = fe)
    (i : Nat) (hi : i < k) (hw : 1 ≤ w i) : (m i e : Rat) ≤ fe := by
  have h := cap_adequate_min_weight k m w fe 1 e hw0 hdec i hi hw
  rwa [Rat.one_mul] at h

theorem cap_adequate_floor (k : Nat) (m : Nat → Edge → Nat) (w : Nat → Rat) (fe : Rat) (e : Edge)
    (hw0 : ∀ j, j < k → 0 ≤ w j) (hdec : explainedM k m w e = fe)
    (i : Nat) (hi : i < k) (hw : 1 ≤ w i) : (m i e : Rat) ≤ ((fe.floor : Int) : Rat) :=
  natCast_le_floor (cap_adequate_int k m w fe e hw0 hdec i hi hw)

end FP
