import FP.Proofs.SafetyGraph
/-!
If every entry of the two tables is an arc dominator (`SIdomSound`, `TIdomSound`), the sequences assembled by
`maximal_safe_sequences_via_dominators` (`s_doms[::-1] + t_doms[1:]` of a core) come one per core; the cores are
distinct members of `X`, and each sequence contains its core and is contained, in order, in every source-to-sink
walk through its core. Which leaves of the tree `filterCores` keeps (`dfsX`, `isCore`) plays no part: only that they
are taken from `X` without repetition.
-/
namespace FP.Safety
open FP.Spec

/-- `s_idoms[e]`, when an arc, lies on every walk from the source to the tail of `e` -/
def SIdomSound (g : Graph) (s : Node) (si : IdomTable Node) : Prop :=
  ∀ e d, (e, TNode.arc d) ∈ si → Thru (· ∈ g.edges) s e.1 [d]

/-- `t_idoms[e]`, when an arc, lies on every walk from the head of `e` to the sink -/
def TIdomSound (g : Graph) (t : Node) (ti : IdomTable Node) : Prop :=
  ∀ e d, (e, TNode.arc d) ∈ ti → Thru (· ∈ g.edges) e.2 t [d]

/-- `get_dominators` follows the table from `a` up to the root: it appends `a :: ch`, and a property that
holds of the empty chain and is carried back along every table entry holds of `ch` -/
theorem getDominators_chain (tbl : IdomTable Node) (P : Edge → List Edge → Prop) (h0 : ∀ a, P a [])
    (hstep : ∀ a b ch, (a, TNode.arc b) ∈ tbl → P b ch → P a (b :: ch)) :
    ∀ n a acc r, getDominators tbl n a acc = .ok r → ∃ ch, r = acc ++ a :: ch ∧ P a ch := by
  intro n a acc r
  fun_induction getDominators tbl n a acc with
  | case1 => exact nofun
  | case2 => exact nofun
  | case3 n a acc hroot =>
    intro h
    cases h
    exact ⟨[], rfl, h0 a⟩
  | case4 n a acc b hb ih =>
    intro h
    obtain ⟨ch', hr, hch⟩ := ih h
    exact ⟨b :: ch', by rw [hr]; simp, hstep a b ch' (mem_of_lookup_eq_some hb) hch⟩

theorem dominators_forced (g : Graph) (s t : Node) (si ti : IdomTable Node) (hs : SIdomSound g s si)
    (ht : TIdomSound g t ti) (n : Nat) (c : Edge) (sd td : List Edge)
    (hsd : getDominators si n c [] = .ok sd) (htd : getDominators ti n c [] = .ok td) :
    c ∈ sd.reverse ++ td.drop 1 ∧ ForcedBy g s t [c] (sd.reverse ++ td.drop 1) := by
  -- the chain above `c` in `si`, reversed, lies on every walk from `s` to the tail of `c`
  obtain ⟨chs, rfl, hchs⟩ := getDominators_chain si (fun a ch => Thru (· ∈ g.edges) s a.1 ch.reverse)
    (fun _ => .nil) (fun a b ch hm hch => by rw [List.reverse_cons]; exact (hs a b hm).mid hch .nil) n c [] sd hsd
  -- the chain above `c` in `ti` lies on every walk from the head of `c` to `t`
  obtain ⟨cht, rfl, hcht⟩ := getDominators_chain ti (fun a ch => Thru (· ∈ g.edges) a.2 t ch)
    (fun _ => .nil) (fun a b ch hm hch => (ht a b hm).mid .nil hch) n c [] td htd
  refine ⟨by simp, ?_⟩
  simpa using forcedBy_of_thru (item := [c]) rfl rfl hchs hcht

inductive Aligned {α β : Type} (R : α → β → Prop) : List α → List β → Prop
  | nil : Aligned R [] []
  | cons {a b l1 l2} : R a b → Aligned R l1 l2 → Aligned R (a :: l1) (b :: l2)

theorem Aligned.length_eq {α β : Type} {R : α → β → Prop} {l1 : List α} {l2 : List β}
    (h : Aligned R l1 l2) : l1.length = l2.length := by
  induction h with
  | nil => rfl
  | cons _ _ ih => simp [ih]

theorem Aligned.getD {α β : Type} {R : α → β → Prop} (da : α) (db : β) {l1 : List α} {l2 : List β}
    (h : Aligned R l1 l2) : ∀ i, i < l2.length → R (l1.getD i da) (l2.getD i db) := by
  induction h with
  | nil => intro i hi; simp at hi
  | cons hab _ ih =>
    intro i hi
    cases i with
    | zero => simpa using hab
    | succ i => simpa using ih i (by simpa using hi)

theorem Aligned.exists_left {α β : Type} {R : α → β → Prop} {l1 : List α} {l2 : List β}
    (h : Aligned R l1 l2) : ∀ b ∈ l2, ∃ a ∈ l1, R a b := by
  induction h with
  | nil => intro b hb; simp at hb
  | cons hab _ ih =>
    intro b hb
    rcases List.mem_cons.1 hb with rfl | hb
    · exact ⟨_, List.mem_cons_self, hab⟩
    · obtain ⟨a, ha, hr⟩ := ih b hb
      exact ⟨a, List.mem_cons_of_mem _ ha, hr⟩

theorem filterCores_sublist (T : Trees Node) (X : List Edge) (fuel : Nat) : ∀ ls cs,
    filterCores T X fuel ls = .ok cs → (cs.map TNode.arc).Sublist ls := by
  intro ls
  induction ls with
  | nil => intro cs h; obtain rfl := Res.ok.inj h; exact List.Sublist.slnil
  | cons l ls ih =>
    intro cs h
    unfold filterCores at h
    obtain ⟨b, -, h⟩ := Res.bind_eq_ok.1 h
    obtain ⟨rest, h2, h⟩ := Res.bind_eq_ok.1 h
    have hrest := ih rest h2
    cases l with
    | root => obtain rfl := Res.ok.inj h; exact hrest.cons _
    | arc a =>
      obtain rfl := Res.ok.inj h
      cases b
      · exact hrest.cons _
      · exact hrest.cons_cons _

theorem sequencesOf_forced (g : Graph) (s t : Node) (T : Trees Node) (hs : SIdomSound g s T.sIdom)
    (ht : TIdomSound g t T.tIdom) (fuel : Nat) : ∀ cs seqs, sequencesOf T fuel cs = .ok seqs →
    Aligned (fun c q => c ∈ q ∧ ForcedBy g s t [c] q) cs seqs := by
  intro cs
  induction cs with
  | nil => intro seqs h; obtain rfl := Res.ok.inj h; exact .nil
  | cons c cs ih =>
    intro seqs h
    unfold sequencesOf at h
    obtain ⟨sd, h1, h⟩ := Res.bind_eq_ok.1 h
    obtain ⟨td, h2, h⟩ := Res.bind_eq_ok.1 h
    obtain ⟨rest, h3, h⟩ := Res.bind_eq_ok.1 h
    obtain rfl := Res.ok.inj h
    exact .cons (dominators_forced g s t _ _ hs ht fuel c sd td h1 h2) (ih rest h3)

theorem maxSeqsFromIdoms_cores (g : Graph) (s t : Node) (si ti : IdomTable Node)
    (hs : SIdomSound g s si) (ht : TIdomSound g t ti) (X : List Edge) (seqs : List (List Edge))
    (h : maxSeqsFromIdoms si ti X = .ok seqs) :
    ∃ cores : List Edge, cores.Nodup ∧ (∀ c ∈ cores, c ∈ X) ∧
      Aligned (fun c q => c ∈ q ∧ ForcedBy g s t [c] q) cores seqs := by
  unfold maxSeqsFromIdoms at h
  simp only at h
  split at h
  · rename_i sp tp _ _
    obtain ⟨cores, h1, h⟩ := Res.bind_eq_ok.1 h
    -- the leaves are `X.eraseDups` and the root; dropping the root leaves the cores inside `X.eraseDups`
    let unarc : TNode Node → Option Edge := fun x => match x with | .arc e => some e | .root => none
    have hun : ∀ l : List Edge, (l.map TNode.arc).filterMap unarc = l := fun l => by
      rw [List.filterMap_map]; exact List.filterMap_some
    have hsub := ((filterCores_sublist _ _ _ _ _ h1).trans List.filter_sublist).filterMap unarc
    rw [List.filterMap_append, hun, hun] at hsub
    replace hsub : cores.Sublist X.eraseDups := by simpa [unarc] using hsub
    exact ⟨cores, hsub.nodup (nodup_eraseDups X), fun c hc => List.mem_eraseDups.1 (hsub.subset hc),
      sequencesOf_forced g s t ⟨si, ti, sp, tp⟩ hs ht _ cores seqs h⟩
  · cases h

end FP.Safety
