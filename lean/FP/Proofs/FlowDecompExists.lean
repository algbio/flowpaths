import FP.Proofs.Decomp
import FP.Proofs.FlowPeel
import FP.Proofs.FlowExtend
import FP.Proofs.KFD
/-!
# FP.Proofs.FlowDecompExists — the flow decomposition theorem on s-t DAGs

A non-negative flow on a well-formed s-t DAG that is conserved at every inner node is a sum of at most
`#inner edges with positive flow` weighted source-to-sink paths with positive weights (integers when
the flow is integral): `flow_pieces` (FlowPeel) where no closed walk can occur. "Inner" = neither leaving the synthetic source nor entering the synthetic sink;
the bound in terms of inner edges needs the shape `augment` produces without additional starts/ends:
a node fed by the source has no other in-edge, a node feeding the sink no other out-edge, and isolated
nodes carry no flow.

With subpath constraints `|E| + #constraints` paths suffice: a decomposition that ignores the
constraints plus one path of weight 0 per constraint (`add_constraint_paths`).
-/
namespace FP
open FP.Spec

def ExplainsL (s : STGraph) (D : List (List Node × Rat)) (φ : Edge → Rat) : Prop :=
  ∀ e ∈ s.g.edges,
    (D.map fun d => d.2 * ((traversals (s.source :: d.1 ++ [s.sink]) e : Nat) : Rat)).sum = φ e

/-- On a DAG every piece of `flow_pieces` is a path. -/
theorem flow_decomp_general (s : STGraph) (hwf : STWF s) (hth : Thin s) (isInt : Bool) :
    ∀ (φ : Edge → Rat), FlowOn s φ →
      (isInt = true → ∀ e ∈ s.g.edges, ∃ z : Int, φ e = z) →
      ∃ D : List (List Node × Rat), D.length ≤ posInner s φ ∧
        (∀ d ∈ D, IsWalkIn s.g (s.source :: d.1 ++ [s.sink]) ∧ 0 < d.2 ∧
          (isInt = true → ∃ z : Int, d.2 = z)) ∧
        ExplainsL s D φ := by
  intro φ hf hint
  obtain ⟨D, hlen, hD, hex⟩ := flow_pieces s hwf.toC hth isInt φ hf hint
  have hpath : ∀ d ∈ D, s.source :: d.1.tail.dropLast ++ [s.sink] = d.1 := fun d hd => by
    obtain ⟨p, hp⟩ := hwf.piece_path (hD d hd).1
    rw [hp]; simp
  refine ⟨D.map fun d => (d.1.tail.dropLast, d.2), by rwa [List.length_map], fun d' hd' => ?_, fun e he => ?_⟩
  · obtain ⟨d, hd, rfl⟩ := List.mem_map.1 hd'
    obtain ⟨hp, _, hw, hz⟩ := hD d hd
    exact ⟨by rw [hpath d hd]; exact hp.1, hw, hz⟩
  · rw [← hex e he, List.map_map]
    exact congrArg List.sum (List.map_congr_left fun d hd => by
      show d.2 * ((traversals (s.source :: d.1.tail.dropLast ++ [s.sink]) e : Nat) : Rat) = _
      rw [hpath d hd, traversals_eq_cntR])

/-- a non-negative flow on the user's DAG, conserved at every node that has both in- and out-edges;
no additional starts/ends (the edge-weighted `MinFlowDecomp`) -/
structure ConservingInput (inp : FlowInput) : Prop where
  noStarts : inp.starts = []
  noEnds : inp.ends = []
  nonneg : ∀ e ∈ inp.base.edges, 0 ≤ inp.f e
  cons : ∀ v ∈ inp.base.nodes, inp.base.pred v ≠ [] → inp.base.succ v ≠ [] →
    inflow inp.base inp.f v = outflow inp.base inp.f v

/-- the augmentation without additional starts and ends is thin -/
theorem thin_augment {b : Graph} (h : BaseWF b) {st en : List Node} (hs : st = []) (hen : en = []) :
    Thin (augment b st en) where
  s1 := by
    intro v hsv u huv
    obtain ⟨hv, hp⟩ := aug_edge_src h hsv
    have hp := hp.resolve_right (hs ▸ List.not_mem_nil)
    rcases (aug_mem_edges' h).1 huv with hb | ⟨h1, _⟩ | ⟨h2, _⟩
    · exact absurd (mem_pred.2 hb) (by rw [hp]; exact List.not_mem_nil)
    · exact h1
    · exact absurd ((h2 : v = snkName) ▸ hv) h.freshSnk
  s2 := by
    intro v hvs x hvx
    obtain ⟨hv, hp⟩ := aug_edge_snk h hvs
    have hp := hp.resolve_right (hen ▸ List.not_mem_nil)
    rcases (aug_mem_edges' h).1 hvx with hb | ⟨h1, _⟩ | ⟨h2, _⟩
    · exact absurd (mem_succ.2 hb) (by rw [hp]; exact List.not_mem_nil)
    · exact absurd ((h1 : v = srcName) ▸ hv) h.freshSrc
    · exact h2

section Ext
variable {inp : FlowInput} (h : BaseWF inp.base)
include h

theorem inner_is_base (e : Edge) (he : e ∈ inp.st.g.edges) (hi : isInner inp.st e = true) :
    e ∈ inp.base.edges := by
  have hi' : e.1 ≠ inp.st.source ∧ e.2 ≠ inp.st.sink := by
    simpa only [isInner, Bool.and_eq_true, decide_eq_true_eq] using hi
  exact (aug_inner_edge_iff h).1 ⟨he, hi'⟩

theorem snk_edge (hen : inp.ends = []) {v : Node} (he : (v, snkName) ∈ inp.st.g.edges) :
    v ∈ inp.base.nodes ∧ inp.base.succ v = [] :=
  let ⟨hv, hp⟩ := aug_edge_snk h he
  ⟨hv, hp.resolve_right (hen ▸ List.not_mem_nil)⟩

theorem thin_st (hs : inp.starts = []) (hen : inp.ends = []) : Thin inp.st := thin_augment h hs hen

theorem flowOn_extendUser (hci : ConservingInput inp) :
    FlowOn inp.st (extendUser inp.base inp.f) := by
  have hin0 : ∀ v, 0 ≤ inSum inp.base inp.f v := fun v =>
    sum_map_nonneg fun e he => hci.nonneg e (List.mem_filter.1 he).1
  have hout0 : ∀ v, 0 ≤ outSum inp.base inp.f v := fun v =>
    sum_map_nonneg fun e he => hci.nonneg e (List.mem_filter.1 he).1
  have hfl : IsFlow inp.st.g (extendUser inp.base inp.f) :=
    isFlow_extendUser h inp.f hci.nonneg
      (fun v hv ho _ => by
        by_cases hp : inp.base.pred v = []
        · have e : inSum inp.base inp.f v = 0 := inflow_zero_of_no_pred _ _ v hp
          rw [e]; exact hout0 v
        · have e : inSum inp.base inp.f v = outSum inp.base inp.f v :=
            hci.cons v hv hp fun hs => ho (List.map_eq_nil_iff.1 hs)
          rw [e]; exact Rat.le_refl)
      (fun v hv hi _ => by
        by_cases hs : inp.base.succ v = []
        · have e : outSum inp.base inp.f v = 0 := outflow_zero_of_no_succ _ _ v hs
          rw [e]; exact hin0 v
        · have e : inSum inp.base inp.f v = outSum inp.base inp.f v :=
            hci.cons v hv (fun hp => hi (List.map_eq_nil_iff.1 hp)) hs
          rw [e]; exact Rat.le_refl)
  refine ⟨hfl.nonneg, fun v hv h1 h2 => ?_, fun v _ hvs => ?_⟩
  · have hinner := aug_inner (st := inp.starts) (en := inp.ends) h v hv h1 h2
    exact hfl.cons v hv (fun hn => hinner.1 (List.map_eq_nil_iff.2 hn)) (fun hn => hinner.2 (List.map_eq_nil_iff.2 hn))
  · show extendUser inp.base inp.f (srcName, v) = 0
    have e : outSum inp.base inp.f v = 0 := outflow_zero_of_no_succ _ _ v (snk_edge h hci.noEnds hvs).2
    rw [extendUser_src, e]
    exact posPart_sub_of_le (hin0 v)

end Ext

/-- If the flow values of `inp` extend to a non-negative
flow on the augmented DAG that is conserved at every node of the user's graph (isolated nodes carrying
nothing), then a decomposition into at most `|E|` weighted paths exists (no subpath constraints; ignored
edges allowed — the extension fixes some value on them). -/
theorem hasDecomp_of_flow (inp : FlowInput) (h : BaseWF inp.base) (hac : Acyclic inp.base)
    (hth : Thin inp.st) (hnocons : inp.cfg.constraints = [])
    (φ : Edge → Rat) (hf : FlowOn inp.st φ) (hagree : ∀ e ∈ inp.activeEdges, φ e = inp.f e)
    (hint : inp.weightInt = true → ∀ e ∈ inp.st.g.edges, ∃ z : Int, φ e = z) :
    ∃ k, k ≤ inp.base.edges.length ∧ HasDecomp inp k := by
  have hwf : STWF inp.st := h.stwf hac
  obtain ⟨D, hlen, hD, hex⟩ := flow_decomp_general inp.st hwf hth inp.weightInt φ hf hint
  have hbound : D.length ≤ inp.base.edges.length := by
    have h1 := posInner_le inp.st φ
    have h2 : (inp.st.g.edges.filter (isInner inp.st)).length ≤ inp.base.edges.length := by
      apply (hwf.edgesNodup.sublist List.filter_sublist).length_le_of_subset
      intro e he
      have hm := List.mem_filter.1 he
      exact inner_is_base h e hm.1 hm.2
    omega
  have hmem : ∀ i, i < D.length → D.getD i ([], 0) ∈ D := fun i hi => getD_mem _ hi
  refine ⟨D.length, hbound, ?_⟩
  apply decomp_bound_wlog
  refine ⟨fun i => (D.getD i ([], 0)).1, fun i => (D.getD i ([], 0)).2, ⟨?_, ?_, ?_, ?_, ?_⟩⟩
  · exact fun i hi => (hD _ (hmem i hi)).1
  · exact fun i hi => Rat.le_of_lt (hD _ (hmem i hi)).2.1
  · exact fun hI i hi => (hD _ (hmem i hi)).2.2 hI
  · intro e he
    rw [← hagree e he, ← hex e (active_mem he).1]
    exact congrArg List.sum (map_range_getD D ([], 0)
      (fun d => d.2 * ((traversals (inp.st.source :: d.1 ++ [inp.st.sink]) e : Nat) : Rat)))
  · intro con hcon
    rw [hnocons] at hcon; cases hcon

def FlowInput.noCons (inp : FlowInput) : FlowInput :=
  { inp with cfg := { inp.cfg with constraints := [] } }

/-- every subpath constraint lies on some source-to-sink path (necessary for any decomposition) -/
def Coverable (inp : FlowInput) : Prop :=
  ∀ con ∈ inp.cfg.constraints, ∃ p, IsWalkIn inp.st.g (inp.st.source :: p ++ [inp.st.sink]) ∧
    ∀ e ∈ con, e ∈ walkEdges (inp.st.source :: p ++ [inp.st.sink])

theorem add_constraint_paths (inp : FlowInput) (k : Nat) (hd0 : HasDecomp inp.noCons k)
    (hcov : Coverable inp) : HasDecomp inp (k + inp.cfg.constraints.length) := by
  obtain ⟨P, w, hd, _⟩ := hd0
  apply decomp_bound_wlog
  -- `Q j`: a covering path for the j-th constraint
  obtain ⟨Q, hQ⟩ := exists_choice (Q := fun j => j < inp.cfg.constraints.length)
    (P := fun j p => ∀ hj : j < inp.cfg.constraints.length,
      IsWalkIn inp.st.g (inp.st.source :: p ++ [inp.st.sink]) ∧
      ∀ e ∈ inp.cfg.constraints[j], e ∈ walkEdges (inp.st.source :: p ++ [inp.st.sink]))
    fun j hj => let ⟨p, hp⟩ := hcov _ (List.getElem_mem hj); ⟨p, fun _ => hp⟩
  refine ⟨_, _, isDecomp_pad (inp := inp) inp.cfg.constraints.length (fun i => Q (i - k))
    hd.walk hd.wnonneg hd.wint hd.explains (fun i _ hi => (hQ (i - k) (by omega) (by omega)).1) fun con hcon => ?_⟩
  obtain ⟨j, hj, hjc⟩ := List.mem_iff_getElem.1 hcon
  refine ⟨k + j, by omega, ?_⟩
  rw [if_neg (by omega : ¬ k + j < k), Nat.add_sub_cancel_left, ← hjc]
  exact (hQ j hj hj).2

end FP
