import FP.Proofs.ParserGraph
import FP.Proofs.ParserHeader
import FP.Proofs.Lib
/-!
The loops of `read_graph` / `read_graphs`.
`readGraph_ok_iff` says when `read_graph` returns and what; rejection of malformed blocks, the stored counts and
the graph read from a rendered block (`readGraph_render`) are all read off it.  The block splitter is computed on
rendered descriptions: it cuts at the block boundaries (`splitBlocks_render`).
-/
namespace FP.Parser
open FP.Spec.GraphFile
variable {S W Wd : Type}

@[simp] theorem lineEdge_header (o : Oracles S W Wd) (t : S) : lineEdge o (.header t) = none := rfl
@[simp] theorem lineEdge_subpath (o : Oracles S W Wd) (t : List S) : lineEdge o (.subpath t) = none := rfl
@[simp] theorem lineEdge_blank (o : Oracles S W Wd) : lineEdge o (.blank : Line S) = none := rfl
@[simp] theorem lineEdge_data3 (o : Oracles S W Wd) (t u v ws : S) :
    lineEdge o (.data t [u, v, ws]) = (o.parseFloat ws).map fun w => (u, v, w) := rfl

theorem lineEdge_eq_some (o : Oracles S W Wd) (l : Line S) (e : S × S × W) :
    lineEdge o l = some e ↔ ∃ t ws, l = .data t [e.1, e.2.1, ws] ∧ o.parseFloat ws = some e.2.2 := by
  fun_cases lineEdge o l
  · simp only [Option.map_eq_some_iff, Line.data.injEq, List.cons.injEq, and_true]
    constructor
    · rintro ⟨w, hw, rfl⟩; exact ⟨_, _, ⟨rfl, rfl, rfl, rfl⟩, hw⟩
    · rintro ⟨_, _, ⟨_, rfl, rfl, rfl⟩, hw⟩; exact ⟨_, hw, rfl⟩
  · rename_i h
    constructor
    · intro h'; cases h'
    · rintro ⟨t, ws, rfl, _⟩; exact (h _ _ _ _ rfl).elim

theorem lineEdge_of_not_three (o : Oracles S W Wd) (t : S) {toks : List S}
    (h : ∀ u v ws, toks = [u, v, ws] → False) : lineEdge o (.data t toks) = none := by
  unfold lineEdge; split
  · rename_i heq; cases heq; exact (h _ _ _ rfl).elim
  · rfl

theorem lineEdge_of_not_data (o : Oracles S W Wd) {l : Line S}
    (h : ∀ t toks, l = .data t toks → False) : lineEdge o l = none ∧ lineBad o l = false := by
  cases l with
  | data t toks => exact (h t toks rfl).elim
  | _ => exact ⟨rfl, rfl⟩

theorem lineBad_data (o : Oracles S W Wd) (t : S) (toks : List S) :
    lineBad o (.data t toks) = (lineEdge o (.data t toks)).isNone := rfl

theorem lineBad_of_length (o : Oracles S W Wd) (t : S) (toks : List S) (h : toks.length ≠ 3) :
    lineBad o (.data t toks) = true := by
  rw [lineBad_data, lineEdge_of_not_three o t (by rintro u v ws rfl; exact h rfl)]; rfl

theorem lineBad_of_weight (o : Oracles S W Wd) (t u v ws : S) (h : o.parseFloat ws = none) :
    lineBad o (.data t [u, v, ws]) = true := by
  simp [lineBad_data, h]

theorem mem_lineEdges_key (o : Oracles S W Wd) (body : List (Line S)) (a b : S)
    (h : (a, b) ∈ (lineEdges o body).map key) : ∃ t ws, Line.data t [a, b, ws] ∈ body := by
  obtain ⟨e, he, hk⟩ := List.mem_map.1 h
  obtain ⟨l, hl, hle⟩ := List.mem_filterMap.1 he
  obtain ⟨t, ws, rfl, -⟩ := (lineEdge_eq_some o l e).1 hle
  cases hk
  exact ⟨t, ws, hl⟩

/-- a data line is either bad or lists an edge -/
theorem not_isData_iff (o : Oracles S W Wd) (l : Line S) :
    l.isData = false ↔ lineBad o l = false ∧ lineEdge o l = none := by
  cases l with
  | data t toks =>
    rw [lineBad_data]
    cases lineEdge o (.data t toks) <;> simp [Line.isData, Line.isBlank, Line.isHash]
  | _ => simp [Line.isData, Line.isBlank, Line.isHash, lineBad]

theorem noData_iff (o : Oracles S W Wd) (body : List (Line S)) :
    body.any Line.isData = false ↔ (∀ l ∈ body, lineBad o l = false) ∧ lineEdges o body = [] := by
  simp only [List.any_eq_false, Bool.not_eq_true, not_isData_iff o, lineEdges, List.filterMap_eq_nil_iff]
  exact ⟨fun h => ⟨fun l hl => (h l hl).1, fun l hl => (h l hl).2⟩, fun h l hl => ⟨h.1 l hl, h.2 l hl⟩⟩

theorem parseEdges_ok_iff [DecidableEq S] (o : Oracles S W Wd) (body : List (Line S)) (g g' : Gr S W) :
    parseEdges o body g = .ok g' ↔
      (∀ l ∈ body, lineBad o l = false) ∧ g' = addEdges g (lineEdges o body) := by
  fun_induction parseEdges o body g with
  | case1 => simpa [lineEdges, addEdges] using eq_comm
  | case2 t rest g u v ws hw => simp [lineBad_data, hw]
  | case3 t rest g u v ws w hw ih => rw [ih]; simp [lineBad_data, lineEdges, hw, addEdges]
  | case4 t toks rest g hne => simp [lineBad_data, lineEdge_of_not_three o t hne]
  | case5 l rest g hl ih => rw [ih]; simp [lineEdges, lineEdge_of_not_data o hl]

theorem readGraph_ok_count [DecidableEq S] (o : Oracles S W Wd) (ls : List (Line S)) (g : PGraph S W Wd)
    (h : readGraph o ls = .ok g) : ∃ cl body n, countPart ls = cl :: body ∧ cl.countVal o = some n := by
  cases hcp : countPart ls with
  | nil => simp only [readGraph, hcp] at h; cases h
  | cons cl body =>
    cases hcv : cl.countVal o with
    | none => simp only [readGraph, hcp, hcv] at h; cases h
    | some n => exact ⟨cl, body, n, rfl, hcv⟩

/-- what `read_graph` returns for a block with header state `st`, vertex count `n` and the lines `body` below
the vertex-count line: the graph built from the listed edges (none, if the count is 0) -/
def blockGraph [DecidableEq S] (o : Oracles S W Wd) (st : Hdr S) (n : Int) (body : List (Line S)) : PGraph S W Wd :=
  let g := buildGraph (lineEdges o body)
  { nodes := g.nodes, edges := g.edges, id := st.headers.head?, constraints := st.cons,
    n := some g.nodes.length, m := some g.edges.length,
    w := if n = 0 then some o.zeroWidth else some (o.width g.nodes g.edges) }

/-- when `read_graph` returns, and what: no line below the vertex-count line is bad, every constraint edge is
listed, a zero count comes with no constraint and no edge, a non-zero one with a source and a sink -/
theorem readGraph_ok_iff [DecidableEq S] (o : Oracles S W Wd) {ls body : List (Line S)} {cl : Line S} {n : Int}
    (g : PGraph S W Wd) (hcp : countPart ls = cl :: body) (hcv : cl.countVal o = some n) :
    readGraph o ls = .ok g ↔
      (∀ l ∈ body, lineBad o l = false) ∧
      (∀ c ∈ (scanHeader (hashPart ls)).cons, ∀ e ∈ c, e ∈ (lineEdges o body).map key) ∧
      (if n = 0 then (scanHeader (hashPart ls)).cons = [] ∧ lineEdges o body = []
       else (buildGraph (lineEdges o body)).hasSource = true ∧ (buildGraph (lineEdges o body)).hasSink = true) ∧
      g = blockGraph o (scanHeader (hashPart ls)) n body := by
  simp only [readGraph, hcp, hcv]
  by_cases hn : n = 0
  · subst hn
    rw [if_pos rfl, if_pos rfl, ite_error_ok_iff, ite_error_ok_iff, Bool.not_eq_true,
      Bool.not_eq_true, noData_iff o, Except.ok.injEq]
    constructor
    · rintro ⟨hc, ⟨hgood, hle⟩, rfl⟩
      have hce : (scanHeader (hashPart ls)).cons = [] := by simpa using hc
      exact ⟨hgood, by simp [hce], ⟨hce, hle⟩, by rw [blockGraph, hle]; rfl⟩
    · rintro ⟨hgood, -, ⟨hce, hle⟩, rfl⟩
      exact ⟨by simp [hce], ⟨hgood, hle⟩, by rw [blockGraph, hle]; rfl⟩
  · rw [if_neg hn, if_neg hn]
    cases hp : parseEdges o body ({} : Gr S W) with
    | error e =>
      constructor
      · intro h; cases h
      · rintro ⟨hgood, -⟩
        rw [(parseEdges_ok_iff o body {} _).2 ⟨hgood, rfl⟩] at hp; cases hp
    | ok gr =>
      obtain ⟨hgood, hgr⟩ := (parseEdges_ok_iff o body {} gr).1 hp
      rw [← buildGraph_eq] at hgr
      subst hgr
      simp only [List.all_eq_true, buildGraph_hasEdge]
      rw [ite_ok_iff, ite_ok_iff, Bool.and_eq_true, Except.ok.injEq, blockGraph, if_neg hn,
        eq_comm (a := g)]
      exact ⟨fun h => ⟨hgood, h⟩, fun h => h.2⟩

theorem zeroCount_iff (o : Oracles S W Wd) {ls body : List (Line S)} {cl : Line S} {n : Int}
    (hcp : countPart ls = cl :: body) (hcv : cl.countVal o = some n) : ZeroCount o ls ↔ n = 0 := by
  simp only [ZeroCount, hcp, List.cons.injEq]
  constructor
  · rintro ⟨_, _, ⟨rfl, rfl⟩, h0⟩; rw [hcv] at h0; exact Option.some.inj h0
  · rintro rfl; exact ⟨_, _, ⟨rfl, rfl⟩, hcv⟩

/-- a block after its `#` lines -/
def tailPart (b : BlockDesc S) : List (Line S) :=
  List.replicate b.blanks Line.blank ++ (Line.data b.countText b.countTokens :: b.body.map BodyItem.toLine)

theorem renderBlock_eq (b : BlockDesc S) : renderBlock b = b.hashes.map HashLine.toLine ++ tailPart b := rfl

theorem toLine_isHash (h : HashLine S) : h.toLine.isHash = true := by cases h <;> rfl

theorem hashes_all (b : BlockDesc S) : ∀ l ∈ b.hashes.map HashLine.toLine, l.isHash = true := by
  intro l hl
  obtain ⟨h, _, rfl⟩ := List.mem_map.1 hl
  exact toLine_isHash h

theorem tailPart_all (b : BlockDesc S) : ∀ l ∈ tailPart b, l.isHash = false := by
  intro l hl
  simp only [tailPart, List.mem_append, List.mem_replicate, List.mem_cons, List.mem_map] at hl
  rcases hl with ⟨_, rfl⟩ | rfl | ⟨it, _, rfl⟩
  · rfl
  · rfl
  · cases it <;> rfl

theorem hashPart_render (b : BlockDesc S) : hashPart (renderBlock b) = b.hashes.map HashLine.toLine :=
  takeWhile_run _ _ _ (hashes_all b) fun l hl => tailPart_all b l (List.mem_of_mem_head? hl)

theorem countPart_render (b : BlockDesc S) :
    countPart (renderBlock b) = Line.data b.countText b.countTokens :: b.body.map BodyItem.toLine := by
  rw [countPart, renderBlock_eq,
    dropWhile_run _ _ _ (hashes_all b) fun l hl => tailPart_all b l (List.mem_of_mem_head? hl)]
  apply dropWhile_run
  · intro l hl
    rw [(List.mem_replicate.1 hl).2]; rfl
  · intro l hl
    cases hl; rfl

theorem lineHeaders_render (hs : List (HashLine S)) :
    lineHeaders (hs.map HashLine.toLine) = hs.filterMap fun
      | .header t => some t
      | .subpath _ => none := by
  induction hs with
  | nil => rfl
  | cons h t ih => cases h <;> simp [lineHeaders, HashLine.toLine, ih]

theorem lineSeqs_render (hs : List (HashLine S)) :
    lineSeqs (hs.map HashLine.toLine) = hs.filterMap fun
      | .subpath t => some t
      | .header _ => none := by
  induction hs with
  | nil => rfl
  | cons h t ih => cases h <;> simp [lineSeqs, HashLine.toLine, ih]

theorem scanHeader_render [DecidableEq S] (b : BlockDesc S) :
    (scanHeader (hashPart (renderBlock b))).headers = headerTexts b ∧
    (scanHeader (hashPart (renderBlock b))).cons = constraintsOf b := by
  rw [hashPart_render]
  obtain ⟨h1, h2⟩ := scanHeader_spec (b.hashes.map HashLine.toLine)
  rw [h1, h2, lineHeaders_render, lineSeqs_render]
  exact ⟨rfl, rfl⟩

theorem lineBad_render (o : Oracles S W Wd) (body : List (BodyItem S)) (h : ∀ it ∈ body, it.weightOk o = true) :
    ∀ l ∈ body.map BodyItem.toLine, lineBad o l = false := by
  intro l hl
  obtain ⟨it, hit, rfl⟩ := List.mem_map.1 hl
  have := h it hit
  cases it with
  | blank => rfl
  | edge t u v wt =>
    simp only [BodyItem.weightOk] at this
    simp only [BodyItem.toLine, lineBad, lineEdge_data3, Option.isNone_map]
    cases hw : o.parseFloat wt with
    | none => simp [hw] at this
    | some w => rfl

theorem lineEdges_render (o : Oracles S W Wd) (b : BlockDesc S) :
    lineEdges o (b.body.map BodyItem.toLine) = listedEdges o b := by
  rw [lineEdges, List.filterMap_map, listedEdges]
  congr 1
  funext it
  cases it <;> rfl

theorem readGraph_render [DecidableEq S] (o : Oracles S W Wd) (b : BlockDesc S) (h : WFBlock o b) :
    readGraph o (renderBlock b) = .ok (graphOf o b) := by
  obtain ⟨_, hcount, hw, hcons, hz⟩ := h
  obtain ⟨hH, hC⟩ := scanHeader_render b
  obtain ⟨n, hn⟩ := Option.isSome_iff_exists.1 hcount
  have hzero : isZero o b = decide (n = 0) := by simp [isZero, hn]
  rw [readGraph_ok_iff o _ (countPart_render b) hn, lineEdges_render, hC]
  refine ⟨lineBad_render o b.body hw, hcons, ?_, ?_⟩
  · rw [hzero] at hz
    by_cases h0 : n = 0
    · rw [if_pos h0]
      rw [if_pos (decide_eq_true h0)] at hz
      refine ⟨List.isEmpty_iff.1 hz.1, List.filterMap_eq_nil_iff.2 fun it hit => ?_⟩
      cases it with
      | blank => rfl
      | edge t u v w => cases (List.all_eq_true.1 hz.2 _ hit)
    · rw [if_neg h0]
      rw [if_neg (by simpa using h0)] at hz
      exact hz
  · simp only [graphOf, blockGraph, lineEdges_render, hH, hC, hzero, decide_eq_true_eq]

/-- `not line.lstrip().startswith('#')` -/
abbrev notHash : Line S → Bool := fun l => !l.isHash

theorem splitBlocks_succ_nil (fuel : Nat) (ls : List (Line S)) (h : ls.dropWhile notHash = []) :
    splitBlocks (fuel + 1) ls = [] := by
  simp only [splitBlocks]
  rw [h]

theorem splitBlocks_succ_cons (fuel : Nat) (ls ls' : List (Line S)) (h : ls.dropWhile notHash = ls')
    (hne : ls' ≠ []) :
    splitBlocks (fuel + 1) ls =
      (ls'.takeWhile Line.isHash ++ (ls'.dropWhile Line.isHash).takeWhile notHash)
        :: splitBlocks fuel ((ls'.dropWhile Line.isHash).dropWhile notHash) := by
  cases ls' with
  | nil => exact absurd rfl hne
  | cons a t =>
    simp only [splitBlocks]
    rw [h]

/-- what is left after a block is cut off needs one unit of fuel less: the block begins with a `#` line -/
theorem splitBlocks_rest_lt {fuel : Nat} (ls : List (Line S)) (hd : ls.dropWhile notHash ≠ [])
    (h : ls.length < fuel + 1) :
    (((ls.dropWhile notHash).dropWhile Line.isHash).dropWhile notHash).length < fuel := by
  obtain ⟨a, t, hat⟩ := List.exists_cons_of_ne_nil hd
  have ha : a.isHash = true := by
    simpa [notHash, hat] using List.head_dropWhile_not notHash (l := ls) (by simp [hat])
  have hlen : (a :: t).length ≤ ls.length := hat ▸ (List.dropWhile_sublist notHash).length_le
  have h1 : ((a :: t).dropWhile Line.isHash).length ≤ t.length := by
    rw [List.dropWhile_cons_of_pos ha]; exact (List.dropWhile_sublist _).length_le
  have h2 := (List.dropWhile_sublist notHash (l := (a :: t).dropWhile Line.isHash)).length_le
  rw [hat]
  simp only [List.length_cons] at hlen
  omega

/-- splitting loses nothing but the lines before the first `#` line (in particular `length + 1`
units of fuel never run out) -/
theorem splitBlocks_flatten (fuel : Nat) (ls : List (Line S)) (h : ls.length < fuel) :
    (splitBlocks fuel ls).flatten = ls.dropWhile notHash := by
  fun_induction splitBlocks fuel ls with
  | case1 => omega
  | case2 fuel ls hd => exact hd.symm
  | case3 fuel ls hne r ih =>
    rw [List.flatten_cons, ih (splitBlocks_rest_lt ls hne h), dropWhile_idem, List.append_assoc,
      List.takeWhile_append_dropWhile, List.takeWhile_append_dropWhile]

theorem splitBlocks_fuel (f1 f2 : Nat) (ls : List (Line S)) (h1 : ls.length < f1) (h2 : ls.length < f2) :
    splitBlocks f1 ls = splitBlocks f2 ls := by
  fun_induction splitBlocks f1 ls generalizing f2 with
  | case1 => omega
  | case2 f1 ls hd =>
    cases f2 with
    | zero => omega
    | succ f2 => rw [splitBlocks_succ_nil f2 ls hd]
  | case3 f1 ls hne r ih =>
    cases f2 with
    | zero => omega
    | succ f2 =>
      rw [splitBlocks_succ_cons f2 ls _ rfl hne, ih f2 (splitBlocks_rest_lt ls hne h1) (splitBlocks_rest_lt ls hne h2)]
theorem splitBlocks_leading (fuel : Nat) (junk ls : List (Line S)) (hj : ∀ l ∈ junk, l.isHash = false) :
    splitBlocks (fuel + 1) (junk ++ ls) = splitBlocks (fuel + 1) ls := by
  have hd : (junk ++ ls).dropWhile notHash = ls.dropWhile notHash :=
    List.dropWhile_append_of_pos (fun l hl => by simp [notHash, hj l hl])
  simp only [splitBlocks]
  rw [hd]

theorem splitBlocks_block (fuel : Nat) (H T rest : List (Line S)) (hH : ∀ l ∈ H, l.isHash = true) (hH0 : H ≠ [])
    (hT : ∀ l ∈ T, l.isHash = false) (hT0 : T ≠ []) (hrest : ∀ l ∈ rest.head?, l.isHash = true) :
    splitBlocks (fuel + 1) (H ++ (T ++ rest)) = (H ++ T) :: splitBlocks fuel rest := by
  have hd : (H ++ (T ++ rest)).dropWhile notHash = H ++ (T ++ rest) := by
    cases H with
    | nil => exact absurd rfl hH0
    | cons a H' => exact List.dropWhile_cons_of_neg (by simp [notHash, hH a (by simp)])
  have hTh : ∀ l ∈ (T ++ rest).head?, l.isHash = false := by
    cases T with
    | nil => exact absurd rfl hT0
    | cons a T' => intro l hl; cases hl; exact hT a (List.mem_cons_self ..)
  have hT' : ∀ l ∈ T, notHash l = true := fun l hl => by simp [notHash, hT l hl]
  have hr : ∀ l ∈ rest.head?, notHash l = false := fun l hl => by simp [notHash, hrest l hl]
  rw [splitBlocks_succ_cons fuel _ _ hd (by simp [hH0]), takeWhile_run _ H _ hH hTh, dropWhile_run _ H _ hH hTh,
    takeWhile_run _ T _ hT' hr, dropWhile_run _ T _ hT' hr]

theorem flatMap_render_head (bs : List (BlockDesc S)) (hne : ∀ b ∈ bs, b.hashes ≠ []) :
    ∀ l ∈ (bs.flatMap renderBlock).head?, l.isHash = true := by
  cases bs with
  | nil => simp
  | cons b bs' =>
    cases hh : b.hashes with
    | nil => exact absurd hh (hne b (List.mem_cons_self ..))
    | cons h0 H =>
      intro l hl
      rw [List.flatMap_cons, renderBlock_eq, hh] at hl
      cases hl
      exact toLine_isHash h0

theorem length_flatMap_render (bs : List (BlockDesc S)) : bs.length ≤ (bs.flatMap renderBlock).length := by
  induction bs with
  | nil => simp
  | cons b t ih =>
    have : 1 ≤ (renderBlock b).length := by
      simp only [renderBlock, List.length_append, List.length_cons]; omega
    simp only [List.flatMap_cons, List.length_append, List.length_cons]; omega

theorem splitBlocks_render (bs : List (BlockDesc S)) (fuel k : Nat) (h : bs.length < fuel)
    (hne : ∀ b ∈ bs, b.hashes ≠ []) :
    splitBlocks fuel (List.replicate k Line.blank ++ bs.flatMap renderBlock) = bs.map renderBlock := by
  induction bs generalizing fuel k with
  | nil =>
    cases fuel with
    | zero => simp at h
    | succ fuel =>
      apply splitBlocks_succ_nil
      simp only [List.flatMap_nil, List.append_nil]
      rw [List.dropWhile_replicate]; simp [notHash, Line.isHash]
  | cons b bs' ih =>
    cases fuel with
    | zero => simp at h
    | succ fuel =>
      have hne' : ∀ b ∈ bs', b.hashes ≠ [] := fun b hb => hne b (List.mem_cons_of_mem _ hb)
      have := ih fuel 0 (by simp only [List.length_cons] at h; omega) hne'
      rw [List.replicate_zero, List.nil_append] at this
      rw [splitBlocks_leading fuel _ _ (fun l hl => by rw [(List.mem_replicate.1 hl).2]; rfl), List.flatMap_cons,
        renderBlock_eq, List.append_assoc,
        splitBlocks_block fuel _ _ _ (hashes_all b) (by simpa using hne b (List.mem_cons_self ..)) (tailPart_all b)
          (by simp [tailPart]) (flatMap_render_head bs' hne'), this]
      rfl

theorem readBlocks_render [DecidableEq S] (o : Oracles S W Wd) (bs : List (BlockDesc S))
    (h : ∀ b ∈ bs, WFBlock o b) :
    readBlocks o (bs.map renderBlock) = .ok (bs.map (graphOf o)) := by
  induction bs with
  | nil => rfl
  | cons b t ih =>
    simp only [List.map_cons, readBlocks, readGraph_render o b (h b (List.mem_cons_self ..)),
      ih (fun b hb => h b (List.mem_cons_of_mem _ hb))]

end FP.Parser
