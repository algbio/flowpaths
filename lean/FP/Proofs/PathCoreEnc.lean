import FP.Proofs.LP
import FP.Proofs.FlowLemmas
/-!
# FP.Proofs.PathCoreEnc — `encodePaths` in terms of the values it constrains

The core block holds iff every layer is a 0/1 unit flow (`LayerFacts`), the position block iff positions and path
lengths are the weighted edge counts within their bounds (`PosFacts`); `sat_encodePaths_iff` puts the blocks together.
`exists_responsible` (row 7b) stands here because the walk encoding (C10Subset) uses it too.
-/
namespace FP
open FP.Spec

/-- what the core block (rows 10a, 10c) asks of the edge values `x` of one layer -/
structure LayerFacts (s : STGraph) (allowEmpty : Bool) (x : Edge → Rat) : Prop where
  bin : ∀ e ∈ s.g.edges, x e = 0 ∨ x e = 1
  src : if allowEmpty then outflow s.g x s.source ≤ 1 else outflow s.g x s.source = 1
  cons : ∀ v ∈ s.g.nodes, v ≠ s.source → v ≠ s.sink → inflow s.g x v = outflow s.g x v

theorem LayerFacts.congr {s : STGraph} {ae : Bool} {x y : Edge → Rat} (h : LayerFacts s ae y)
    (hxy : ∀ e ∈ s.g.edges, x e = y e) : LayerFacts s ae x := by
  have hout := outflow_congr hxy
  have hin := inflow_congr hxy
  exact ⟨fun e he => hxy e he ▸ h.bin e he, hout s.source ▸ h.src,
    fun v hv h1 h2 => hin v ▸ hout v ▸ h.cons v hv h1 h2⟩

theorem LayerFacts.nonneg {s : STGraph} {ae : Bool} {x : Edge → Rat} (h : LayerFacts s ae x) :
    ∀ e ∈ s.g.edges, 0 ≤ x e := fun e he => by
  rcases h.bin e he with h0 | h1
  · rw [h0]; exact Rat.le_refl
  · rw [h1]; decide

theorem row10a_holds (s : STGraph) (ae : Bool) (a : Asg) (i : Nat) :
    (let ts := ones (s.g.succ s.source) (fun v => edgeVar (s.source, v) i)
     if ae then rowLe ts 1 else rowEq ts 1).holds a ↔
    if ae then outflow s.g (fun e => a (edgeVar e i)) s.source ≤ 1
    else outflow s.g (fun e => a (edgeVar e i)) s.source = 1 := by
  cases ae
  · simp only [Bool.false_eq_true, if_false, rowEq_holds, evalTerms_ones,
      sum_succ s.g (fun e => a (edgeVar e i))]
  · simp only [if_true, rowLe_holds, evalTerms_ones, sum_succ s.g (fun e => a (edgeVar e i))]

theorem row10c_holds (s : STGraph) (a : Asg) (i : Nat) (v : Node) :
    (rowEq (ones (s.g.pred v) (fun u => edgeVar (u, v) i)
            ++ negTerms (ones (s.g.succ v) (fun w => edgeVar (v, w) i))) 0).holds a ↔
    inflow s.g (fun e => a (edgeVar e i)) v = outflow s.g (fun e => a (edgeVar e i)) v := by
  rw [rowEq_holds, evalTerms_append, evalTerms_negTerms, evalTerms_ones, evalTerms_ones,
    sum_succ s.g (fun e => a (edgeVar e i)), sum_pred s.g (fun e => a (edgeVar e i))]
  constructor
  · intro h; grind
  · intro h; rw [h]; exact Rat.add_neg_cancel _

theorem sat_core_iff_layerFacts (s : STGraph) (c : PathCfg) (a : Asg) :
    Sat a { cols := (List.range c.k).flatMap fun i => s.g.edges.map fun e =>
              { v := edgeVar e i, lb := 0, ub := some 1, isInt := true },
            rows := rows10a s c ++ rows10c s c } ↔
    ∀ i, i < c.k → LayerFacts s c.allowEmpty (fun e => a (edgeVar e i)) := by
  constructor
  · rintro ⟨hcols, hrows⟩ i hi
    have hi' := List.mem_range.2 hi
    refine ⟨fun e he => ?_, ?_, fun v hv h1 h2 => ?_⟩
    · exact (col01_holds_iff a _).1 (hcols _ (List.mem_flatMap.2 ⟨i, hi', List.mem_map.2 ⟨e, he, rfl⟩⟩))
    · exact (row10a_holds s c.allowEmpty a i).1
        (hrows _ (List.mem_append_left _ (List.mem_map.2 ⟨i, hi', rfl⟩)))
    · exact (row10c_holds s a i v).1 (hrows _ (List.mem_append_right _ (List.mem_flatMap.2 ⟨i, hi',
        List.mem_map.2 ⟨v, List.mem_filter.2 ⟨hv, decide_eq_true ⟨h1, h2⟩⟩, rfl⟩⟩)))
  · intro h
    refine ⟨fun col hc => ?_, fun r hr => ?_⟩
    · obtain ⟨i, hi, hc⟩ := List.mem_flatMap.1 hc
      obtain ⟨e, he, rfl⟩ := List.mem_map.1 hc
      exact (col01_holds_iff a _).2 ((h i (List.mem_range.1 hi)).bin e he)
    · rcases List.mem_append.1 hr with hr | hr
      · obtain ⟨i, hi, rfl⟩ := List.mem_map.1 hr
        exact (row10a_holds s c.allowEmpty a i).2 (h i (List.mem_range.1 hi)).src
      · obtain ⟨i, hi, hr⟩ := List.mem_flatMap.1 hr
        obtain ⟨v, hv, rfl⟩ := List.mem_map.1 hr
        obtain ⟨hv1, hv2⟩ := List.mem_filter.1 hv
        have hv2 : v ≠ s.source ∧ v ≠ s.sink := of_decide_eq_true hv2
        exact (row10c_holds s a i v).2 ((h i (List.mem_range.1 hi)).cons v hv1 hv2.1 hv2.2)

/-- what the position block asks of one layer: `x` its edge values, `p` its positions, `L` its length. The bound `ml`
and the lengths `w` are parameters, not read off a `PathCfg`, so that configurations that differ in their constraints
only give the same proposition. -/
structure PosFacts (s : STGraph) (ml : Rat) (w x p : Edge → Rat) (L : Rat) : Prop where
  posCol : ∀ e ∈ s.g.edges, 0 ≤ p e ∧ p e ≤ ml ∧ ∃ z : Int, p e = z
  lenCol : 0 ≤ L ∧ L ≤ ml ∧ ∃ z : Int, L = z
  pos : ∀ e ∈ s.g.edges, p e = ((edgesReaching s e.1).map fun e' => w e' * x e').sum
  len : L = (s.g.edges.map fun e' => w e' * x e').sum

theorem posRow_holds (a : Asg) (v : Var) (l : List Edge) (w : Edge → Rat) (i : Nat) :
    (rowEq ([(1, v)] ++ negTerms (l.map fun e' => (w e', edgeVar e' i))) 0).holds a ↔
      a v = (l.map fun e' => w e' * a (edgeVar e' i)).sum := by
  rw [rowEq_holds, evalTerms_append, evalTerms_negTerms, evalTerms_single, evalTerms_map, Rat.one_mul]
  constructor <;> intro h <;> grind

theorem sat_positionBlock_iff (s : STGraph) (c : PathCfg) (a : Asg) :
    Sat a (positionBlock s c) ↔ (c.encodePosition = true → ∀ i, i < c.k →
      PosFacts s (maxLength s c) c.len (fun e => a (edgeVar e i)) (fun e => a (posVar e i)) (a (lenVar i))) := by
  unfold positionBlock
  cases hp : c.encodePosition
  · exact ⟨fun _ h => (nomatch h), fun _ => sat_empty a⟩
  · simp only [Bool.not_true, Bool.false_eq_true, if_false, Sat, List.forall_mem_append,
      List.forall_mem_flatMap, List.forall_mem_map, List.mem_range, col_holds_iff, posRow_holds, forall_const]
    exact ⟨fun ⟨⟨h1, h2⟩, h3, h4⟩ i hi => ⟨h1 i hi, h2 i hi, h3 i hi, h4 i hi⟩,
      fun h => ⟨⟨fun i hi => (h i hi).posCol, fun i hi => (h i hi).lenCol⟩,
        fun i hi => (h i hi).pos, fun i hi => (h i hi).len⟩⟩

theorem sat_encodePaths_iff (s : STGraph) (c : PathCfg) (a : Asg) :
    Sat a (encodePaths s c) ↔
      (∀ i, i < c.k → LayerFacts s c.allowEmpty (fun e => a (edgeVar e i))) ∧ Sat a (subpathBlock c) ∧
      (c.encodePosition = true → ∀ i, i < c.k →
        PosFacts s (maxLength s c) c.len (fun e => a (edgeVar e i)) (fun e => a (posVar e i)) (a (lenVar i))) := by
  unfold encodePaths
  rw [sat_append_iff, sat_append_iff, sat_core_iff_layerFacts, sat_positionBlock_iff, and_assoc]

theorem layerFacts_of_sat {s : STGraph} {c : PathCfg} {a : Asg} (hsat : Sat a (encodePaths s c))
    {i : Nat} (hi : i < c.k) : LayerFacts s c.allowEmpty (fun e => a (edgeVar e i)) :=
  ((sat_encodePaths_iff s c a).1 hsat).1 i hi

/-- binary `r(·,j)` and row 7b: some layer is responsible for constraint `j` -/
theorem exists_responsible (a : Asg) (k j : Nat)
    (hbin : ∀ i, i < k → a (rVar i j) = 0 ∨ a (rVar i j) = 1)
    (h7b : 1 ≤ ((List.range k).map fun i => a (rVar i j)).sum) : ∃ i, i < k ∧ a (rVar i j) = 1 :=
  let ⟨i, hi, hr⟩ := exists_one_of_sum_ge_one (fun i hi => hbin i (List.mem_range.1 hi)) h7b
  ⟨i, List.mem_range.1 hi, hr⟩

end FP
