import FP.Spec.Optimum
import FP.Proofs.Lib
/-!
# FP.Proofs.Optimum — how an optimum is carried from one feasible set to another

`c05_opt_transfer`: two feasible sets that represent each other value for value are solvable together and have the same minima
(options and safety rows against the plain model). `opt_transfer`: an optimal assignment whose decoded solution costs no more is
decoded to a best solution (LP optimum against the solutions it represents). `tight_of_sum_le`: termwise `f ≤ g` and
`Σ c·g ≤ Σ c·f` leave no slack where `c > 0` (an optimum makes every error row tight).
-/
namespace FP
open FP.Spec

theorem c05_opt_transfer {α β} (P : α → Prop) (Q : β → Prop) (objP : α → Rat) (objQ : β → Rat)
    (h1 : ∀ s, P s → ∃ t, Q t ∧ objQ t = objP s) (h2 : ∀ t, Q t → ∃ s, P s ∧ objP s = objQ t) :
    ((∃ s, P s) ↔ (∃ t, Q t)) ∧ (∀ v, IsMin P objP v ↔ IsMin Q objQ v) := by
  refine ⟨⟨fun ⟨s, hs⟩ => ?_, fun ⟨t, ht⟩ => ?_⟩, fun v => ⟨fun ⟨⟨s, hs, hv⟩, hmin⟩ => ?_, fun ⟨⟨t, ht, hv⟩, hmin⟩ => ?_⟩⟩
  · obtain ⟨t, ht, _⟩ := h1 s hs; exact ⟨t, ht⟩
  · obtain ⟨s, hs, _⟩ := h2 t ht; exact ⟨s, hs⟩
  · obtain ⟨t, ht, he⟩ := h1 s hs
    refine ⟨⟨t, ht, by rw [he, hv]⟩, fun t' ht' => ?_⟩
    obtain ⟨s', hs', he'⟩ := h2 t' ht'
    rw [← he']; exact hmin s' hs'
  · obtain ⟨s, hs, he⟩ := h2 t ht
    refine ⟨⟨s, hs, by rw [he, hv]⟩, fun s' hs' => ?_⟩
    obtain ⟨t', ht', he'⟩ := h1 s' hs'
    rw [← he']; exact hmin t' ht'

/-- LP optimality carried over to the represented solutions: `x` with `hge` comes from decoding `a`,
`hcomp` from encoding a solution as an assignment -/
theorem opt_transfer {A X : Type} (sat : A → Prop) (obj : A → Rat) (rep : X → Prop) (val : X → Rat)
    (a : A) (x : X) (hopt : ∀ a', sat a' → obj a ≤ obj a')
    (hcomp : ∀ x', rep x' → ∃ a', sat a' ∧ obj a' = val x') (hx : rep x) (hge : val x ≤ obj a) :
    obj a = val x ∧ ∀ x', rep x' → val x ≤ val x' := by
  have heq : obj a = val x := by
    obtain ⟨a0, h0, e0⟩ := hcomp x hx
    exact Rat.le_antisymm (e0 ▸ hopt a0 h0) hge
  refine ⟨heq, fun x' hx' => ?_⟩
  obtain ⟨a', h', e'⟩ := hcomp x' hx'
  rw [← heq, ← e']
  exact hopt a' h'

theorem tight_of_sum_le {α} (l : List α) (c f g : α → Rat) (hc : ∀ e ∈ l, 0 ≤ c e)
    (hfg : ∀ e ∈ l, f e ≤ g e)
    (hsum : (l.map fun e => c e * g e).sum ≤ (l.map fun e => c e * f e).sum) :
    ∀ e ∈ l, 0 < c e → g e = f e := by
  intro e he hpos
  apply Classical.byContradiction
  intro hne
  have hlt : f e < g e := by have := hfg e he; grind
  have := sum_map_lt l (fun e => c e * f e) (fun e => c e * g e)
    (fun e' he' => Rat.mul_le_mul_of_nonneg_left (hfg e' he') (hc e' he')) e he
    (Rat.mul_lt_mul_of_pos_left hlt hpos)
  exact Rat.not_le.2 this hsum

end FP
