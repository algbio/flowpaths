import FP.Spec.ErrModels
import FP.Proofs.C10Constraints
/-!
# FP.Proofs.PathCoreComplete — completeness of `_encode_paths`

Every family of `k` routes (simple source-to-sink paths of the augmented graph, or unused layers
when empty paths are allowed) is represented by a satisfying assignment of `encodePaths`: the
indicator of the routes on the edge columns and, when positions are encoded, the prefix / total
edge counts on the position and path-length columns.

Scope of `encodePaths_complete`: no subpath constraints (`constraints = []`) and unit edge lengths (`lengths = none`).
With subpath constraints at coverage 1 in edges and no positions, `sat_encodePaths_of_stwalks` takes `k` source-to-sink walks (the
converse of `layer_sound` for a walk is `layerFacts_of_stwalk`) and an `r(i,j)` that says "walk `i` contains constraint `j`".
-/
namespace FP
open FP.Spec

section
variable {s : STGraph} {ae : Bool} {p : List Node}

theorem full_nodes_mem (hwf : STWF s) (hwalk : IsWalkIn s.g (full s p)) :
    ∀ v ∈ full s p, v ∈ s.g.nodes := by
  intro v hv
  have hfull : full s p = s.source :: (p ++ [s.sink]) := rfl
  rw [hfull] at hv
  rcases List.mem_cons.1 hv with rfl | hv
  · exact source_mem_of_walk s hwf.toC p hwalk
  · obtain ⟨u, hu⟩ := exists_we_into (w := full s p) (by rw [hfull, List.tail_cons]; exact hv)
    exact (hwf.closed _ (hwalk _ hu)).2

/-- the number of edges of a route met on any duplicate-free list of graph edges: a natural number
at most `|V|` -/
theorem route_count (hwf : STWF s) (h : Route s ae p) (l : List Edge) (hl : l.Nodup)
    (hsub : ∀ e ∈ l, e ∈ s.g.edges) :
    0 ≤ (l.map (trav s p)).sum ∧ (l.map (trav s p)).sum ≤ (s.g.nodes.length : Rat) ∧
      IsInt (l.map (trav s p)).sum := by
  have hcast : (l.map (trav s p)).sum
      = (((l.map fun e => traversals (full s p) e).sum : Nat) : Rat) := by
    rw [natCast_sum]; rfl
  refine ⟨sum_map_nonneg (fun e _ => trav_nonneg s p e), ?_, ?_⟩
  · rcases route_cases h with rfl | ⟨hp, hwalk, hnd⟩
    · rw [sum_map_zero (fun e he => trav_empty hwf e (hsub e he))]
      exact Rat.natCast_nonneg
    · rw [hcast]
      apply Rat.natCast_le_natCast.2
      have h1 := sum_count_le_length l hl (walkEdges (full s p))
      have h2 := walkEdges_length (full s p)
      have h3 := hnd.length_le_of_subset (full_nodes_mem hwf hwalk)
      unfold traversals
      omega
  · rw [hcast]; exact natCast_isInt _

end

theorem encodePaths_complete (s : STGraph) (c : PathCfg) (a : Asg) (P : Nat → List Node)
    (hwf : STWF s) (hroute : ∀ i, i < c.k → Route s c.allowEmpty (P i))
    (hcons : c.constraints = []) (hlen : c.lengths = none)
    (hedge : ∀ i, i < c.k → ∀ e ∈ s.g.edges, a (edgeVar e i) = trav s (P i) e)
    (hpos : c.encodePosition = true → ∀ i, i < c.k →
      (∀ e ∈ s.g.edges, a (posVar e i) = ((edgesReaching s e.1).map (trav s (P i))).sum) ∧
      a (lenVar i) = (s.g.edges.map (trav s (P i))).sum) :
    Sat a (encodePaths s c) := by
  refine (sat_encodePaths_iff s c a).2
    ⟨fun i hi => (layerFacts_of_trav hwf (hroute i hi)).congr (hedge i hi), ?_, fun hep i hi => ?_⟩
  · unfold subpathBlock
    simp only [hcons, List.isEmpty_nil, if_true]
    exact sat_empty a
  · have hml : maxLength s c = (s.g.nodes.length : Rat) := by unfold maxLength; rw [hlen]
    have hER : ∀ u, (edgesReaching s u).Nodup ∧ ∀ e ∈ edgesReaching s u, e ∈ s.g.edges :=
      fun u => ⟨hwf.edgesNodup.sublist List.filter_sublist, fun e he => (List.mem_filter.1 he).1⟩
    -- with unit lengths the weighted count of a list of edges is its number of route edges
    have hsum : ∀ l : List Edge, (∀ e ∈ l, e ∈ s.g.edges) →
        (l.map fun e' => c.len e' * a (edgeVar e' i)).sum = (l.map (trav s (P i))).sum := fun l hl =>
      congrArg List.sum (List.map_congr_left fun e he => by
        rw [PathCfg.len, hlen, hedge i hi e (hl e he), Rat.one_mul])
    obtain ⟨hp, hl⟩ := hpos hep i hi
    rw [hml]
    refine ⟨fun e he => ?_, ?_, fun e he => ?_, ?_⟩
    · rw [hp e he]; exact route_count hwf (hroute i hi) _ (hER e.1).1 (hER e.1).2
    · rw [hl]; exact route_count hwf (hroute i hi) _ hwf.edgesNodup (fun e he => he)
    · rw [hp e he, hsum _ (hER e.1).2]
    · rw [hl, hsum _ fun e he => he]

theorem layerFacts_of_stwalk {s : STGraph} (hwf : STWF s) (ae : Bool) {l : List Node}
    (h : IsSTWalk s l) : LayerFacts s ae (cntR (walkEdges l)) := by
  obtain ⟨p, rfl⟩ := stwalk_shape hwf.ne h
  have hr : Route s ae p := Or.inr ⟨stwalk_ne_nil hwf h.walk, h.walk, stwalk_nodup hwf h.walk⟩
  exact (layerFacts_of_trav hwf hr).congr fun e _ => (trav_eq_cntR s p e).symm

theorem sat_encodePaths_of_stwalks (s : STGraph) (c : PathCfg) (a : Asg) (hwf : STWF s)
    (hpos : c.encodePosition = false) (hcl : c.coverageLength = none) (hcov : c.coverage = 1)
    (L : Nat → List Node) (hL : ∀ i, i < c.k → IsSTWalk s (L i))
    (hedge : ∀ i, i < c.k → ∀ e, a (edgeVar e i) = cntR (walkEdges (L i)) e)
    (hr : ∀ i, i < c.k → ∀ j (hj : j < c.constraints.length),
      a (rVar i j) = if ∀ e ∈ c.constraints[j], e ∈ walkEdges (L i) then 1 else 0)
    (hex : ∀ con ∈ c.constraints, ∃ i, i < c.k ∧ ∀ e ∈ con, e ∈ walkEdges (L i)) :
    Sat a (encodePaths s c) := by
  refine (sat_encodePaths_iff s c a).2 ⟨fun i hi => ?_,
    subpathBlock_complete c a hcl (fun i hi _ _ e _ => ?_) (fun i hi j hj => ?_) (fun i hi j hj h1 => ?_)
      fun j hj => ?_,
    fun h => absurd (hpos ▸ h) (by decide)⟩
  · rw [funext (hedge i hi)]
    exact layerFacts_of_stwalk hwf c.allowEmpty (hL i hi)
  · rw [hedge i hi]; exact cntR_nonneg _ _
  · rw [hr i hi j hj]
    split
    · exact .inr rfl
    · exact .inl rfl
  · have hnd := walkEdges_nodup (stwalk_nodup hwf (hL i hi).walk)
    -- `r(i,j) = 1` is the first branch of the indicator
    have hall : ∀ e ∈ c.constraints[j], e ∈ walkEdges (L i) := Classical.byContradiction fun hn =>
      absurd ((hr i hi j hj).symm.trans h1) (by rw [if_neg hn]; decide)
    rw [hcov, Rat.mul_one, sum_map_eq_length fun e he => by
      rw [hedge i hi]; exact cntR_mem _ hnd e (hall e he)]
    exact Rat.le_refl
  · obtain ⟨i, hi, hall⟩ := hex _ (List.getElem_mem hj)
    exact ⟨i, hi, (hr i hi j hj).trans (if_pos hall)⟩

end FP
