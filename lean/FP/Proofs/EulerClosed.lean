import FP.Proofs.EulerLemmas
/-!
`closed` is a trail like the first phase: it keeps `TrailInv` and pushes the departed vertices on the stack
(`closed_spec`). In a balanced residual it can only get stuck where it started, so with
enough fuel it returns a non-trivial closed walk `v :: c ++ [v]` and leaves the residual balanced
(`closed_balanced`); splicing such a walk into a walk adds exactly its edges (`walkEdges_splice_perm`).
-/
namespace FP.Euler
open FP.Spec
variable {V : Type} [DecidableEq V]

theorem closed_spec (g0 : Adj V) (start : V) (stack0 : List V) :
    ∀ (n : Nat) (g : Adj V) (cur : V) (cw stack : List V),
      TrailInv g0 start g cur cw → edgeCount g < n → stack0 ++ cw = stack ++ [cur] →
      ∀ r, closed n g start cur cw stack = r →
      ∃ z, TrailInv g0 start r.1 z r.2.1 ∧ stack0 ++ r.2.1 = r.2.2 ++ [z] ∧
        ((cw.length < r.2.1.length ∧ z = start) ∨ out r.1 z = []) := by
  intro n g cur cw stack h hlt hst r hr
  subst hr
  fun_induction closed n g start cur cw stack with
  | case1 => omega
  | case2 _ _ _ _ _ _ hnone => exact ⟨_, h, hst, Or.inr (List.getLast?_eq_none_iff.1 hnone)⟩
  | case3 _ g cur cw stack nxt hn =>
    exact ⟨nxt, h.step hn, (List.append_assoc ..).symm.trans (congrArg (· ++ [nxt]) hst),
      Or.inl ⟨List.length_append ▸ Nat.lt_succ_self _, rfl⟩⟩
  | case4 n g _ cur cw stack nxt hn _ _ _ _ ih =>
    have hlt' : edgeCount (popOut g cur) < n := by
      have := edgeCount_popOut g cur nxt h.keys hn; omega
    obtain ⟨z, hT, hs, h6⟩ := ih (h.step hn) hlt' ((List.append_assoc ..).symm.trans (congrArg (· ++ [nxt]) hst))
    refine ⟨z, hT, hs, h6.imp_left fun ⟨hl, hz⟩ => ⟨?_, hz⟩⟩
    rw [List.length_append] at hl; omega

/-- The closed walk comes out in the form `v :: c ++ [v]`, with `v :: c` (the vertices departed from) pushed on the
stack; the lemmas on splicing below are stated for this form. -/
theorem closed_balanced (n : Nat) (g : Adj V) (v : V) (stack : List V)
    (hk : (g.map (·.1)).Nodup) (hlt : edgeCount g < n)
    (hbal : ∀ x, bal (edges g) x = 0) (hv : out g v ≠ []) {r : Adj V × List V × List V}
    (hr : closed n g v v [v] stack = r) :
    ∃ c, r.2.1 = v :: c ++ [v] ∧ r.2.2 = stack ++ v :: c ∧
      (edges g).Perm (walkEdges (v :: c ++ [v]) ++ edges r.1) ∧
      (r.1.map (·.1)).Nodup ∧ (∀ x, bal (edges r.1) x = 0) ∧
      edgeCount r.1 + c.length + 1 = edgeCount g := by
  obtain ⟨z, hT, hst, h6⟩ :=
    closed_spec g v stack n g v [v] stack (TrailInv.init g v hk) hlt rfl r hr
  obtain ⟨ext, hext⟩ := List.head?_eq_some_iff.1 hT.head
  rw [hext] at hT hst h6
  -- a balanced graph's trail from `v` can only be stuck at `v`
  have hzv : v = z := by
    rcases h6 with ⟨_, hz⟩ | hz
    · exact hz.symm
    · have hb := stuck_balance g r.1 v z _ hT hz
      rw [hbal z] at hb
      exact Classical.byContradiction fun hvz => by
        rw [ind'_neg hvz] at hb; omega
  subst hzv
  cases ext with
  | nil =>
    rcases h6 with ⟨hl, _⟩ | hz
    · exact absurd hl (Nat.lt_irrefl _)
    · obtain ⟨w, hw⟩ := List.exists_mem_of_ne_nil _ hv
      have := mem_out_of_mem_edges hT.keys (hT.perm.subset (mem_edges_of_mem_out g v w hw))
      rw [hz] at this; cases this
  | cons e es =>
    have hs := getLast?_eq_some_split (l := e :: es) (a := v) (by simpa [List.getLast?_cons_cons] using hT.last)
    generalize (e :: es).dropLast = c at hs
    rw [hs] at hT hst hext
    refine ⟨c, hext, (List.append_cancel_right ((List.append_assoc ..).trans hst)).symm, hT.perm, hT.keys,
      fun x => ?_, ?_⟩
    · have hb := trail_balance g r.1 v v _ hT x
      rw [hbal x] at hb; omega
    · have := hT.perm.length_eq
      have hw : (walkEdges (v :: (c ++ [v]))).length = c.length + 1 := by simp [walkEdges]
      rw [List.length_append, hw, edges_length, edges_length] at this
      omega

theorem insertAfterFirst_split (walk : List V) (v : V) (ins : List V) (h : v ∈ walk) :
    ∃ a b, walk = a ++ v :: b ∧ insertAfterFirst walk v ins = a ++ v :: (ins ++ b) := by
  fun_induction insertAfterFirst walk v ins with
  | case1 => cases h
  | case2 xs => exact ⟨[], xs, rfl, rfl⟩
  | case3 x xs hx ih =>
    obtain ⟨a, b, h1, h2⟩ := ih ((List.mem_cons.1 h).resolve_left (Ne.symm hx))
    exact ⟨x :: a, b, congrArg (x :: ·) h1, congrArg (x :: ·) h2⟩

omit [DecidableEq V] in
theorem walkEdges_splice_perm (a b c : List V) (v : V) :
    (walkEdges (a ++ v :: (c ++ [v] ++ b))).Perm (walkEdges (a ++ v :: b) ++ walkEdges (v :: c ++ [v])) := by
  have e1 : a ++ v :: (c ++ [v] ++ b) = (a ++ v :: c) ++ v :: b := by simp
  rw [e1, we_append_cons (a ++ v :: c) v b]
  have e2 : a ++ v :: c ++ [v] = a ++ v :: (c ++ [v]) := by simp
  rw [e2, we_append_cons a v (c ++ [v]), we_append_cons a v b]
  rw [List.append_assoc, List.append_assoc]
  exact List.Perm.append_left _ List.perm_append_comm

omit [DecidableEq V] in
theorem splice_getLast? (a b c : List V) (v : V) :
    (a ++ v :: (c ++ [v] ++ b)).getLast? = (a ++ v :: b).getLast? := by
  have h : ∀ l : List V, (l ++ v :: b).getLast? = (v :: b).getLast? := fun l => by
    rw [List.getLast?_append, List.getLast?_eq_some_getLast (List.cons_ne_nil v b)]; rfl
  have e1 : a ++ v :: (c ++ [v] ++ b) = (a ++ v :: c) ++ v :: b := by simp
  rw [e1, h, h]

end FP.Euler
