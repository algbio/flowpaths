import FP.Spec.ErrGiven
import FP.Proofs.KLAE
/-!
k-Least-Absolute-Errors with `solution_weights_superset` on DAGs. `klaeGivenLP inp ws originalK` is the LP
of `_encode_leastabserrors_decomposition_with_given_weights` followed by `_encode_objective`. There are no weight
or `pi` columns: the edge columns are multiplied by the given numbers directly in rows 9aa / 9ab, and the row
`max_paths_original_k_paths` caps the number of used layers. `capRow_iff_usedCount` and `klaegSumW` also
serve the given-weights k-Min-Path-Error.
-/
namespace FP
open FP.Spec FP.Spec.LAE

/-- the left-hand side of the row `max_paths_original_k_paths` counts the used layers, so the row caps
their number -/
theorem capRow_iff_usedCount {s : STGraph} (ae : Bool) {k : Nat} (a : Asg) (P : Nat → List Node) (ok : Nat)
    (hwf : STWF s) (hroute : ∀ i, i < k → Route s ae (P i))
    (hedge : ∀ i, i < k → ∀ e ∈ s.g.edges, a (edgeVar e i) = trav s (P i) e) :
    evalTerms a ((List.range k).flatMap fun i =>
        ones (s.g.succ s.source) (fun v => edgeVar (s.source, v) i)) ≤ (ok : Rat)
      ↔ usedCount k P ≤ ok := by
  rw [← Rat.natCast_le_natCast]
  refine iff_of_eq (congrArg (· ≤ (ok : Rat)) ?_)
  rw [evalTerms_flatMap]
  unfold usedCount
  rw [← List.countP_eq_length_filter, ← sum_ind_eq_countP]
  refine congrArg List.sum (List.map_congr_left fun i hi => ?_)
  have hi' := List.mem_range.1 hi
  have hind : (if decide (P i ≠ []) = true then (1:Rat) else 0) = if P i = [] then 0 else 1 := by
    by_cases h : P i = [] <;> simp [h]
  rw [evalTerms_ones, hind, ← route_src hwf (hroute i hi'), ← sum_succ]
  exact congrArg List.sum (List.map_congr_left fun v hv => hedge i hi' (s.source, v) (mem_succ.1 hv))

/-- the terms `Σ_i ws[i]·x(e,i)` of rows 9aa / 9ab -/
def klaegSumW (inp : ErrInput) (ws : List Rat) (e : Edge) : Terms :=
  (List.range inp.k).map fun i => (ws.getD i 0, edgeVar e i)

theorem klaegSumW_explained {inp : ErrInput} (ws : List Rat) (a : Asg) (P : Nat → List Node) {e : Edge}
    (he : e ∈ inp.st.g.edges)
    (hedge : ∀ i, i < inp.k → ∀ e ∈ inp.st.g.edges, a (edgeVar e i) = trav inp.st (P i) e) :
    evalTerms a (klaegSumW inp ws e) = explained inp.st inp.k P (givenW ws) e := by
  rw [klaegSumW, evalTerms_map]
  exact congrArg List.sum (List.map_congr_left fun i hi => by rw [hedge i (List.mem_range.1 hi) e he]; rfl)

theorem klaeg_sat_iff (inp : ErrInput) (ws : List Rat) (ok : Nat) (a : Asg) :
    Sat a (klaeGivenLP inp ws ok) ↔
    Sat a (encodePaths inp.st inp.fi.cfg) ∧
    (∀ e ∈ inp.basicEdges, 0 ≤ a (eeVar e) ∧ a (eeVar e) ≤ inp.wmax (some ws) ∧
      (inp.fi.weightInt = true → IsInt (a (eeVar e)))) ∧
    (∀ e ∈ inp.basicEdges, (inp.fi.f e - evalTerms a (klaegSumW inp ws e)).abs ≤ a (eeVar e)) ∧
    evalTerms a ((List.range inp.k).flatMap fun i =>
        ones (inp.st.g.succ inp.st.source) (fun v => edgeVar (inp.st.source, v) i)) ≤ ok := by
  unfold klaeGivenLP
  rw [sat_append_iff]
  refine and_congr_right' ?_
  simp only [Sat, eeCols, List.forall_mem_append, List.forall_mem_flatMap, List.forall_mem_map,
    col_holds_iff, List.forall_mem_cons, List.not_mem_nil, false_imp_iff, implies_true, and_true,
    laeRows_iff]
  rw [rowLe_holds]
  exact Iff.rfl

theorem klae_given_sound (inp : ErrInput) (ws : List Rat) (ok : Nat) (a : Asg)
    (h : BaseWF inp.fi.base) (hac : Acyclic inp.fi.base) (hsat : Sat a (klaeGivenLP inp ws ok)) :
    ∃ ps : List (List Node),
      decodePaths inp.st (fun e i => a (edgeVar e i)) inp.k = some ps ∧ ps.length = inp.k ∧
      GivenChoice inp ok (fun i => ps.getD i []) ∧
      (∀ i, i < inp.k → ps.getD i [] ≠ [] →
        ValidRoute inp.fi.base inp.fi.starts inp.fi.ends (ps.getD i []) ∧ (ps.getD i []).Nodup) ∧
      (∀ i, i < inp.k → ∀ e ∈ inp.st.g.edges, a (edgeVar e i) = trav inp.st (ps.getD i []) e) ∧
      (∀ e ∈ inp.basicEdges,
        absErr inp (fun i => ps.getD i []) (givenW ws) e ≤ a (eeVar e) ∧
        a (eeVar e) ≤ inp.wmax (some ws) ∧ (inp.fi.weightInt = true → IsInt (a (eeVar e)))) ∧
      evalTerms a (klaeGivenLP inp ws ok).obj
        = (inp.basicEdges.map fun e => inp.scale e * a (eeVar e)).sum := by
  obtain ⟨henc, heec, herr, hcap⟩ := (klaeg_sat_iff inp ws ok a).1 hsat
  obtain ⟨ps, hps, hlen, hroutes, hvalid, htrav⟩ := decode_valid_routes a h hac henc
  refine ⟨ps, hps, hlen, ⟨hroutes, ?_⟩, hvalid, htrav, ?_, klaeObj_eval inp a⟩
  · exact (capRow_iff_usedCount _ a _ ok (h.stwf hac) hroutes htrav).1 hcap
  · intro e he
    refine ⟨?_, (heec e he).2⟩
    unfold absErr
    rw [← klaegSumW_explained ws a _ (mem_basicEdges he) htrav]
    exact herr e he

/-- `hfint`: with `weight_type = int` the error columns are integer columns, so the flow values and the
given numbers have to be integers -/
theorem klae_given_complete (inp : ErrInput) (ws : List Rat) (ok : Nat) (P : Nat → List Node)
    (h : BaseWF inp.fi.base) (hac : Acyclic inp.fi.base)
    (hcons : inp.fi.cfg.constraints = []) (hlen : inp.fi.cfg.lengths = none)
    (hfint : inp.fi.weightInt = true →
      (∀ e ∈ inp.basicEdges, IsInt (inp.fi.f e)) ∧ ∀ i, i < inp.k → IsInt (givenW ws i))
    (hb : GivenBounded inp ws ok P) :
    ∃ a : Asg, Sat a (klaeGivenLP inp ws ok) ∧
      (∀ i, i < inp.k → ∀ e ∈ inp.st.g.edges, a (edgeVar e i) = trav inp.st (P i) e) ∧
      (∀ e ∈ inp.basicEdges, a (eeVar e) = absErr inp P (givenW ws) e) ∧
      evalTerms a (klaeGivenLP inp ws ok).obj = totalErr inp P (givenW ws) := by
  have hwf : STWF inp.st := h.stwf hac
  let σ : ErrSol := { P := P, w := givenW ws, ee := absErr inp P (givenW ws) }
  have hedge : ∀ i, i < inp.k → ∀ e ∈ inp.st.g.edges,
      solAsg inp.st σ (edgeVar e i) = trav inp.st (P i) e := fun i _ e _ => solAsg_edge inp.st σ e i
  have hee : ∀ e ∈ inp.basicEdges, solAsg inp.st σ (eeVar e) = absErr inp P (givenW ws) e :=
    fun e _ => solAsg_ee inp.st σ e
  refine ⟨solAsg inp.st σ, ?_, hedge, hee, klaeObj_of_errs inp _ P _ hee⟩
  refine (klaeg_sat_iff inp ws ok _).2
    ⟨solAsg_sat_paths hwf hb.routes hcons hlen, fun e he => ?_, fun e he => ?_, ?_⟩
  · rw [hee e he]
    exact ⟨Rat.abs_nonneg, hb.errle e he,
      fun hint => absErr_isInt inp P (givenW ws) (hfint hint).2 e ((hfint hint).1 e he)⟩
  · rw [klaegSumW_explained ws _ P (mem_basicEdges he) hedge, hee e he]
    exact Rat.le_refl
  · exact (capRow_iff_usedCount _ _ P ok hwf hb.routes hedge).2 hb.cap

theorem klae_given_opt_transfer (inp : ErrInput) (ws : List Rat) (ok : Nat) (a : Asg)
    (h : BaseWF inp.fi.base) (hac : Acyclic inp.fi.base)
    (hcons : inp.fi.cfg.constraints = []) (hlen : inp.fi.cfg.lengths = none)
    (hfint : inp.fi.weightInt = true →
      (∀ e ∈ inp.basicEdges, IsInt (inp.fi.f e)) ∧ ∀ i, i < inp.k → IsInt (givenW ws i))
    (hscale : ∀ e ∈ inp.basicEdges, 0 ≤ inp.scale e)
    (hsat : Sat a (klaeGivenLP inp ws ok))
    (hopt : ∀ a', Sat a' (klaeGivenLP inp ws ok) →
      evalTerms a (klaeGivenLP inp ws ok).obj ≤ evalTerms a' (klaeGivenLP inp ws ok).obj) :
    ∃ ps : List (List Node),
      decodePaths inp.st (fun e i => a (edgeVar e i)) inp.k = some ps ∧
      GivenBounded inp ws ok (fun i => ps.getD i []) ∧
      (∀ P', GivenBounded inp ws ok P' →
        totalErr inp (fun i => ps.getD i []) (givenW ws) ≤ totalErr inp P' (givenW ws)) ∧
      (∀ e ∈ inp.basicEdges, 0 < inp.scale e →
        a (eeVar e) = absErr inp (fun i => ps.getD i []) (givenW ws) e) ∧
      evalTerms a (klaeGivenLP inp ws ok).obj = totalErr inp (fun i => ps.getD i []) (givenW ws) := by
  obtain ⟨ps, hps, _, hch, _, _, herr, _⟩ := klae_given_sound inp ws ok a h hac hsat
  have hbd : GivenBounded inp ws ok (fun i => ps.getD i []) :=
    { toGivenChoice := hch, errle := fun e he => Rat.le_trans (herr e he).1 (herr e he).2.1 }
  obtain ⟨heq, hmin⟩ := opt_transfer (fun a => Sat a (klaeGivenLP inp ws ok))
    (fun a => evalTerms a (klaeGivenLP inp ws ok).obj)
    (fun P : Nat → List Node => GivenBounded inp ws ok P) (fun P => totalErr inp P (givenW ws))
    a _ hopt
    (fun P hP => by
      obtain ⟨a', hs, _, _, ho⟩ := klae_given_complete inp ws ok P h hac hcons hlen hfint hP
      exact ⟨a', hs, ho⟩)
    hbd (klaeObj_ge inp a _ _ hscale fun e he => (herr e he).1)
  exact ⟨ps, hps, hbd, hmin,
    klaeObj_tight inp a _ _ hscale (fun e he => (herr e he).1) (heq ▸ Rat.le_refl), heq⟩

/-- `hsum` holds e.g. for `len(ws)` weights none of which exceeds the largest flow value -/
theorem klae_given_adequate (inp : ErrInput) (ws : List Rat) (ok : Nat) (P : Nat → List Node)
    (h : BaseWF inp.fi.base) (hac : Acyclic inp.fi.base)
    (hw0 : ∀ i, i < inp.k → 0 ≤ givenW ws i)
    (hsum : ((List.range inp.k).map (givenW ws)).sum ≤ inp.wmax (some ws))
    (hf : ∀ e ∈ inp.basicEdges, 0 ≤ inp.fi.f e ∧ inp.fi.f e ≤ inp.wmax (some ws))
    (hch : GivenChoice inp ok P) : GivenBounded inp ws ok P := by
  refine { toGivenChoice := hch, errle := fun e he => ?_ }
  exact abs_sub_le_of_bounds _ _ _ (hf e he).1 (hf e he).2 (explained_nonneg _ _ _ _ e hw0)
    (Rat.le_trans (explained_le_sum _ _ P _ e
      (fun i hi => trav01 (h.stwf hac) (hch.routes i hi) e) hw0) hsum)

/-- `inp.fi.cfg.allowEmpty = true` under `∀ P'` speaks of `inp` only, not of the competitor; it is used for
the layers with `P' i = []` -/
theorem klae_given_optimal (inp : ErrInput) (ws : List Rat) (ok : Nat) (a : Asg)
    (h : BaseWF inp.fi.base) (hac : Acyclic inp.fi.base)
    (hcons : inp.fi.cfg.constraints = []) (hlen : inp.fi.cfg.lengths = none)
    (hfint : inp.fi.weightInt = true →
      (∀ e ∈ inp.basicEdges, IsInt (inp.fi.f e)) ∧ ∀ i, i < inp.k → IsInt (givenW ws i))
    (hscale : ∀ e ∈ inp.basicEdges, 0 ≤ inp.scale e)
    (hw0 : ∀ i, i < inp.k → 0 ≤ givenW ws i)
    (hsum : ((List.range inp.k).map (givenW ws)).sum ≤ inp.wmax (some ws))
    (hf : ∀ e ∈ inp.basicEdges, 0 ≤ inp.fi.f e ∧ inp.fi.f e ≤ inp.wmax (some ws))
    (hsat : Sat a (klaeGivenLP inp ws ok))
    (hopt : ∀ a', Sat a' (klaeGivenLP inp ws ok) →
      evalTerms a (klaeGivenLP inp ws ok).obj ≤ evalTerms a' (klaeGivenLP inp ws ok).obj) :
    ∃ ps : List (List Node),
      decodePaths inp.st (fun e i => a (edgeVar e i)) inp.k = some ps ∧
      usedCount inp.k (fun i => ps.getD i []) ≤ ok ∧
      ∀ P' : Nat → List Node,
        (∀ i, i < inp.k → P' i = [] ∨ ValidRoute inp.fi.base inp.fi.starts inp.fi.ends (P' i)) →
        usedCount inp.k P' ≤ ok → inp.fi.cfg.allowEmpty = true →
        totalErr inp (fun i => ps.getD i []) (givenW ws) ≤ totalErr inp P' (givenW ws) := by
  obtain ⟨ps, hps, hbd, hmin, _, _⟩ :=
    klae_given_opt_transfer inp ws ok a h hac hcons hlen hfint hscale hsat hopt
  refine ⟨ps, hps, hbd.cap, fun P' hr hcap hae => hmin P' ?_⟩
  refine klae_given_adequate inp ws ok P' h hac hw0 hsum hf ⟨fun i hi => ?_, hcap⟩
  rcases hr i hi with h0 | hv
  · exact Or.inl ⟨h0, hae⟩
  · exact route_of_validRoute inp.fi.starts inp.fi.ends h hac _ hv

end FP
