import FP.Model.PathSafetyRows
import FP.Proofs.SafetyGraph
import FP.Proofs.SafetyPaths
import FP.Proofs.C10Constraints
/-!
# FP.Proofs.C05DagLayers — every safe list that `__init__` assembles runs inside one layer of every solution

`a` satisfies `_encode_paths` on a well-formed s-t DAG. `dagLayerWalk s a i` is the decoded path of layer `i` with
the synthetic endpoints; a layer that uses some edge is a source-to-sink walk and its edge variables are the
indicator of that walk (`layer_sound`). So what holds of source-to-sink walks holds of layers: the univocal
extension that `safe_paths` computes for an edge lies in every layer that uses the edge (`safePathOf_forced`); the
sequence that `safe_sequences` computes for an item (an edge or a subpath constraint) lies in every layer that uses
all edges of the item (`safeSequenceOf_members`: the left bridges dominate the walks from the source to the tail of
the item's first edge, the right bridges those from the head of its last edge to the sink; no assumption on the
order in which the item lists its edges). With coverage 1 (or length coverage 1 and positive lengths) a subpath
constraint lies completely in the layer responsible for it (`c05d_responsible_layer`: that layer holds the requested
fraction, here all of it).
-/
namespace FP
open FP.Spec FP.Safety

/-- the path of layer `i` with the synthetic endpoints (`[]` if the decoder gives up) -/
def dagLayerWalk (s : STGraph) (a : Asg) (i : Nat) : List Node :=
  match decodeLayer s (fun e i => a (edgeVar e i)) i with
  | some p => s.source :: p ++ [s.sink]
  | none => []

theorem dagLayerWalk_of_decode {s : STGraph} {a : Asg} {i : Nat} {p : List Node}
    (hp : decodeLayer s (fun e i => a (edgeVar e i)) i = some p) :
    dagLayerWalk s a i = s.source :: p ++ [s.sink] := by
  unfold dagLayerWalk; rw [hp]

def LayerHas (s : STGraph) (a : Asg) (q : List Edge) (i : Nat) : Prop :=
  ∀ e ∈ q, e ∈ s.g.edges ∧ a (edgeVar e i) = 1

def SomeLayerHas (s : STGraph) (a : Asg) (k : Nat) (q : List Edge) : Prop := ∃ i, i < k ∧ LayerHas s a q i

section Layer
variable {s : STGraph} {c : PathCfg} {a : Asg} {i : Nat}

theorem c05d_layer_indicator (hwf : STWF s) (hsat : Sat a (encodePaths s c)) (hi : i < c.k) :
    ∀ e ∈ s.g.edges, a (edgeVar e i) = if e ∈ walkEdges (dagLayerWalk s a i) then 1 else 0 := by
  obtain ⟨p, hp, hr, hx⟩ :=
    layer_sound (X := fun e i => a (edgeVar e i)) hwf (layerFacts_of_sat hsat hi)
  rw [dagLayerWalk_of_decode hp]
  exact fun e he => (hx e he).trans (trav_of_route hwf hr e)

theorem c05d_layer_walk (hwf : STWF s) (hsat : Sat a (encodePaths s c)) (hi : i < c.k) {e : Edge}
    (he : e ∈ s.g.edges) (h1 : a (edgeVar e i) = 1) :
    IsSTWalkG s.g s.source s.sink (dagLayerWalk s a i) ∧ e ∈ walkEdges (dagLayerWalk s a i) := by
  obtain ⟨p, hp, hr, hx⟩ :=
    layer_sound (X := fun e i => a (edgeVar e i)) hwf (layerFacts_of_sat hsat hi)
  have hne : trav s p e ≠ 0 := by rw [← hx e he, h1]; decide
  rw [dagLayerWalk_of_decode hp]
  exact ⟨⟨Route.walk_of_ne hr fun h0 => hne (h0 ▸ trav_empty hwf e he), rfl,
    (List.cons_append ▸ List.getLast?_concat : (s.source :: (p ++ [s.sink])).getLast? = some s.sink)⟩,
    mem_of_trav_ne_zero hne⟩

theorem c05d_layerHas_of_mem (hwf : STWF s) (hsat : Sat a (encodePaths s c)) (hi : i < c.k)
    (hw : IsWalkIn s.g (dagLayerWalk s a i)) (q : List Edge)
    (hq : ∀ e ∈ q, e ∈ walkEdges (dagLayerWalk s a i)) : LayerHas s a q i := by
  intro e he
  have hg := hw e (hq e he)
  refine ⟨hg, ?_⟩
  rw [c05d_layer_indicator hwf hsat hi e hg, if_pos (hq e he)]

theorem c05d_safePath_in_layer (hwf : STWF s) (hsat : Sat a (encodePaths s c)) (hi : i < c.k) {x : Edge}
    (hx : x ∈ s.g.edges) (h1 : a (edgeVar x i) = 1) (p : List Edge) (hp : safePathOf s.g x = .ok p) :
    LayerHas s a p i := by
  obtain ⟨hw, hmem⟩ := c05d_layer_walk hwf hsat hi hx h1
  have hsrc : s.g.pred s.source = [] := by
    unfold Graph.pred
    rw [List.map_eq_nil_iff, List.filter_eq_nil_iff]
    exact fun e he => by simpa using hwf.srcNoIn e he
  have hsnk : s.g.succ s.sink = [] := by
    unfold Graph.succ
    rw [List.map_eq_nil_iff, List.filter_eq_nil_iff]
    exact fun e he => by simpa using hwf.snkNoOut e he
  have hinf := safePathOf_forced s.g s.source s.sink hsrc hsnk x p hp _ hw hmem
  exact c05d_layerHas_of_mem hwf hsat hi hw.walk p (fun e he => hinf.subset he)

theorem c05d_safeSequence_in_layer (hwf : STWF s) (hsat : Sat a (encodePaths s c)) (hi : i < c.k)
    (item : List Edge) (hit : LayerHas s a item i) (seq : List Edge)
    (hseq : safeSequenceOf s.g s.source s.sink item = .ok seq) : LayerHas s a seq i := by
  cases item with
  | nil => simp [safeSequenceOf] at hseq
  | cons x rest =>
    have hx := hit x (by simp)
    obtain ⟨hw, _⟩ := c05d_layer_walk hwf hsat hi hx.1 hx.2
    have hmem : ∀ e ∈ x :: rest, e ∈ walkEdges (dagLayerWalk s a i) := fun e he =>
      (c05d_layer_walk hwf hsat hi (hit e he).1 (hit e he).2).2
    exact c05d_layerHas_of_mem hwf hsat hi hw.walk seq
      (safeSequenceOf_members s.g hwf.closed s.source s.sink _ seq hseq _ hw hmem)

theorem c05d_fullCoverage (h : c.fullCoverage = true) :
    c.coverage = 1 ∧ (c.coverageLength = none ∨ c.coverageLength = some 1) := by
  unfold PathCfg.fullCoverage at h
  rw [Bool.and_eq_true] at h
  refine ⟨by simpa using h.1, ?_⟩
  cases hcl : c.coverageLength with
  | none => exact Or.inl rfl
  | some q =>
    have h2 := h.2
    rw [hcl] at h2
    exact Or.inr (by simpa using h2)

theorem c05d_responsible_layer (hwf : STWF s) (hsat : Sat a (encodePaths s c)) (j : Nat) (hj : j < c.constraints.length)
    (hed : ∀ e ∈ c.constraints[j], e ∈ s.g.edges) :
    ∃ i, i < c.k ∧ CovOK c (walkEdges (dagLayerWalk s a i)) c.constraints[j] := by
  obtain ⟨i, hi, _, p, hp, _, hcov⟩ := c10_responsible_layer s c a hwf hsat j hj hed
  exact ⟨i, hi, by rw [dagLayerWalk_of_decode hp]; exact hcov⟩

theorem c05d_constraint_in_layer (hwf : STWF s) (hsat : Sat a (encodePaths s c)) (hfull : c.fullCoverage = true)
    (hpos : c.coverageLength = some 1 → ∀ con ∈ c.constraints, ∀ e ∈ con, 0 < c.len e)
    (hcons : ∀ con ∈ c.constraints, ∀ e ∈ con, e ∈ s.g.edges) (con : List Edge) (hcon : con ∈ c.constraints) :
    SomeLayerHas s a c.k con := by
  obtain ⟨hcov, hcl⟩ := c05d_fullCoverage hfull
  obtain ⟨j, hj, rfl⟩ := List.mem_iff_getElem.1 hcon
  have hedges := hcons _ hcon
  obtain ⟨i, hi, hc⟩ := c05d_responsible_layer hwf hsat j hj hedges
  -- the responsible layer holds the requested fraction of the constraint, which is all of it
  have hall : ∀ e ∈ c.constraints[j], e ∈ walkEdges (dagLayerWalk s a i) := by
    unfold CovOK at hc
    rcases hcl with hcl | hcl
    · simp only [hcl, hcov, Rat.mul_one] at hc
      exact fun e he => of_decide_eq_true (List.countP_eq_length.1
        (Nat.le_antisymm List.countP_le_length (Rat.natCast_le_natCast.1 hc)) e he)
    · simp only [hcl, Rat.mul_one] at hc
      exact all_of_sum_ite_ge _ c.len _ (hpos hcl _ hcon) hc
  refine ⟨i, hi, fun e he => ⟨hedges e he, ?_⟩⟩
  rw [c05d_layer_indicator hwf hsat hi e (hedges e he), if_pos (hall e he)]

end Layer

theorem c05d_pathSafeLists_ok (s : STGraph) (c : PathCfg) (X : List Edge) (external : Option (List (List Edge)))
    (o : PathSafetyOpts) (lists : List (List Edge)) (h : pathSafeLists s c X external o = .ok lists) :
    ∃ l0 l1 l2, lists = l0 ++ l1 ++ l2 ∧ safeLists0 s X external o = .ok l0 ∧ safeLists1 s X o = .ok l1 ∧
      safeLists2 s c o = .ok l2 := by
  revert h
  fun_cases pathSafeLists s c X external o with
  | case9 _ _ l0 h0 l1 h1 l2 h2 => exact fun h => ⟨l0, l1, l2, (Res.ok.inj h).symm, h0, h1, h2⟩
  | _ => exact fun h => nomatch h

/-- every safe list lies in some layer of every solution. `X`: trusted edges, each used by some layer;
`external`: lists supplied from outside (flow-safe paths), assumed to lie in some layer; subpath constraints
made of graph edges, of positive length if the coverage is by length. -/
theorem c05d_safeLists_in_layers (s : STGraph) (c : PathCfg) (a : Asg) (hwf : STWF s)
    (hsat : Sat a (encodePaths s c)) (X : List Edge) (hX : ∀ x ∈ X, x ∈ s.g.edges)
    (hcover : ∀ x ∈ X, ∃ i, i < c.k ∧ a (edgeVar x i) = 1)
    (external : Option (List (List Edge)))
    (hext : ∀ l, external = some l → ∀ q ∈ l, SomeLayerHas s a c.k q)
    (hcons : ∀ con ∈ c.constraints, ∀ e ∈ con, e ∈ s.g.edges)
    (hpos : c.coverageLength = some 1 → ∀ con ∈ c.constraints, ∀ e ∈ con, 0 < c.len e)
    (o : PathSafetyOpts) (lists : List (List Edge)) (h : pathSafeLists s c X external o = .ok lists) :
    ∀ q ∈ lists, SomeLayerHas s a c.k q := by
  obtain ⟨l0, l1, l2, rfl, h0, h1, h2⟩ := c05d_pathSafeLists_ok s c X external o lists h
  intro q hq
  rcases List.mem_append.1 hq with hq | hq
  rcases List.mem_append.1 hq with hq | hq
  · revert h0
    fun_cases safeLists0 s X external o with
    | case1 l => exact fun h0 => hext l rfl q (Res.ok.inj h0 ▸ hq)
    | case2 =>
      intro h0
      obtain ⟨x, hx, hpx⟩ := mapRes_mem _ _ _ h0 q hq
      obtain ⟨i, hi, h1⟩ := hcover x hx
      exact ⟨i, hi, c05d_safePath_in_layer hwf hsat hi (hX x hx) h1 q hpx⟩
    | case3 => exact fun h0 => nomatch Res.ok.inj h0 ▸ hq
  · unfold safeLists1 at h1
    split at h1
    · obtain ⟨item, hitem, hseq⟩ := mapRes_mem _ _ _ h1 q hq
      obtain ⟨x, hx, rfl⟩ := List.mem_map.1 hitem
      obtain ⟨i, hi, hx1⟩ := hcover x hx
      refine ⟨i, hi, c05d_safeSequence_in_layer hwf hsat hi [x] ?_ q hseq⟩
      intro e he
      rw [List.mem_singleton] at he
      subst he
      exact ⟨hX _ hx, hx1⟩
    · injection h1 with h1; subst h1; cases hq
  · unfold safeLists2 at h2
    split at h2
    · rename_i hc
      have hfull : c.fullCoverage = true := by
        rw [Bool.and_eq_true] at hc; exact hc.2
      obtain ⟨item, hitem, hseq⟩ := mapRes_mem _ _ _ h2 q hq
      obtain ⟨i, hi, hlay⟩ := c05d_constraint_in_layer hwf hsat hfull hpos hcons item hitem
      exact ⟨i, hi, c05d_safeSequence_in_layer hwf hsat hi item hlay q hseq⟩
    · injection h2 with h2; subst h2; cases hq

end FP
