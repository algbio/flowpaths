import FP.Spec.GraphFile
/-!
What inserting edges one after the other (`add_edge`) builds.
-/
namespace FP.Parser
open FP.Spec.GraphFile
variable {S W Wd : Type} [DecidableEq S]

/-- what `nx.DiGraph` guarantees of a graph built by `add_edge` alone -/
structure Gr.WF (g : Gr S W) : Prop where
  nodesNodup : g.nodes.Nodup
  keysNodup : (g.edges.map key).Nodup
  nodesEq : ∀ x, x ∈ g.nodes ↔ ∃ e ∈ g.edges, x = e.1 ∨ x = e.2.1

theorem key_eq_iff {S W : Type} (e : S × S × W) (u v : S) : key e = (u, v) ↔ e.1 = u ∧ e.2.1 = v :=
  Prod.mk.injEq .. ▸ Iff.rfl

theorem hasEdge_iff (g : Gr S W) (u v : S) : g.hasEdge u v = true ↔ (u, v) ∈ g.edges.map key := by
  simp only [Gr.hasEdge, List.any_eq_true, decide_eq_true_eq, List.mem_map, key_eq_iff]

theorem mem_addNode {α : Type} [DecidableEq α] (ns : List α) (v x : α) : x ∈ addNode ns v ↔ x ∈ ns ∨ x = v := by
  unfold addNode
  split
  · exact ⟨Or.inl, fun h => h.elim id fun h => h ▸ ‹v ∈ ns›⟩
  · simp

theorem nodup_addNode {α : Type} [DecidableEq α] (ns : List α) (v : α) (h : ns.Nodup) : (addNode ns v).Nodup := by
  unfold addNode
  split
  · exact h
  · rename_i hv
    exact List.nodup_append.2 ⟨h, by simp, fun a ha b hb hab => hv (by simp_all)⟩

theorem addEdge_edges_of_hasEdge {g : Gr S W} {u v : S} (h : g.hasEdge u v = true) (w : W) :
    (g.addEdge u v w).edges = g.edges.map fun e => if e.1 = u ∧ e.2.1 = v then (u, v, w) else e := by
  simp [Gr.addEdge, h]

theorem addEdge_edges_of_not_hasEdge {g : Gr S W} {u v : S} (h : ¬g.hasEdge u v = true) (w : W) :
    (g.addEdge u v w).edges = g.edges ++ [(u, v, w)] := by
  simp [Gr.addEdge, h]

/-- the keys of the edge list are a node list of their own: a new key is appended, a known one changes nothing -/
theorem addEdge_keys (g : Gr S W) (u v : S) (w : W) :
    (g.addEdge u v w).edges.map key = addNode (g.edges.map key) (u, v) := by
  unfold addNode
  by_cases h : g.hasEdge u v = true
  · rw [if_pos ((hasEdge_iff g u v).1 h), addEdge_edges_of_hasEdge h, List.map_map]
    apply List.map_congr_left
    intro e _
    simp only [Function.comp]
    split
    · exact ((key_eq_iff e u v).2 ‹_›).symm
    · rfl
  · rw [if_neg (mt (hasEdge_iff g u v).2 h), addEdge_edges_of_not_hasEdge h, List.map_append]; rfl

theorem addEdge_hasEdge (g : Gr S W) (a b : S) (w : W) (u v : S) :
    (g.addEdge a b w).hasEdge u v = true ↔ g.hasEdge u v = true ∨ (u, v) = (a, b) := by
  rw [hasEdge_iff, addEdge_keys, mem_addNode, hasEdge_iff]

theorem mem_addEdge_edges (g : Gr S W) (u v : S) (w : W) (x y : S) (z : W) :
    (x, y, z) ∈ (g.addEdge u v w).edges ↔
      if x = u ∧ y = v then z = w else (x, y, z) ∈ g.edges := by
  by_cases h : g.hasEdge u v = true
  · rw [addEdge_edges_of_hasEdge h, List.mem_map]
    constructor
    · rintro ⟨e, he, hfe⟩
      split at hfe
      · cases hfe; simp
      · subst hfe; rwa [if_neg ‹_›]
    · intro hm
      split at hm
      · obtain ⟨e0, he0, hk0⟩ := List.mem_map.1 ((hasEdge_iff g u v).1 h)
        exact ⟨e0, he0, by rw [if_pos ((key_eq_iff ..).1 hk0), hm, ‹x = u ∧ y = v›.1, ‹x = u ∧ y = v›.2]⟩
      · exact ⟨_, hm, if_neg ‹_›⟩
  · have hne : ∀ z', (u, v, z') ∉ g.edges := fun z' hm =>
      h ((hasEdge_iff g u v).2 (List.mem_map.2 ⟨_, hm, rfl⟩))
    rw [addEdge_edges_of_not_hasEdge h, List.mem_append, List.mem_singleton]
    split
    · obtain ⟨rfl, rfl⟩ := ‹x = u ∧ y = v›
      simp [hne z]
    · rename_i hk
      simp only [Prod.mk.injEq, or_iff_left_iff_imp]
      exact fun hm => absurd ⟨hm.1, hm.2.1⟩ hk

theorem addEdge_nodes (g : Gr S W) (u v : S) (w : W) (x : S) :
    x ∈ (g.addEdge u v w).nodes ↔ x ∈ g.nodes ∨ x = u ∨ x = v := by
  simp only [Gr.addEdge, mem_addNode, or_assoc]

theorem endpoint_of_keys {S W : Type} {l l' : List (S × S × W)} (h : ∀ u v, (u, v) ∈ l.map key → (u, v) ∈ l'.map key) (x : S) :
    (∃ e ∈ l, x = e.1 ∨ x = e.2.1) → ∃ e ∈ l', x = e.1 ∨ x = e.2.1 := by
  rintro ⟨e, he, hx⟩
  obtain ⟨e', he', hk⟩ := List.mem_map.1 (h e.1 e.2.1 (List.mem_map.2 ⟨e, he, rfl⟩))
  obtain ⟨h1, h2⟩ := (key_eq_iff ..).1 hk
  exact ⟨e', he', by rw [h1, h2]; exact hx⟩

theorem Gr.WF.addEdge {g : Gr S W} (h : g.WF) (u v : S) (w : W) : (g.addEdge u v w).WF := by
  refine ⟨nodup_addNode _ _ (nodup_addNode _ _ h.nodesNodup), ?_, ?_⟩
  · rw [addEdge_keys]; exact nodup_addNode _ _ h.keysNodup
  · intro x
    rw [addEdge_nodes, h.nodesEq]
    constructor
    · rintro (hx | hx)
      · exact endpoint_of_keys (fun a b hab => by rw [addEdge_keys, mem_addNode]; exact Or.inl hab) x hx
      · refine ⟨(u, v, w), (mem_addEdge_edges g u v w u v w).2 (by simp), hx⟩
    · rintro ⟨⟨a, b, c⟩, he, hx⟩
      rw [mem_addEdge_edges] at he
      by_cases hk : a = u ∧ b = v
      · obtain ⟨rfl, rfl⟩ := hk
        exact Or.inr hx
      · rw [if_neg hk] at he
        exact Or.inl ⟨_, he, hx⟩

theorem Gr.WF.empty {S W : Type} : ({} : Gr S W).WF := ⟨by simp, by simp, by simp⟩

def addEdges (g : Gr S W) (es : List (S × S × W)) : Gr S W :=
  es.foldl (fun g e => g.addEdge e.1 e.2.1 e.2.2) g

theorem buildGraph_eq (es : List (S × S × W)) : buildGraph es = addEdges {} es := rfl

theorem addEdges_cons (g : Gr S W) (e : S × S × W) (es : List (S × S × W)) :
    addEdges g (e :: es) = addEdges (g.addEdge e.1 e.2.1 e.2.2) es := rfl

theorem addEdges_WF {g : Gr S W} (h : g.WF) (es : List (S × S × W)) : (addEdges g es).WF := by
  induction es generalizing g with
  | nil => exact h
  | cons e es ih => exact ih (h.addEdge _ _ _)

theorem addEdges_hasEdge (g : Gr S W) (es : List (S × S × W)) (u v : S) :
    (addEdges g es).hasEdge u v = true ↔ g.hasEdge u v = true ∨ (u, v) ∈ es.map key := by
  induction es generalizing g with
  | nil => simp [addEdges]
  | cons e es ih =>
    rw [addEdges_cons, ih, addEdge_hasEdge, List.map_cons, List.mem_cons, or_assoc]; rfl

theorem buildGraph_hasEdge (es : List (S × S × W)) (u v : S) :
    (buildGraph es).hasEdge u v = true ↔ (u, v) ∈ es.map key := by
  rw [buildGraph_eq, addEdges_hasEdge]
  exact or_iff_right Bool.false_ne_true

theorem mem_addEdges_edges (g : Gr S W) (es : List (S × S × W)) (x y : S) (z : W) :
    (x, y, z) ∈ (addEdges g es).edges ↔
      match lastWeight es (x, y) with
      | some w => z = w
      | none => (x, y, z) ∈ g.edges := by
  induction es generalizing g with
  | nil => simp [addEdges, lastWeight]
  | cons e es ih =>
    rw [addEdges_cons, ih]
    simp only [lastWeight]
    cases hl : lastWeight es (x, y) with
    | some w => simp
    | none =>
      simp only [mem_addEdge_edges, key]
      by_cases hk : x = e.1 ∧ y = e.2.1
      · rw [if_pos hk]
        obtain ⟨h1, h2⟩ := hk
        simp [h1, h2]
      · rw [if_neg hk]
        have : ¬ ((e.1, e.2.1) = (x, y)) := by
          intro h; exact hk ⟨(Prod.mk.inj h).1.symm, (Prod.mk.inj h).2.symm⟩
        simp [this]

theorem addEdges_of_distinct (g : Gr S W) (es : List (S × S × W))
    (h : (g.edges.map key ++ es.map key).Nodup) : (addEdges g es).edges = g.edges ++ es := by
  induction es generalizing g with
  | nil => simp [addEdges]
  | cons e es ih =>
    have hno : ¬ g.hasEdge e.1 e.2.1 = true := fun hh =>
      (List.nodup_append.1 h).2.2 _ ((hasEdge_iff ..).1 hh) _ List.mem_cons_self rfl
    have hed : (g.addEdge e.1 e.2.1 e.2.2).edges = g.edges ++ [e] := addEdge_edges_of_not_hasEdge hno e.2.2
    rw [addEdges_cons, ih, hed, List.append_assoc]
    · rfl
    · rw [hed, List.map_append, List.append_assoc]; exact h

theorem buildGraph_WF (es : List (S × S × W)) : (buildGraph es).WF := addEdges_WF Gr.WF.empty es

theorem mem_buildGraph_edges (es : List (S × S × W)) (x y : S) (z : W) :
    (x, y, z) ∈ (buildGraph es).edges ↔ lastWeight es (x, y) = some z := by
  rw [buildGraph_eq, mem_addEdges_edges]
  cases lastWeight es (x, y) with
  | none => simp
  | some w => simp [eq_comm]

theorem mem_buildGraph_nodes (es : List (S × S × W)) (x : S) :
    x ∈ (buildGraph es).nodes ↔ ∃ e ∈ es, x = e.1 ∨ x = e.2.1 := by
  rw [(buildGraph_WF es).nodesEq]
  have hkeys (u v : S) : (u, v) ∈ (buildGraph es).edges.map key ↔ (u, v) ∈ es.map key := by
    rw [← hasEdge_iff, buildGraph_hasEdge]
  exact ⟨endpoint_of_keys (fun u v => (hkeys u v).1) x, endpoint_of_keys (fun u v => (hkeys u v).2) x⟩

end FP.Parser
