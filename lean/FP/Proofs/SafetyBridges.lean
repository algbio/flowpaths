import FP.Proofs.SafetyAdj
import FP.Proofs.WalkEdges
/-!
Every walk from `s` to `t` meets the edges reported by `find_all_bridges`, in the order reported.

The cut argument: at the moment a bridge `(y, z)` is reported the set `C` of labelled nodes contains `s`,
does not contain `t`, is closed under the residual adjacency `R` (the BFS queue is empty), the path prefix
up to `y` lies in `C` and `z` does not. An edge of the original graph that leaves `C` cannot be an edge of
`R` (closure), so it is a path edge; it is not before `(y, z)` (those end in `C`) and not after it (the
reversed path edges are in `R`, so its tail in `C` would pull `z` into `C`). Any walk from `s` to `t`
leaves `C`, hence traverses `(y, z)`.
-/
namespace FP.Safety
open FP.Spec
variable {V : Type} [DecidableEq V]

def Closed (R : Adj V) (C : List V) : Prop := ∀ u ∈ C, ∀ v ∈ out R u, v ∈ C
/-- invariant of `bfs`: a labelled node is still queued, or all its successors are labelled -/
def QInv (R : Adj V) (q C : List V) : Prop := ∀ u ∈ C, u ∈ q ∨ ∀ v ∈ out R u, v ∈ C

/-- walks of an adjacency dict, for the statements of `FP/Props/C06.lean` only: the lemmas below speak of
`Thru (fun e => e.2 ∈ out G e.1)`, which `FP/Props/C06.lean` applies to `hw.walk hw.first hw.last` -/
structure IsWalkAdj (G : Adj V) (s t : V) (w : List V) : Prop where
  walk : ∀ e ∈ walkEdges w, e.2 ∈ out G e.1
  first : w.head? = some s
  last : w.getLast? = some t

theorem visitSuccs_cons (v : V) (succs q C : List V) :
    visitSuccs (v :: succs) q C =
      if v ∈ C then visitSuccs succs q C else visitSuccs succs (q ++ [v]) (C ++ [v]) := by
  unfold visitSuccs
  rw [List.foldl_cons]
  by_cases hv : v ∈ C
  · rw [if_pos hv, if_pos hv]
  · rw [if_neg hv, if_neg hv]

theorem visitSuccs_eq (succs q C : List V) :
    ∃ new, visitSuccs succs q C = (q ++ new, C ++ new) ∧ ∀ x ∈ succs, x ∈ C ++ new := by
  induction succs generalizing q C with
  | nil => exact ⟨[], by simp [visitSuccs], fun _ h => nomatch h⟩
  | cons v succs ih =>
    rw [visitSuccs_cons]
    by_cases hv : v ∈ C
    · rw [if_pos hv]
      obtain ⟨new, heq, hm⟩ := ih q C
      exact ⟨new, heq, List.forall_mem_cons.2 ⟨List.mem_append_left _ hv, hm⟩⟩
    · rw [if_neg hv]
      obtain ⟨new, heq, hm⟩ := ih (q ++ [v]) (C ++ [v])
      simp only [List.append_assoc, List.singleton_append] at heq hm
      exact ⟨v :: new, heq, List.forall_mem_cons.2 ⟨by simp, hm⟩⟩

theorem bfs_closed (R : Adj V) (n : Nat) (q C C' : List V) : bfs R n q C = some C' → QInv R q C →
    Closed R C' ∧ ∀ x ∈ C, x ∈ C' := by
  fun_induction bfs R n q C with
  | case1 n C =>
    intro h hq
    cases h
    exact ⟨fun u hu => (hq u hu).resolve_left (by simp), fun x hx => hx⟩
  | case2 => exact fun h => nomatch h
  | case3 n u q C r ih =>
    intro h hq
    obtain ⟨new, (heq : r = _), hsucc⟩ := visitSuccs_eq (out R u) q C
    clear_value r
    subst heq
    have hq' : QInv R (q ++ new) (C ++ new) := by
      intro x hx
      rcases List.mem_append.1 hx with hxC | hxn
      · rcases hq x hxC with hm | hcl
        · rcases List.mem_cons.1 hm with rfl | hm
          · exact Or.inr hsucc
          · exact Or.inl (List.mem_append_left _ hm)
        · exact Or.inr fun v hv => List.mem_append_left _ (hcl v hv)
      · exact Or.inl (List.mem_append_right _ hxn)
    obtain ⟨hc, hs⟩ := ih h hq'
    exact ⟨hc, fun x hx => hs x (List.mem_append_left _ hx)⟩

/-- `advance` stops at the first unlabelled `z`; `y` is the node before it, `prev` when `z` comes first -/
theorem advance_spec (C : List V) (rest : List V) (prev y z : V) (rest' : List V) :
    advance C prev rest = some (y, z, rest') →
    ∃ sk, prev :: rest = sk ++ y :: z :: rest' ∧ (∀ x ∈ (sk ++ [y]).tail, x ∈ C) ∧ z ∉ C := by
  fun_induction advance C prev rest with
  | case1 => exact fun h => nomatch h
  | case2 prev x rest hx ih =>
    intro h
    obtain ⟨sk, h1, h2, h3⟩ := ih h
    refine ⟨prev :: sk, by rw [h1]; rfl, fun a ha => ?_, h3⟩
    -- `sk ++ [y]` begins with `x`
    cases sk with
    | nil => cases h1; rcases List.mem_singleton.1 ha with rfl; exact hx
    | cons b sk =>
      cases h1
      rcases List.mem_cons.1 ha with rfl | ha
      · exact hx
      · exact h2 a ha
  | case3 prev x rest hx =>
    intro h
    cases h
    exact ⟨[], rfl, fun _ ha => (nomatch ha), hx⟩

section cut
-- `R` is a residual dict of `G` along the path `p`: an edge of `G` is still in `R` unless it is a path edge (`h1`),
-- and every path edge is in `R` reversed (`h2`)
variable (G R : Adj V) (p : List V)
variable (h1 : ∀ a b, b ∈ out G a → b ∈ out R a ∨ (a, b) ∈ walkEdges p)
variable (h2 : ∀ e ∈ walkEdges p, e.1 ∈ out R e.2)
include h1 h2

omit h1 in
theorem rest_unlabelled (C : List V) (hc : Closed R C) (pre post : List V) (y z : V)
    (hp : p = pre ++ y :: z :: post) (hz : z ∉ C) : ∀ x ∈ z :: post, x ∉ C := by
  intro x hx hxC
  obtain ⟨l1, l2, hl⟩ := List.append_of_mem hx
  have hhd : (l1 ++ [x]).head? = some z := by
    cases l1 with
    | nil => cases hl; rfl
    | cons a l1 => cases hl; rfl
  -- the path from `z` to `x` enters `C` along some edge; `R` has it reversed, so closure would label its tail as well
  obtain ⟨e, he, he1, he2⟩ := cut_edge (· ∉ C) (l1 ++ [x]) z x hhd List.getLast?_concat hz fun h => h hxC
  refine he1 (hc e.2 (Decidable.not_not.1 he2) e.1 (h2 e ?_))
  have : p = pre ++ [y] ++ (l1 ++ [x]) ++ l2 := by rw [hp, hl]; simp
  rw [this]
  exact (we_infix _ _ _).subset he

theorem bridge_of_cut (C : List V) (hc : Closed R C) (pre post : List V) (y z : V)
    (hp : p = pre ++ y :: z :: post) (hpre : ∀ x ∈ pre ++ [y], x ∈ C) (hz : z ∉ C)
    (s t : V) (hs : s ∈ C) (ht : t ∉ C) : Thru (fun e => e.2 ∈ out G e.1) s t [(y, z)] := by
  intro w hw hf hl
  obtain ⟨⟨a, b⟩, he, ha, hb⟩ := cut_edge (· ∈ C) w s t hf hl hs ht
  simp only at ha hb
  suffices h : (a, b) = (y, z) by rw [← h]; exact List.singleton_sublist.2 he
  rcases h1 a b (hw _ he) with h | h
  · exact absurd (hc a ha b h) hb
  · rw [hp, we_mid] at h
    rcases List.mem_append.1 h with h | h
    · exact absurd (hpre _ (we_snd_mem h)) hb
    · rcases List.mem_cons.1 h with h | h
      · exact h
      · exact absurd ha (rest_unlabelled R p h2 C hc pre post y z hp hz a (we_fst_mem h))

/-- invariant of `bridgesLoop`: the path `p` is `pre ++ rest` with `pre` and the head of `rest` labelled; the
labelled set `C` contains `s` and is closed under `R` (no BFS is pending) -/
structure LoopInv (s : V) (rest C : List V) : Prop where
  split : ∃ pre, p = pre ++ rest ∧ ∀ x ∈ pre, x ∈ C
  headC : ∀ h, rest.head? = some h → h ∈ C
  sC : s ∈ C
  closed : Closed R C

omit h1 h2 in
theorem advance_split (s prev : V) (rest C : List V) (hinv : LoopInv R p s rest C)
    (y z : V) (rest' : List V) (h : advance C prev rest = some (y, z, rest')) :
    ∃ pre, p = pre ++ y :: z :: rest' ∧ (∀ x ∈ pre ++ [y], x ∈ C) ∧ z ∉ C ∧ y ∈ rest := by
  obtain ⟨sk, hr, hsk, hz⟩ := advance_spec C rest prev y z rest' h
  obtain ⟨pre, hp, hpre⟩ := hinv.split
  cases sk with
  | nil =>
    -- `z` is not the head of `rest`, which is labelled
    cases hr
    exact absurd (hinv.headC z rfl) hz
  | cons a sk =>
    obtain ⟨rfl, rfl⟩ := List.cons.inj (List.cons_append ▸ hr)
    refine ⟨pre ++ sk, by rw [hp, List.append_assoc], fun x hx => ?_, hz, by simp⟩
    rw [List.append_assoc] at hx
    exact (List.mem_append.1 hx).elim (hpre x) (hsk x)

/-- `Cp` is the labelled set before the last BFS: a walk from `s` that ends outside it has already met `acc`
in order. The step takes `C` for it: a walk ending outside `C` crosses `(y, z)` (`bridge_of_cut`), and its
prefix up to `y` ends outside the previous `Cp`, since `y` is on `rest`. -/
theorem bridgesLoop_ordered (s t : V) (bf : Nat) (n : Nat) (prev : V) (rest C : List V) (acc bs : List (V × V)) :
    bridgesLoop R t bf n prev rest C acc = .ok bs →
      LoopInv R p s rest C →
      (∃ Cp : List V, (∀ x ∈ rest, x ∉ Cp) ∧ t ∉ Cp ∧
        ∀ x, x ∉ Cp → Thru (fun e => e.2 ∈ out G e.1) s x acc) →
      Thru (fun e => e.2 ∈ out G e.1) s t bs := by
  fun_induction bridgesLoop R t bf n prev rest C acc with
  | case1 => exact fun h => nomatch h
  | case2 n prev rest C acc ht =>
    intro h _ ⟨Cp, _, htp, hJ⟩
    cases h
    exact hJ t htp
  | case3 => exact fun h => nomatch h
  | case4 => exact fun h => nomatch h
  | case5 n prev rest C acc ht y z rest' hadv C' hbfs ih =>
    intro h hinv hacc
    obtain ⟨pre, hp, hpre, hz, hyr⟩ := advance_split R p s prev rest C hinv y z rest' hadv
    have hq : QInv R [z] (C ++ [z]) := by
      intro u hu
      rcases List.mem_append.1 hu with hu | hu
      · right; intro v hv; exact List.mem_append_left _ (hinv.closed u hu v hv)
      · left; simpa using hu
    obtain ⟨hcl, hsub⟩ := bfs_closed R _ _ _ _ hbfs hq
    apply ih h
    · refine ⟨⟨pre ++ [y], by rw [hp]; simp, ?_⟩, ?_, hsub s (by simp [hinv.sC]), hcl⟩
      · intro x hx; exact hsub x (List.mem_append_left _ (hpre x hx))
      · intro h hh; simp at hh; subst hh; exact hsub _ (by simp)
    · obtain ⟨Cp, hrest, _, hJ⟩ := hacc
      refine ⟨C, rest_unlabelled R p h2 C hinv.closed pre rest' y z hp hz, ht, fun x hx => ?_⟩
      exact (bridge_of_cut G R p h1 h2 C hinv.closed pre rest' y z hp hpre hz s x hinv.sC hx).mid
        (hJ y (hrest y hyr)) .nil

end cut

theorem loopInv_start (R : Adj V) (p : List V) {s : V} {n : Nat} {C : List V} (hhd : p.head? = some s)
    (hbfs : bfs R n [s] [s] = some C) : LoopInv R p s p C := by
  obtain ⟨hcl, hsub⟩ := bfs_closed R _ _ _ _ hbfs (fun u hu => Or.inl hu : QInv R [s] [s])
  have hsC : s ∈ C := hsub s List.mem_cons_self
  exact ⟨⟨[], rfl, fun _ hx => nomatch hx⟩, fun h hh => by rw [hhd] at hh; cases hh; exact hsC, hsC, hcl⟩

theorem greedyPath_spec (t : V) (n : Nat) (g : Adj V) (cur : V) (p0 : List V) (g1 : Adj V) (p : List V) :
    greedyPath t n g cur p0 = .ok (g1, p) → p0.getLast? = some cur →
    (∃ ext, p = p0 ++ ext) ∧ (∀ a b, b ∈ out g a → b ∈ out g1 a ∨ (a, b) ∈ walkEdges p) ∧
    (∀ e ∈ walkEdges p, e ∈ walkEdges p0 ∨ e.2 ∈ out g e.1) ∧ keys g1 = keys g := by
  fun_induction greedyPath t n g cur p0 with
  | case1 => exact fun h => nomatch h
  | case2 =>
    intro h _
    injection h with h; injection h with ha hb; subst ha; subst hb
    exact ⟨⟨[], by simp⟩, fun a b hb => Or.inl hb, fun e he => Or.inl he, rfl⟩
  | case3 => exact fun h => nomatch h
  | case4 n g cur p0 hc x hx ih =>
    intro h hl
    obtain ⟨⟨ext, hext⟩, hA, hB, hK⟩ := ih h (by simp)
    have hxm : x ∈ out g cur := List.mem_of_getLast? hx
    have hwe : walkEdges (p0 ++ [x]) = walkEdges p0 ++ [(cur, x)] := we_concat p0 cur x hl
    refine ⟨⟨[x] ++ ext, by rw [hext]; simp⟩, ?_, ?_, by rw [hK, keys_popOut]⟩
    · intro a b hb
      rcases out_popOut_sub g cur a b hb with h' | ⟨rfl, h'⟩
      · exact hA a b h'
      · right
        rw [hx] at h'; injection h' with h'; subst h'
        rw [hext]; apply we_sub_append_right; rw [hwe]; simp
    · intro e he
      rcases hB e he with h' | h'
      · rw [hwe] at h'
        rcases List.mem_append.1 h' with h' | h'
        · left; exact h'
        · right; simp at h'; subst h'; exact hxm
      · right; exact out_popOut_mem g cur _ _ h'

theorem addReversed_fold (es : List (V × V)) : ∀ g : Adj V, (∀ e ∈ es, e.2 ∈ keys g) →
    (∀ a b, b ∈ out g a → b ∈ out (es.foldl (fun g e => appendOut g e.2 e.1) g) a) ∧
    (∀ e ∈ es, e.1 ∈ out (es.foldl (fun g e => appendOut g e.2 e.1) g) e.2) := by
  induction es with
  | nil => intro g _; exact ⟨fun _ _ h => h, by simp⟩
  | cons e es ih =>
    intro g hk
    rw [List.foldl_cons]
    obtain ⟨hA, hB⟩ := ih (appendOut g e.2 e.1) (fun e' he' => by
      rw [keys_appendOut]; exact hk e' (List.mem_cons_of_mem _ he'))
    refine ⟨fun a b hb => hA a b (out_appendOut_sub g _ _ a b hb), ?_⟩
    intro e' he'
    rcases List.mem_cons.1 he' with rfl | he'
    · apply hA
      rw [out_appendOut_self g _ _ (hk _ (by simp))]
      exact List.mem_append_right _ (List.mem_singleton_self _)
    · exact hB e' he'

theorem bridgesCore_ordered (g : Adj V) (s t : V) (hwf : wfAdj g s t = true)
    (bs : List (V × V)) (R : Adj V) (p : List V) (h : bridgesCore g s t = .ok (bs, R, p)) :
    Thru (fun e => e.2 ∈ out g e.1) s t bs := by
  obtain ⟨_, _, hkeys⟩ := wfAdj_out g s t hwf
  unfold bridgesCore at h
  split at h
  · cases h
  · cases h
  · rename_i g1 p' hgp
    obtain ⟨⟨ext, hext⟩, hA, hB, hK⟩ := greedyPath_spec t _ g s [s] g1 p' hgp (by simp)
    have hpk : ∀ e ∈ walkEdges p', e.2 ∈ keys g1 := by
      intro e he
      rcases hB e he with h' | h'
      · simp [we_single] at h'
      · rw [hK]; exact hkeys _ _ h'
    obtain ⟨hC, hD⟩ := addReversed_fold (walkEdges p') g1 hpk
    simp only at h
    split at h
    · cases h
    · rename_i C0 hbfs
      split at h
      · rename_i bs' hloop
        injection h with h; injection h with h1 h2; injection h2 with h2 h3; subst h1; subst h2; subst h3
        refine bridgesLoop_ordered g (addReversed g1 p') p' ?_ hD s t _ _ _ _ _ _ bs' hloop
          (loopInv_start _ p' (by rw [hext]; rfl) hbfs) ?_
        · intro a b hb
          rcases hA a b hb with h' | h'
          · left; exact hC a b h'
          · right; exact h'
        · exact ⟨[], by simp, by simp, fun _ _ => .nil⟩
      · cases h
      · cases h

theorem findAllBridges_ordered (g : Adj V) (s : V) {t : V} {bs : List (V × V)} {g' : Adj V}
    (h : findAllBridges g s t = .ok (bs, g')) : Thru (fun e => e.2 ∈ out g e.1) s t bs := by
  unfold findAllBridges at h
  split at h
  · cases h
  · rename_i hwf
    split at h
    · rename_i bs' R p hc
      cases h
      exact bridgesCore_ordered g s t (by simpa using hwf) bs R p hc
    · cases h
    · cases h

end FP.Safety
