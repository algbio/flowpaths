import FP.Proofs.C05Opt
import FP.Proofs.SafetyIncompat
import FP.Proofs.SafetyMaxSeq
/-!
# FP.Proofs.C05KCoverC — `kPathCoverCycles` as a `WalkRest`; what `safetyPipeline` computes satisfies `SafetyData`

The class-specific part (cover rows and objective, the total number of edge traversals) sums over all layers and reads
edge columns only, so it is a `WalkRest` with nothing to simplify, and `c05w_generic_preserves` applies. For what
`safetyPipeline` computes (for any class), `SafetyData` follows from `maxSafeSeqs_safe`, `zeroFix_sound` and whatever
shows the selected sequences pairwise incompatible (`safetyData_of_pipeline_of`; C05 `pipeline_data_sound`,
`pipeline_data_sound_full` put in the two theorems of C06).
-/
namespace FP
open FP.Spec FP.Safety

theorem kcovercLPS_eq (inp : WalkInput) (fr : SafetyFrag) :
    kcovercLPS inp fr = (walkCoreS inp.st inp.cfg (kcovercCap inp) fr).append (kcovercCover inp) := rfl

theorem kcoverc_walkRest (inp : WalkInput) (fr : SafetyFrag) :
    WalkRest inp.st inp.cfg (kcovercCap inp) (kcovercTrusted inp) fr (kcovercCover inp) (kcovercCover inp) where
  cover := kcoverc_cover inp
  sym a π h := ⟨_, permLayers_isLayerRenaming π.fwd, kcovercCover_perm inp a π _ (permLayers_isLayerRenaming π.fwd) h⟩
  frame a cons cov h := kcovercCover_congr inp a _ (fun e => by simp only [subsetAsg_edge]) h
  fwd _ h _ := h
  bwd a hc _ h := ⟨a, hc, h, rfl⟩

theorem longestIncompatible_sub (c : Cond) (seqs : List (List Edge)) (anti : List (String × String))
    (chosen : List (List Edge)) (h : longestIncompatible c seqs anti = .ok chosen) :
    (∀ q ∈ seqs, ∀ e ∈ q, e ∈ c.g.edges) ∧ ∀ q ∈ chosen, q ∈ seqs := by
  obtain ⟨hedges, -, rfl⟩ := longestIncompatible_ok h
  refine ⟨hedges, fun q hq => ?_⟩
  obtain ⟨i, hi, rfl⟩ := List.mem_map.1 hq
  obtain ⟨a, _, hia⟩ := List.mem_flatMap.1 hi
  obtain ⟨e, he, _⟩ := seqFn_mem c seqs a i hia
  exact getD_mem [] (lt_of_mem_getD he)

theorem safetyExtra_inactive (s : STGraph) (k : Nat) (safe seqs : List (List Edge)) (zs : List (Edge × Nat))
    (o : SafetyOpts) (h : o.active = false) : safetyExtra s k safe seqs zs o = {} := by
  unfold safetyExtra
  unfold SafetyOpts.active at h
  simp [h]

/-- with `fix_zero_edges` off the keys handed over do not matter -/
theorem safetyExtra_nofix (s : STGraph) (k : Nat) (safe seqs : List (List Edge)) (zs zs' : List (Edge × Nat))
    (o : SafetyOpts) (h : o.fixZero = false) :
    safetyExtra s k safe seqs zs o = safetyExtra s k safe seqs zs' o := by
  unfold safetyExtra
  simp [h]

/-- the computed data satisfies `SafetyData`, given any proof `hinc` that the selection of
`get_longest_incompatible_sequences` among the maximal safe sequences is pairwise incompatible. The pipeline runs on
`X`; the data is stated for the trusted set `T ⊇ X` of the class, since a sequence safe for `X` is safe for `T`. -/
theorem safetyData_of_pipeline_of (s : STGraph) (hg : GraphWF s.g) (k : Nat) (X T : List Edge)
    (hXT : ∀ x ∈ X, x ∈ T) (mapping : List (Node × Nat)) (anti : List (String × String)) (o : SafetyOpts)
    (fr : SafetyFrag) (h : safetyPipeline s k X mapping anti o = .ok fr)
    (hinc : ∀ safe walks, maxSafeSeqs s.g s.source s.sink X = .ok safe →
      longestIncompatible ⟨s.g, mapping⟩ safe anti = .ok walks →
      walks.Pairwise fun p q => ¬ CoOccur s.g s.source s.sink p q) :
    ∃ safe seqs zs, fr = safetyExtra s k safe seqs zs o ∧ SafetyData s k T safe seqs zs := by
  have hsafeOK : ∀ safe, maxSafeSeqs s.g s.source s.sink X = .ok safe →
      ∀ q ∈ safe, SafeFor s.g s.source s.sink T q := by
    intro safe hsafe q hq
    obtain ⟨c, hc, hf⟩ := maxSafeSeqs_safe s.g hg s.source s.sink X safe hsafe q hq
    exact fun ws hws hcov => safeFor_of_forcedBy hc hf ws hws fun x hx => hcov x (hXT x hx)
  revert h
  fun_cases safetyPipeline s k X mapping anti o with
  | case1 hact =>
    intro h
    refine ⟨[], [], [], ?_, (fun _ h => nomatch h), (fun _ h => nomatch h), (fun _ h => nomatch h),
      List.Pairwise.nil, zeroSound_nil _ _ _⟩
    rw [safetyExtra_inactive s k [] [] [] o (by simpa using hact)]
    exact (Res.ok.inj h).symm
  | case4 _ safe hsafe _ =>
    exact fun h => ⟨safe, [], [], (Res.ok.inj h).symm, hsafeOK safe hsafe, (fun _ h => nomatch h),
      (fun _ h => nomatch h), List.Pairwise.nil, zeroSound_nil _ _ _⟩
  | case10 _ safe hsafe _ walks hwalks zs hzs _ =>
    intro h
    have hW : (∀ q ∈ walks, q ∈ safe) ∧ (∀ q ∈ walks, ∀ e ∈ q, e ∈ s.g.edges) ∧
        walks.Pairwise fun p q => ¬ CoOccur s.g s.source s.sink p q := by
      split at hwalks
      · obtain rfl := Res.ok.inj hwalks
        exact ⟨(fun _ h => nomatch h), (fun _ h => nomatch h), List.Pairwise.nil⟩
      · obtain ⟨h1, h2⟩ := longestIncompatible_sub ⟨s.g, mapping⟩ safe anti walks hwalks
        exact ⟨h2, fun q hq e he => h1 q (h2 q hq) e he, hinc safe walks hsafe hwalks⟩
    have hzero : ZeroSound s.g walks k zs := by
      split at hzs
      · exact zeroSound_of_zeroFix hg walks hzs
      · obtain rfl := Res.ok.inj hzs
        exact zeroSound_nil _ _ _
    exact ⟨safe, walks, zs, (Res.ok.inj h).symm, hsafeOK safe hsafe, fun q hq => hsafeOK safe hsafe q (hW.1 q hq),
      hW.2.1, hW.2.2, hzero⟩
  | _ => exact fun h => nomatch h

end FP
