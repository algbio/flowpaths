import FP.Model.SafetyDag
import FP.Proofs.WalkEdges
import FP.Proofs.Lib
/-!
Every path that the two-pointer scan of `compute_inexact_flow_decomp_safe_paths` reports is a window of
positive excess flow.

For a window `W = v₁ v₂ … v_k` of a decomposition path the *excess flow* is
`f(v₁,v₂) − Σ_{1<i<k} (outflow(v_i) − f(v_i,v_{i+1}))` (`excessOf`; the sum is `leakSum`). The loop invariant
`ScanInv` of `scanLoop` / `extendScan`: while `L < R` the variable `inexact_excess` equals the excess flow of
`path[L..R]` (`slice path L R`), and it is positive whenever `path_not_suffix_of_previous` (`fresh`) is set.
Hence every reported path is a contiguous piece of a decomposition path with at least two nodes and positive
excess flow.
-/
namespace FP.Safety
open FP.Spec

section
variable (f : Edge → Rat) (outflow : Node → Rat)

def leakSum : List Node → Rat
  | b :: c :: rest => (outflow b - f (b, c)) + leakSum (c :: rest)
  | _ => 0

def excessOf : List Node → Rat
  | a :: b :: rest => f (a, b) - leakSum f outflow (b :: rest)
  | _ => 0

theorem leakSum_snoc : ∀ (m : List Node) (x y : Node),
    leakSum f outflow (m ++ [x, y]) = leakSum f outflow (m ++ [x]) + (outflow x - f (x, y)) := by
  intro m
  induction m with
  | nil => intro x y; simp only [List.nil_append, leakSum, Rat.add_zero, Rat.zero_add]
  | cons b m ih =>
    intro x y
    cases m with
    | nil => simp only [List.cons_append, List.nil_append, leakSum, Rat.add_zero]
    | cons c m =>
      have := ih x y
      simp only [List.cons_append, leakSum] at this ⊢
      rw [this, Rat.add_assoc]

theorem excessOf_pair (a x : Node) : excessOf f outflow [a, x] = f (a, x) := by
  simp only [excessOf, leakSum, Rat.sub_eq_add_neg, Rat.neg_zero, Rat.add_zero]

theorem excessOf_snoc (a : Node) (m : List Node) (x y : Node) :
    excessOf f outflow (a :: (m ++ [x, y])) = excessOf f outflow (a :: (m ++ [x])) + (f (x, y) - outflow x) := by
  cases m with
  | nil =>
    simp only [List.nil_append, excessOf, leakSum, Rat.add_zero, Rat.sub_eq_add_neg, Rat.neg_zero, Rat.neg_add,
      Rat.neg_neg]
    rw [Rat.add_comm (-(outflow x))]
  | cons b m =>
    have := leakSum_snoc f outflow (b :: m) x y
    simp only [List.cons_append, excessOf] at this ⊢
    rw [this]; grind

theorem excessOf_tail (a b c : Node) (rest : List Node) :
    excessOf f outflow (b :: c :: rest) =
      excessOf f outflow (a :: b :: c :: rest) - f (a, b) + (outflow b - f (b, c)) + f (b, c) := by
  simp only [excessOf, leakSum]; grind

end

section slices
variable (path : List Node)

def slice (L R : Nat) : List Node := (path.drop L).take (R - L + 1)

theorem nodeAt_eq (i : Nat) (h : i < path.length) : nodeAt path i = path[i] :=
  getD_eq_getElem path "" h

theorem slice_last (L R : Nat) (hLR : L ≤ R) (hR : R < path.length) :
    slice path L R = (path.drop L).take (R - L) ++ [nodeAt path R] := by
  unfold slice
  rw [List.take_add_one, List.getElem?_drop]
  have : L + (R - L) = R := by omega
  rw [this, List.getElem?_eq_getElem hR, nodeAt_eq path R hR]; rfl

theorem slice_succ (L R : Nat) (hLR : L ≤ R) (hR : R + 1 < path.length) :
    slice path L (R + 1) = slice path L R ++ [nodeAt path (R + 1)] := by
  rw [slice_last path L (R + 1) (by omega) hR]
  unfold slice
  have : R + 1 - L = R - L + 1 := by omega
  rw [this]

theorem slice_first (L R : Nat) (hLR : L < R) (hR : R < path.length) :
    slice path L R = nodeAt path L :: slice path (L + 1) R := by
  unfold slice
  rw [List.drop_eq_getElem_cons (by omega : L < path.length), List.take_succ_cons, nodeAt_eq path L (by omega)]
  have : R - L = R - (L + 1) + 1 := by omega
  rw [this]

theorem slice_self (L : Nat) (hL : L < path.length) : slice path L L = [nodeAt path L] := by
  rw [slice_last path L L (Nat.le_refl _) hL]; simp

theorem slice_infix (L R : Nat) : slice path L R <:+: path :=
  (List.take_prefix _ _).isInfix.trans (List.drop_suffix _ _).isInfix

theorem slice_length (L R : Nat) (hLR : L ≤ R) (hR : R < path.length) : (slice path L R).length = R - L + 1 := by
  unfold slice; rw [List.length_take, List.length_drop]; omega

end slices

section scan
variable (f : Edge → Rat) (outflow : Node → Rat) (path : List Node)

def GoodWindow (W : List Node) : Prop := 2 ≤ W.length ∧ W <:+: path ∧ 0 < excessOf f outflow W

structure ScanInv (st : ScanState) : Prop where
  le : st.L ≤ st.R
  lt : st.R < path.length
  exc : st.L < st.R → st.excess = excessOf f outflow (slice path st.L st.R)
  pos : st.fresh = true → st.L < st.R → 0 < st.excess
  acc : ∀ W ∈ st.acc, GoodWindow f outflow path W

theorem excess_extend (L R : Nat) (hLR : L < R) (hR : R + 1 < path.length) :
    excessOf f outflow (slice path L (R + 1)) =
      excessOf f outflow (slice path L R) + (flowAt f path R - outflow (nodeAt path R)) := by
  rw [slice_succ path L R (by omega) hR, slice_first path L R hLR (by omega),
    slice_last path (L + 1) R (by omega) (by omega)]
  unfold flowAt
  have := excessOf_snoc f outflow (nodeAt path L) (List.take (R - (L + 1)) (List.drop (L + 1) path))
    (nodeAt path R) (nodeAt path (R + 1))
  simp only [List.cons_append, List.append_assoc] at this ⊢
  exact this

theorem extendScan_inv (n : Nat) (st st' : ScanState) : extendScan f outflow path n st = some st' →
    ScanInv f outflow path st → st.L < st.R →
    ScanInv f outflow path st' ∧ st'.L = st.L ∧ st.L < st'.R := by
  fun_induction extendScan f outflow path n st with
  | case1 => exact nofun
  | case2 n st hR rightdiff hle =>
    intro h hinv hLR
    cases h
    exact ⟨hinv, rfl, hLR⟩
  | case3 n st hR rightdiff hle ih =>
    intro h hinv hLR
    have hinv' : ScanInv f outflow path { st with excess := st.excess + rightdiff, R := st.R + 1, fresh := true } := by
      refine ⟨by simp only; omega, hR, ?_, fun _ _ => Rat.not_le.1 hle, hinv.acc⟩
      intro _
      simp only
      rw [excess_extend f outflow path st.L st.R hLR hR, hinv.exc hLR]
    obtain ⟨h1, h2, h3⟩ := ih h hinv' (by simp only; omega)
    exact ⟨h1, h2, by simp only at h3; omega⟩
  | case4 n st hR =>
    intro h hinv hLR
    cases h
    exact ⟨hinv, rfl, hLR⟩
theorem scanLoop_inv (hf : ∀ i, i + 1 < path.length → 0 < flowAt f path i) (n : Nat) (st st' : ScanState) :
    scanLoop f outflow path n st = some st' →
      ScanInv f outflow path st → ∀ W ∈ st'.acc, GoodWindow f outflow path W := by
  fun_induction scanLoop f outflow path n st with
  | case1 => exact nofun
  | case2 => exact nofun
  | case3 n st hR st1 st2 hext acc e1 e2 ih =>
    intro h hinv
    -- the `if L == R` block opens a window of one edge
    obtain ⟨hinv1, hLR1⟩ : ScanInv f outflow path st1 ∧ st1.L < st1.R := by
      by_cases hLR : st.L = st.R
      · simp only [st1, if_pos hLR]
        refine ⟨⟨by simp only; omega, hR, ?_, ?_, hinv.acc⟩, by omega⟩
        · intro _
          rw [hLR, slice_first path st.R (st.R + 1) (by omega) hR, slice_self path (st.R + 1) hR, excessOf_pair]
          rfl
        · intro _ _; exact hf st.L (by omega)
      · simp only [st1, if_neg hLR]
        exact ⟨hinv, by have := hinv.le; omega⟩
    obtain ⟨hinv2, hL2, hLR2⟩ := extendScan_inv f outflow path _ _ _ hext hinv1 hLR1
    have hLR : st2.L < st2.R := by omega
    have hR2 := hinv2.lt
    -- the window is reported and its first node dropped
    refine ih h ⟨Nat.succ_le_of_lt hLR, hR2, ?_, fun hfr => (nomatch hfr), ?_⟩
    · intro hlt
      simp only [e2, e1] at hlt ⊢
      rw [if_pos hlt, hinv2.exc hLR, slice_first path st2.L st2.R hLR hR2, slice_first path (st2.L + 1) st2.R hlt hR2]
      have hsl : slice path (st2.L + 1 + 1) st2.R =
          nodeAt path (st2.L + 1 + 1) :: (slice path (st2.L + 1 + 1) st2.R).tail := by
        by_cases h3 : st2.L + 1 + 1 < st2.R
        · rw [slice_first path _ _ h3 hR2]; rfl
        · have : st2.L + 1 + 1 = st2.R := by omega
          rw [this, slice_self path st2.R hR2]; rfl
      rw [hsl]
      unfold flowAt
      rw [excessOf_tail f outflow (nodeAt path st2.L) (nodeAt path (st2.L + 1)) (nodeAt path (st2.L + 1 + 1))
        (slice path (st2.L + 1 + 1) st2.R).tail]
    · intro W hW
      simp only [acc] at hW
      by_cases hfr : st2.fresh = true
      · rw [if_pos hfr] at hW
        rcases List.mem_append.1 hW with hW | hW
        · exact hinv2.acc W hW
        · obtain rfl := List.mem_singleton.1 hW
          refine ⟨?_, slice_infix path _ _, ?_⟩
          · show 2 ≤ (slice path st2.L st2.R).length
            rw [slice_length path st2.L st2.R hinv2.le hR2]; omega
          · show 0 < excessOf f outflow (slice path st2.L st2.R)
            rw [← hinv2.exc hLR]
            exact hinv2.pos hfr hLR
      · rw [if_neg hfr] at hW; exact hinv2.acc W hW
  | case4 n st hR =>
    intro h hinv
    cases h
    exact hinv.acc
end scan

theorem flowSafePaths_edges (g : Graph) (flow : List (Edge × Rat)) (paths : List (List Node))
    (out : List (List Edge)) (h : flowSafePaths g flow paths = .ok out) :
    ∀ path ∈ paths, ∀ e ∈ walkEdges path, ∃ q, flow.lookup e = some q ∧ 0 < q := by
  unfold flowSafePaths at h
  simp only at h
  split at h
  · cases h
  · rename_i hbad
    intro path hpath e he
    simp only [Bool.not_eq_true, List.any_eq_false] at hbad
    have := hbad path hpath e he
    cases hq : flow.lookup e with
    | none => rw [hq] at this; simp at this
    | some q =>
      rw [hq] at this
      simp only [decide_eq_false_iff_not, Rat.not_le] at this
      exact ⟨q, rfl, this⟩

/-- Every path reported by `compute_inexact_flow_decomp_safe_paths` (with `lb = ub = flow`)
is the edge sequence of a window `W` of one of the given decomposition paths with at least two nodes and
positive excess flow. -/
theorem flowSafePaths_windows (g : Graph) (flow : List (Edge × Rat)) (paths : List (List Node))
    (out : List (List Edge)) (h : flowSafePaths g flow paths = .ok out) :
    ∀ P ∈ out, ∃ path ∈ paths, ∃ W : List Node, P = walkEdges W ∧
      GoodWindow (fun e => lookupD flow e 0) (fun v => ((g.outEdges v).map fun e => lookupD flow e 0).sum) path W := by
  have h0 := h
  unfold flowSafePaths at h
  simp only at h
  split at h
  · cases h
  · split at h
    · cases h
    · rename_i ls hls
      injection h with h; subst h
      intro P hP
      obtain ⟨W, hW, rfl⟩ := List.mem_map.1 hP
      obtain ⟨l, hl, hWl⟩ := List.mem_flatten.1 hW
      obtain ⟨path, hpath, hscan⟩ := List.mem_map.1
        ((mapM_option_eq_some _ paths ls).1 hls ▸ List.mem_map_of_mem hl : some l ∈ paths.map _)
      refine ⟨path, hpath, W, rfl, ?_⟩
      unfold scanPath at hscan
      by_cases hlen : path.length ≤ 1
      · rw [if_pos hlen] at hscan; injection hscan with hscan; subst hscan; simp at hWl
      · rw [if_neg hlen] at hscan
        obtain ⟨st', hsl, rfl⟩ := Option.map_eq_some_iff.1 hscan
        apply scanLoop_inv _ _ path ?_ _ _ _ hsl ?_ W hWl
        · intro i hi
          have hmem : (nodeAt path i, nodeAt path (i + 1)) ∈ walkEdges path := by
            rw [nodeAt_eq path i (by omega), nodeAt_eq path (i + 1) hi]
            exact mem_we_index path i hi
          obtain ⟨q, hq, hpos⟩ := flowSafePaths_edges g flow paths _ h0 path hpath _ hmem
          show 0 < (flow.lookup (nodeAt path i, nodeAt path (i + 1))).getD 0
          rw [hq]; exact hpos
        · exact ⟨Nat.le_refl _, by simp only; omega, fun h => by simp at h, fun _ h => by simp at h,
            fun W hW => by simp at hW⟩

end FP.Safety
