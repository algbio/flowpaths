import FP.Proofs.Augment
/-!
Additional starts / ends enlarge the route set (`augment_starts_ends`, Augment) by exactly the routes that start / end
there; `augment` reads them only through the predicates "start node" / "end node" (`augment_congr`), which declaring a
source resp. a sink does not change (`c10_declared_noop`).
-/
namespace FP
open FP.Spec

theorem new_route_starts_there (base : Graph) (starts ends : List Node) (v : Node) (p : List Node)
    (h : ValidRoute base (v :: starts) ends p) (hn : ¬ ValidRoute base starts ends p) :
    p.head? = some v :=
  Classical.byContradiction fun hne => hn ⟨h.nonempty, h.nodes, h.adjacent,
    fun u hu => (h.first u hu).imp_right (List.mem_of_ne_of_mem fun (huv : u = v) => hne (huv ▸ hu)), h.last⟩

theorem new_route_ends_there (base : Graph) (starts ends : List Node) (v : Node) (p : List Node)
    (h : ValidRoute base starts (v :: ends) p) (hn : ¬ ValidRoute base starts ends p) :
    p.getLast? = some v :=
  Classical.byContradiction fun hne => hn ⟨h.nonempty, h.nodes, h.adjacent, h.first,
    fun u hu => (h.last u hu).imp_right (List.mem_of_ne_of_mem fun (huv : u = v) => hne (huv ▸ hu))⟩

/-- `augment` reads `starts` and `ends` only through the predicates "start node", "end node" -/
theorem augment_congr (base : Graph) {starts starts' ends ends' : List Node}
    (hs : isStart base starts = isStart base starts') (he : isEnd base ends = isEnd base ends') :
    augment base starts ends = augment base starts' ends' := by
  rw [augment_eq, augment_eq]
  unfold extra firstKind srcEdges snkEdges
  rw [hs, he]

/-- declaring `v`, which has no neighbour on that side anyway, changes neither predicate: with `nb` the predecessors
this is `isStart`, with the successors `isEnd` -/
theorem c10_declared_noop (nb : Node → List Node) (v : Node) (l : List Node) (hv : nb v = []) (u : Node) :
    ((nb u).isEmpty || (v :: l).contains u) = ((nb u).isEmpty || l.contains u) := by
  rw [List.contains_cons]
  by_cases huv : u = v
  · rw [huv, hv]; rfl
  · rw [beq_false_of_ne huv, Bool.false_or]

end FP
