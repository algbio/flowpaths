import FP.Model.Store
import FP.Model.GuardEval
/-!
What the store semantics (C18) and the guard evaluation (C19) give for any table, and the set of flags a row
guards (`flagSet`, `covers`) through which `FP/Props/C19.lean` evaluates the generated table.
-/
namespace FP.Store
open FP.Tables

theorem mayWrite_clean (tbl : List ClassAlias) (c : Construction) (r : Ref)
    (h : isClean tbl c.cls = true) : mayWrite tbl c r = false := by
  unfold isClean at h
  unfold mayWrite
  cases hl : lookup tbl c.cls with
  | none => simp [hl] at h
  | some ca =>
    simp only [hl] at h
    have : ca.writes.filter (·.viaCaller) = [] :=
      List.filter_eq_nil_iff.2 fun w hw => by simpa using (List.all_eq_true.1 h) w hw
    simp [writtenParams, this]

/-- `lookup` finds some row of that name, and it is not a dirty one -/
theorem isClean_of_not_dirty (tbl : List ClassAlias) (c : String)
    (h1 : c ∈ (tbl.filter cleanRow).map (·.cls)) (h2 : c ∉ (tbl.filter (fun r => !cleanRow r)).map (·.cls)) :
    isClean tbl c = true := by
  obtain ⟨r, hr, rfl⟩ := List.mem_map.1 h1
  unfold isClean lookup
  cases hf : tbl.find? (fun ca => ca.cls = r.cls) with
  | none => exact absurd (List.find?_eq_none.1 hf r (List.mem_filter.1 hr).1) (by simp)
  | some ca =>
    cases hc : cleanRow ca with
    | true => exact hc
    | false =>
      exact absurd (List.mem_map.2 ⟨ca, List.mem_filter.2 ⟨List.mem_of_find?_eq_some hf, by simp [hc]⟩,
        by simpa using List.find?_some hf⟩) h2

theorem run_frame {V} (tbl : List ClassAlias) (eff : Construction → Ref → V → V) (r : Ref) :
    ∀ (h : List Construction) (s : Store V), (∀ c ∈ h, mayWrite tbl c r = false) → run tbl eff s h r = s r := by
  intro h s hc
  fun_induction run tbl eff s h with
  | case1 => rfl
  | case2 s c h ih =>
    rw [ih fun c' hc' => hc c' (List.mem_cons_of_mem _ hc')]
    exact if_neg (Bool.eq_false_iff.1 (hc c List.mem_cons_self))

theorem store_unchanged {V} (tbl : List ClassAlias) (eff : Construction → Ref → V → V)
    (h : List Construction) (s : Store V) (hclean : ∀ c ∈ h, isClean tbl c.cls = true) :
    ∀ r, run tbl eff s h r = s r :=
  fun r => run_frame tbl eff r h s (fun c hc => mayWrite_clean tbl c r (hclean c hc))

theorem result_history_independent {V R} (tbl : List ClassAlias) (eff : Construction → Ref → V → V)
    (f : String → List (String × V) → R) (h : List Construction) (s : Store V) (c : Construction)
    (hsep : ∀ a ∈ c.args, ∀ c' ∈ h, mayWrite tbl c' a.2 = false) :
    resultOf f (run tbl eff s h) c = resultOf f s c := by
  unfold resultOf
  congr 1
  apply List.map_congr_left
  intro a ha
  rw [run_frame tbl eff a.2 h s (hsep a ha)]

theorem result_history_independent_clean {V R} (tbl : List ClassAlias) (eff : Construction → Ref → V → V)
    (f : String → List (String × V) → R) (h : List Construction) (s : Store V) (c : Construction)
    (hclean : ∀ c' ∈ h, isClean tbl c'.cls = true) :
    resultOf f (run tbl eff s h) c = resultOf f s c :=
  result_history_independent tbl eff f h s c
    (fun a _ c' hc' => mayWrite_clean tbl c' a.2 (hclean c' hc'))

/-- a getter whose computing path ends in `return` answers the same on the second call -/
theorem getter_idempotent {α} (fact : GetterFact) (compute : α) (st : GetterState α)
    (h : fact.fallsOff = false) :
    (getSolution fact compute (getSolution fact compute st).2).1 = (getSolution fact compute st).1 := by
  unfold getSolution
  cases hc : st.cache with
  | some x => simp [hc]
  | none => cases hcache : fact.caches <;> simp [hc, h]

theorem getter_stable_after_first {α} (fact : GetterFact) (compute : α) (st : GetterState α)
    (h : fact.caches = true) :
    let s1 := (getSolution fact compute st).2
    let s2 := (getSolution fact compute s1).2
    (getSolution fact compute s2).1 = (getSolution fact compute s1).1 := by
  unfold getSolution
  cases hc : st.cache with
  | some x => simp [hc]
  | none => simp [h]

/-- a caching getter whose computing path falls off the end returns `None` first and the
data on the second call -/
theorem getter_first_call_none {α} (fact : GetterFact) (compute : α)
    (h1 : fact.fallsOff = true) (h2 : fact.caches = true) :
    (getSolution fact compute ⟨none⟩).1 = none ∧
    (getSolution fact compute (getSolution fact compute ⟨none⟩).2).1 = some compute := by
  simp [getSolution, h1, h2]

end FP.Store

namespace FP.GuardEval
open FP.Tables

/-- `anyViolation` is the disjunction of the fields that `has` reads -/
theorem has_false_of_no_violation (d : D) (h : d.anyViolation = false) (f : Flag) : d.has f = false := by
  simp only [D.anyViolation, Bool.or_eq_false_iff] at h
  cases f <;> simp only [D.has, h]

theorem has_true_anyViolation (d : D) (f : Flag) (h : d.has f = true) : d.anyViolation = true := by
  cases hv : d.anyViolation with
  | true => rfl
  | false => rw [has_false_of_no_violation d hv f] at h; cases h

/-- with no violation flag set no guard fires, whatever the class and the table -/
theorem outcome_ok (cg : ClassGuards) (d : D) (h : d.anyViolation = false) (hw : d.hasWeightedElement = true) :
    outcome cg d = .ok := by
  have hf : cg.guards.find? (fires d) = none := by
    apply List.find?_eq_none.2
    intro g _
    simp [fires, has_false_of_no_violation d h]
  simp [outcome, hf, h, hw]

/-- a violation whose flag some guard of the class carries is rejected with `ValueError`, whatever
else is wrong with the input -/
theorem outcome_valueError (cg : ClassGuards) (d : D) (f : Flag)
    (hg : guarded cg f = true) (hd : d.has f = true) : outcome cg d = .valueError := by
  obtain ⟨g, hmem, hflag⟩ := List.any_eq_true.1 hg
  unfold outcome
  cases hfind : cg.guards.find? (fires d) with
  | some _ => rfl
  | none =>
    have := (List.find?_eq_none.1 hfind) g hmem
    simp [fires, of_decide_eq_true hflag, hd] at this

theorem outcome_not_ok_of_violation (cg : ClassGuards) (d : D) (h : d.anyViolation = true) :
    outcome cg d ≠ .ok := by
  unfold outcome
  cases cg.guards.find? (fires d) with
  | some _ => simp
  | none => simp [h]

/-- a flag without text (the 23 constructors before `optionConflict`) is determined by its constructor number -/
theorem flag_eq_of_ctorIdx {f g : Flag} (hf : f.ctorIdx < 23) (h : f.ctorIdx = g.ctorIdx) : g = f := by
  cases f
  case optionConflict | other | unmapped => exact absurd hf (of_decide_eq_false rfl)
  all_goals exact Flag.ctorElim (motive := (· = _)) _ g h ⟨rfl⟩

/-- The flags a row guards, as a bit set over constructor numbers. The kernel builds it in one pass over the row and
answers each membership question by arithmetic, where evaluating `guarded` walks the row once per flag. -/
def flagSet (gs : List Guard) (m : Nat := 0) : Nat := gs.foldl (fun m g => m ||| 1 <<< g.flag.ctorIdx) m

theorem testBit_flagSet (gs : List Guard) (m i : Nat) (h : (flagSet gs m).testBit i = true) :
    m.testBit i = true ∨ ∃ g ∈ gs, g.flag.ctorIdx = i := by
  induction gs generalizing m with
  | nil => exact .inl h
  | cons g gs ih =>
    rcases ih _ h with h | ⟨g', hg', hi⟩
    · rw [Nat.testBit_or, Nat.one_shiftLeft, Nat.testBit_two_pow, Bool.or_eq_true, decide_eq_true_eq] at h
      exact h.imp_right fun h => ⟨g, List.mem_cons_self, h⟩
    · exact .inr ⟨g', List.mem_cons_of_mem _ hg', hi⟩

/-- `guarded` for a flag without text, read off the bit set -/
def covers (cg : ClassGuards) (f : Flag) : Bool := f.ctorIdx < 23 && (flagSet cg.guards).testBit f.ctorIdx

theorem guarded_of_covers (cg : ClassGuards) (f : Flag) (h : covers cg f = true) : guarded cg f = true := by
  simp only [covers, Bool.and_eq_true, decide_eq_true_eq] at h
  rcases testBit_flagSet _ _ _ h.2 with h0 | ⟨g, hg, hc⟩
  · simp at h0
  · exact List.any_eq_true.2 ⟨g, hg, decide_eq_true (flag_eq_of_ctorIdx h.1 hc.symm)⟩

/-- asking a table for a guard among the rows named like `cg`: the row `cg` itself is a witness, no other row
need be read -/
theorem any_guard_of_row (tbl : List ClassGuards) (cg : ClassGuards) (h : cg ∈ tbl) (f : Flag)
    (hc : covers cg f = true) :
    ((tbl.filter (fun r => r.cls = cg.cls)).flatMap (·.guards)).any (fun g => g.flag = f) = true := by
  obtain ⟨g, hg, hf⟩ := List.any_eq_true.1 (guarded_of_covers cg f hc)
  exact List.any_eq_true.2 ⟨g, List.mem_flatMap.2 ⟨cg, List.mem_filter.2 ⟨h, by simp⟩, hg⟩, hf⟩

end FP.GuardEval
