import FP.Proofs.KFDCWalks
import FP.Proofs.C10Subset
/-!
A search range `k ≤ |E|` for `MinFlowDecompCycles.solve` is too small when subset constraints are given.
Witness (`RangeWitness.inp`): two sources `s0, s1`, a hub `m`, three sinks `t0, t1, t2`; five edges
`s_a → m` (flow 3) and `m → t_b` (flow 2); the six subset constraints `{(s_a, m), (m, t_b)}`.
A source-to-sink walk is one of the six paths `s_a, m, t_b` and covers exactly one constraint, so six
walks are needed; six walks of weight 1 decompose the flow. The k-model is satisfiable for `k = 6` and
for no `k ≤ 5 = |E|`: a loop ending at `|E|` answers `False`.
-/
namespace FP
open FP.Spec

namespace RangeWitness

def inp : WalkInput :=
  { base := { nodes := ["s0", "m", "s1", "t0", "t1", "t2"],
              edges := [("s0", "m"), ("m", "t0"), ("m", "t1"), ("m", "t2"), ("s1", "m")] },
    flow := [(("s0", "m"), 3), (("m", "t0"), 2), (("m", "t1"), 2), (("m", "t2"), 2), (("s1", "m"), 3)],
    weightInt := true,
    cfg := { k := 6,
             constraints := [[("s0", "m"), ("m", "t0")], [("s0", "m"), ("m", "t1")], [("s0", "m"), ("m", "t2")],
                             [("s1", "m"), ("m", "t0")], [("s1", "m"), ("m", "t1")], [("s1", "m"), ("m", "t2")]] } }

theorem base_wf : BaseWF inp.base := by decide +kernel

def walk (i : Nat) : List Node :=
  [if i / 3 = 0 then "s0" else "s1", "m", if i % 3 = 0 then "t0" else if i % 3 = 1 then "t1" else "t2"]

theorem withK6 : inp.withK 6 = inp := rfl

theorem attr : ∀ e ∈ inp.base.edges, ∃ q, inp.fOpt e = some q :=
  attr_of_all inp (by decide +kernel)

theorem names (k : Nat) : NameInj (inp.withK k) :=
  nameInj_withK inp (by decide +kernel) k

/-- weights `1`: the caps need no check (`within_of_int`); what is left is finite and evaluated at once, so that the
augmented graph and the six walks are built once -/
theorem feasible6 : KfdcFeasible inp 6 := by
  have t : (∀ i, i < inp.k → IsWalkIn inp.st.g (inp.st.source :: walk i ++ [inp.st.sink])) ∧
      (1 : Rat) ≤ inp.wmax false ∧ (∀ e ∈ inp.activeEdges false, inp.f e ≤ inp.wmax false) ∧
      IsWalkDecomp inp.st.source inp.st.sink (inp.activeEdges false) inp.f inp.k walk (fun _ => 1) ∧
      ∀ j (hj : j < inp.cfg.constraints.length), ∃ i, i < inp.k ∧
        coversB (multsOf inp.st.source inp.st.sink walk i) inp.cfg.constraints[j] inp.cfg.coverage = true := by
    unfold IsWalkIn IsWalkDecomp
    decide +kernel
  exact feasible_of_walks inp 6 walk (fun _ => 1) base_wf (names 6) <|
    within_of_int inp walk (fun _ => 1) base_wf (caps_are_flows inp base_wf rfl attr) t.1
      (fun _ _ => ⟨Rat.le_refl, t.2.1, fun _ => ⟨1, rfl⟩⟩) t.2.2.1 t.2.2.2.1 t.2.2.2.2

theorem st_edges : inp.st.g.edges = [("s0", "m"), ("m", "t0"), ("m", "t1"), ("m", "t2"), ("s1", "m"),
    ("t0", "sink"), ("t1", "sink"), ("t2", "sink"), ("source", "s0"), ("source", "s1")] := by decide +kernel

/-- conservation at `s0`, `s1` and `m`: a layer uses one of the two entry edges and one of the three exit
edges, once -/
theorem layer_once (m : Edge → Nat) (hf : WalkFacts inp.st false m) :
    m ("s0", "m") + m ("s1", "m") = 1 ∧ m ("m", "t0") + m ("m", "t1") + m ("m", "t2") = 1 := by
  have hsrc := hf.src
  have h0 := hf.cons "s0" (by decide +kernel) (by decide +kernel) (by decide +kernel)
  have h1 := hf.cons "s1" (by decide +kernel) (by decide +kernel) (by decide +kernel)
  have hm := hf.cons "m" (by decide +kernel) (by decide +kernel) (by decide +kernel)
  have hs : inp.st.source = "source" := rfl
  simp only [Bool.false_eq_true, if_false, hs] at hsrc
  unfold outN at hsrc h0 h1 hm
  unfold inN at h0 h1 hm
  rw [st_edges] at hsrc h0 h1 hm
  simp [List.filter] at hsrc h0 h1 hm
  omega

/-- constraint `c` is `[inEdge c, outEdge c]` (`constraint_eq`) -/
def inEdge (c : Nat) : Edge := (if c / 3 = 0 then "s0" else "s1", "m")
def outEdge (c : Nat) : Edge := ("m", if c % 3 = 0 then "t0" else if c % 3 = 1 then "t1" else "t2")

theorem constraint_eq : ∀ c (hc : c < 6), inp.cfg.constraints[c] = [inEdge c, outEdge c] := by
  decide +kernel

theorem constraint_edges : ∀ con ∈ inp.cfg.constraints, ∀ e ∈ con, e ∈ inp.st.g.edges := by
  decide +kernel

/-- which of the six paths a layer runs along -/
def code (m : Edge → Nat) : Nat := 3 * m ("s1", "m") + m ("m", "t1") + 2 * m ("m", "t2")

theorem code_of_covered (m : Edge → Nat) (ha : m ("s0", "m") + m ("s1", "m") = 1)
    (hb : m ("m", "t0") + m ("m", "t1") + m ("m", "t2") = 1) (c : Nat) (hc : c < 6)
    (h1 : 1 ≤ m (inEdge c)) (h2 : 1 ≤ m (outEdge c)) : code m = c := by
  -- the entry edge tells `c / 3`, the exit edge `c % 3`
  have hin : m ("s1", "m") = c / 3 := by
    unfold inEdge at h1
    split at h1 <;> omega
  have hout : m ("m", "t1") + 2 * m ("m", "t2") = c % 3 := by
    unfold outEdge at h2
    split at h2
    · omega
    · split at h2 <;> omega
  unfold code
  omega

theorem infeasible_le5 (j : Nat) (hj : j ≤ 5) : ¬ KfdcFeasible inp j := by
  rintro ⟨a, ha⟩
  have hcore : Sat a (walkCore inp.st (inp.withK j).cfg (kfdcCap (inp.withK j))) := sat_append_left ha
  have henc : Sat a (encodeWalks inp.st (inp.withK j).cfg (kfdcCap (inp.withK j))) := sat_append_left hcore
  -- every constraint has its layer
  have hex : ∀ c ∈ List.range 6, ∃ i, i < j ∧ code (multOf a i) = c := by
    intro c hc
    have hc' : c < 6 := List.mem_range.1 hc
    have hlen : c < (inp.withK j).cfg.constraints.length := hc'
    have hcon : (inp.withK j).cfg.constraints[c] = [inEdge c, outEdge c] := constraint_eq c hc'
    have hmem := constraint_edges _ (List.getElem_mem hlen)
    obtain ⟨i, hi, hcv⟩ := subset_constraint_covered inp.st (inp.withK j).cfg _ a base_wf.stwfc hcore c hlen hmem
    -- full coverage: the layer runs through both edges of the constraint
    have hall := all_of_coversB _ _ _ (Rat.le_refl (a := 1)) hcv
    rw [hcon] at hall hmem
    have hi' : i < j := hi
    have hpos : ∀ e ∈ [inEdge c, outEdge c], 1 ≤ multOf a i e := fun e he =>
      Nat.pos_of_ne_zero ((walkcore_layer_mults inp.st _ a base_wf.stwfc henc i hi e (hmem e he)).1 ▸ hall e he)
    obtain ⟨ha, hb⟩ := layer_once _ (walkFacts_of_sat base_wf.stwfc.closed henc i hi')
    exact ⟨i, hi', code_of_covered _ ha hb c hc' (hpos _ List.mem_cons_self)
      (hpos _ (List.mem_cons_of_mem _ List.mem_cons_self))⟩
  -- six codes, each the code of some layer, and a layer has one code: `6 ≤ j`
  have := pigeon (List.range 6) j (fun c i => code (multOf a i) = c) List.nodup_range hex
    (fun c _ c' _ i _ h1 h2 => h1.symm.trans h2)
  rw [List.length_range] at this
  omega

end RangeWitness

end FP
