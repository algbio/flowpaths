import FP.Proofs.KFDC
import FP.Proofs.WalkCoreComplete
import FP.Proofs.ExplainedFlow
/-!
Completeness of the `kFlowDecompCycles` LP. `kfdcAsg` turns a decomposition on the level of multiplicities
(`m i e`), weights `w i` and connectivity witnesses (`sel`, `dist`) into an assignment of *all* columns of `kfdcLP`: edge,
selected-edge, distance, used-edge, `r`, `pi`, weights, and the bit / component columns of every
product block (binary digits of the multiplicity, digits times weight). `kfdcAsg_sat` shows
that it satisfies every column bound, every integrality requirement and every row, provided the
multiplicities respect the caps and `w_max`, and the weights lie in `[0, w_max]` (`w_max` natural or
fractional).

The model identifies a column with its HiGHS name, so two product blocks with the same name would share
their bit columns; `NameInj` (the names of the product blocks are pairwise different) excludes that — in
the Python code the blocks own their variables whatever the names are.

`kfdcAsg` is `klaecProdAsg` (`WrapperIntProd`: digits on the bit and component columns of a family of blocks, found
by the name prefix of the column) over `kfdcBaseAsg` (`kfdcAsg_eq`); on the columns of the walk core it carries the
multiplicities and witnesses (`kfdcAsg_core`), so `walkCore_sat` gives the walk core.
-/
namespace FP
open FP.Spec

theorem mem_kfdcProds {inp : WalkInput} {e : Edge} {i : Nat} :
    (e, i) ∈ kfdcProds inp ↔ e ∈ inp.activeEdges false ∧ i < inp.k :=
  mem_flatMap_range

def NameInj (inp : WalkInput) : Prop :=
  ∀ p ∈ kfdcProds inp, ∀ q ∈ kfdcProds inp, kfdcProdName p.1 p.2 = kfdcProdName q.1 q.2 → p = q

section Asg
variable (inp : WalkInput) (m : Nat → Edge → Nat) (w : Nat → Rat) (sel : Nat → Edge → Bool)
  (dist : Nat → Node → Nat)

theorem kfdcAsg_core : CoreCols inp (kfdcAsg inp m w sel dist) m sel dist where
  edge i e := by simp [kfdcAsg, kfdcBaseAsg, edgeVar]
  sel i e := by simp [kfdcAsg, kfdcBaseAsg, selVar]
  dist i v := by simp [kfdcAsg, kfdcBaseAsg, distVar]
  used i e := by simp [kfdcAsg, kfdcBaseAsg, usedVar]
  r i j := by simp [kfdcAsg, kfdcBaseAsg, rVar]

theorem kfdcAsg_pi (e : Edge) (i : Nat) :
    kfdcAsg inp m w sel dist (piVar e i)
      = if e ∈ inp.activeEdges false then w i * (m i e : Rat) else 0 := by
  simp [kfdcAsg, kfdcBaseAsg, piVar]

theorem kfdcAsg_eq : kfdcAsg inp m w sel dist
    = klaecProdAsg (kfdcProds inp) (fun p => kfdcProdName p.1 p.2) (fun p => m p.2 p.1) (fun p => w p.2)
        (kfdcBaseAsg inp m w sel dist) := by
  funext v
  cases v with
  | ix pfx j =>
    simp only [kfdcAsg, klaecProdAsg]
    cases List.find? (fun p => decide (pfx = "binary_" ++ kfdcProdName p.fst p.snd)) (kfdcProds inp) with
    | some p => rfl
    | none =>
      cases List.find? (fun p => decide (pfx = "comp_" ++ kfdcProdName p.fst p.snd)) (kfdcProds inp) <;> rfl
  | _ => rfl

theorem kfdcAsg_weights (i : Nat) : kfdcAsg inp m w sel dist (weightsVar i) = w i := by
  rw [kfdcAsg_eq]
  refine (klaecProdAsg_ix_other _ _ _ _ _ "weights" i binary_ne_weights comp_ne_weights).trans ?_
  simp [kfdcBaseAsg]

end Asg

structure KfdcDecomp (inp : WalkInput) (m : Nat → Edge → Nat) (w : Nat → Rat)
    (sel : Nat → Edge → Bool) (dist : Nat → Node → Nat) : Prop where
  /-- per layer: conserved multiplicities leaving the source once, within the caps, with connectivity witnesses -/
  layer : ∀ i, i < inp.k → LayerWitness inp.st inp.cfg.allowEmpty (kfdcCap inp) (m i) (sel i) (dist i)
  /-- weights in `[0, w_max]`, integral for `weight_type = int` -/
  weights : ∀ i, i < inp.k → 0 ≤ w i ∧ w i ≤ inp.wmax false ∧ (inp.weightInt = true → ∃ z : Int, w i = z)
  /-- the multiplicities fit into the bits of the product blocks (`⌈log2(w_max + 1)⌉` bits) -/
  multBits : ∀ i, i < inp.k → ∀ e ∈ inp.activeEdges false, (m i e : Rat) ≤ inp.wmax false
  /-- flow values do not exceed `w_max` (true by definition of `w_max` for `k ≥ 1` and integer flows) -/
  flowLe : ∀ e ∈ inp.activeEdges false, inp.f e ≤ inp.wmax false
  explains : ∀ e ∈ inp.activeEdges false, explainedM inp.k m w e = inp.f e
  covered : ∀ j (hj : j < inp.cfg.constraints.length), ∃ i, i < inp.k ∧
    coversB (m i) inp.cfg.constraints[j] inp.cfg.coverage = true

theorem kfdcAsg_sat (inp : WalkInput) (m : Nat → Edge → Nat) (w : Nat → Rat)
    (sel : Nat → Edge → Bool) (dist : Nat → Node → Nat)
    (hwf : STWFc inp.st) (hinj : NameInj inp)
    (h : KfdcDecomp inp m w sel dist) : Sat (kfdcAsg inp m w sel dist) (kfdcLP inp none) := by
  have hc := kfdcAsg_core inp m w sel dist
  rw [kfdcLP_none]
  refine sat_append (walkCore_sat inp (kfdcCap inp) _ m sel dist hwf h.layer h.covered hc) ?_
  obtain ⟨hch, hsum⟩ := WalkChan.of_values (all := inp.st.g.edges) (pi := inp.weightInt) m w hc.edge
    (kfdcAsg_weights inp m w sel dist) (fun i e => kfdcAsg_pi inp m w sel dist e i)
    (fun i hi e he j => by
      rw [kfdcAsg_eq]
      exact klaecProdAsg_bit (kfdcProds inp) (fun p => kfdcProdName p.1 p.2) (fun p => m p.2 p.1)
        (fun p => w p.2) _ hinj (e, i) (mem_kfdcProds.2 ⟨he, hi⟩) j)
    (fun i hi e he j => by
      rw [kfdcAsg_eq]
      exact klaecProdAsg_comp (kfdcProds inp) (fun p => kfdcProdName p.1 p.2) (fun p => m p.2 p.1)
        (fun p => w p.2) _ hinj (e, i) (mem_kfdcProds.2 ⟨he, hi⟩) j)
    h.weights id (fun i hi e he => lt_two_pow_klaecBitsOf _ _ (h.multBits i hi e he)) fun i hi e he => by
      -- one term of the sum that is `f e ≤ w_max`
      have := explainedM_term_le inp.k m w e (fun j hj => (h.weights j hj).1) i hi
      rw [h.explains e he] at this
      exact Rat.le_trans this (h.flowLe e he)
  exact (sat_kfdcFlow_iff inp _).2 ⟨hch, fun e he => (hsum e he).trans (h.explains e he)⟩

end FP
