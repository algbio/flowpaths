import FP.Proofs.C05Flow
import FP.Proofs.KFDCComplete
import FP.Proofs.C05Opt
/-!
# FP.Proofs.C05KFDC — `kFlowDecompCycles` (no given weights) as a `WalkRest`

`permLayersK` is the renaming of the columns of `kfdcLP` that belongs to a permutation of the layers: layered
columns, weight columns, and the bit / component columns of the product blocks (whose names contain the layer).
Forwards a solution is permuted into the slots, and where a key of `edges_set_to_zero` / `edges_set_to_one`
replaces a product block by a simplified row, the block implies the row. Backwards the bit / component columns of
the replaced blocks have no values: `patchBits` gives every block the digits of its multiplicity. Both directions are
fields of `kfdc_walkRest`, the instance of `WalkRest` that `c05w_generic_preserves` asks for.

As in C04's completeness theorem the model identifies a column with its name, so `NameInj inp` (different product
blocks have different names) is assumed.
-/
namespace FP

def permLayersK (inp : WalkInput) (π : Nat → Nat) : Var → Var
  | .ix p j =>
    match (kfdcProds inp).find? (fun q => p = "binary_" ++ kfdcProdName q.1 q.2) with
    | some q => .ix ("binary_" ++ kfdcProdName q.1 (π q.2)) j
    | none =>
      match (kfdcProds inp).find? (fun q => p = "comp_" ++ kfdcProdName q.1 q.2) with
      | some q => .ix ("comp_" ++ kfdcProdName q.1 (π q.2)) j
      | none => if p = "weights" then .ix p (π j) else .ix p j
  | .uvi p u v i => .uvi p u v (π i)
  | .vi p v i => .vi p v (π i)
  | .ij p i j => .ij p (π i) j
  | v => v

theorem permLayersK_isLayerRenaming (inp : WalkInput) (π : Nat → Nat) :
    IsLayerRenaming π (permLayersK inp π) :=
  ⟨fun _ _ _ _ => rfl, fun _ _ _ => rfl, fun _ _ _ => rfl⟩

theorem permLayersK_weights (inp : WalkInput) (π : Nat → Nat) (i : Nat) :
    permLayersK inp π (weightsVar i) = weightsVar (π i) := by
  unfold permLayersK weightsVar
  simp only
  rw [find?_prefix_none _ _ binary_ne_weights, find?_prefix_none _ _ comp_ne_weights]
  simp

theorem permLayersK_bit (inp : WalkInput) (π : Nat → Nat) (hinj : NameInj inp) (e : Edge) (i : Nat)
    (he : (e, i) ∈ kfdcProds inp) (j : Nat) :
    permLayersK inp π (bitVar (kfdcProdName e i) j) = bitVar (kfdcProdName e (π i)) j := by
  unfold permLayersK bitVar
  simp only
  rw [find?_prefixed_name hinj "binary_" he]

theorem permLayersK_comp (inp : WalkInput) (π : Nat → Nat) (hinj : NameInj inp) (e : Edge) (i : Nat)
    (he : (e, i) ∈ kfdcProds inp) (j : Nat) :
    permLayersK inp π (compVar (kfdcProdName e i) j) = compVar (kfdcProdName e (π i)) j := by
  unfold permLayersK compVar
  simp only
  rw [find?_prefix_none _ _ fun s => binary_ne_comp s _, find?_prefixed_name hinj "comp_" he]

theorem kfdcFlow_perm (inp : WalkInput) (hinj : NameInj inp) (a : Asg) (π : LayerPerm inp.k)
    (h : Sat a (kfdcFlow inp)) : Sat (a ∘ permLayersK inp π.fwd) (kfdcFlow inp) := by
  obtain ⟨hc, hs⟩ := (sat_kfdcFlow_iff inp a).1 h
  refine (sat_kfdcFlow_iff inp _).2 ⟨hc.transfer _ π.fwd π.fwd_lt (fun _ _ => rfl)
    (fun i => congrArg a (permLayersK_weights inp π.fwd i)) (fun _ _ => rfl)
    (fun e he i hi j => congrArg a (permLayersK_bit inp π.fwd hinj e i (mem_kfdcProds.2 ⟨he, hi⟩) j))
    (fun e he i hi j => congrArg a (permLayersK_comp inp π.fwd hinj e i (mem_kfdcProds.2 ⟨he, hi⟩) j)), fun e he => ?_⟩
  exact (sum_range_perm π fun i => a (piVar e i)).trans (hs e he)

/-- `layer_perm_invariant` for `kFlowDecompCycles` (no given weights, safety options off) -/
theorem kfdcLP_perm (inp : WalkInput) (hinj : NameInj inp) (a : Asg) (π : LayerPerm inp.k)
    (h : Sat a (kfdcLP inp none)) : Sat (a ∘ permLayersK inp π.fwd) (kfdcLP inp none) := by
  rw [kfdcLP_none] at h ⊢
  exact sat_append
    (walkCore_perm inp.st inp.cfg (kfdcCap inp) a π _ (permLayersK_isLayerRenaming inp π.fwd) (sat_append_left h))
    (kfdcFlow_perm inp hinj a π (sat_append_right h))

theorem kfdc_cover (inp : WalkInput) (a : Asg) (h : Sat a (kfdcLP inp none)) :
    ∀ x ∈ kfdcTrusted inp, ∃ i, i < inp.k ∧ 1 ≤ a (edgeVar x i) := by
  -- the flow row of a trusted edge sums to `f x ≠ 0`, so some `pi(x,i) = x(x,i) · w_i` is not `0`, so `x(x,i) ≥ 1`
  intro x hx
  rw [kfdcLP_none] at h
  obtain ⟨hact, hf⟩ := List.mem_filter.1 hx
  have hxe : x ∈ inp.st.g.edges := (List.mem_filter.1 hact).1
  obtain ⟨hc, hrow⟩ := (sat_kfdcFlow_iff inp a).1 (sat_append_right h)
  have hsum := hrow x hact
  have hfne : inp.f x ≠ 0 := by
    unfold WalkInput.f
    simpa using hf
  have hnz : ((List.range inp.k).map fun i => a (piVar x i)).sum ≠ 0 := by rw [hsum]; exact hfne
  obtain ⟨i, hi, hne⟩ := exists_ne_zero_of_sum_ne_zero hnz
  have hi' : i < inp.k := List.mem_range.1 hi
  rw [intProdQ_prod (hc.block x hact i hi')] at hne
  exact ⟨i, hi', edge_col_one_le_of_ne_zero (kfdc_sat_enc_of_base h) hi' hxe fun h0 => hne (by rw [h0, Rat.zero_mul])⟩

theorem subsetAsg_ix (a : Asg) (cons : List (List Edge)) (cov : Rat) (p : String) (j : Nat) :
    subsetAsg a cons cov (.ix p j) = a (.ix p j) := rfl

/-- the flow block does not read the `r` / `used_edge` columns -/
theorem kfdcFlow_subsetAsg (inp : WalkInput) (b : Asg) (cons : List (List Edge)) (cov : Rat)
    (h : Sat b (kfdcFlow inp)) : Sat (subsetAsg b cons cov) (kfdcFlow inp) := by
  obtain ⟨hc, hs⟩ := (sat_kfdcFlow_iff inp b).1 h
  refine (sat_kfdcFlow_iff inp _).2 ⟨hc.transfer _ id (fun _ hi => hi) (subsetAsg_edge b _ _) (fun _ => rfl) (subsetAsg_pi b _ _)
    (fun _ _ _ _ _ => rfl) (fun _ _ _ _ _ => rfl), fun e he => ?_⟩
  simp only [subsetAsg_pi]
  exact hs e he

theorem kfdcCap_one_le (inp : WalkInput) (e : Edge) (he : e ∈ inp.st.g.edges)
    (h : isSccEdge inp.st.g e = false) : 1 ≤ kfdcCap inp e := by
  rw [kfdcCap_eq he, h]; exact Rat.le_refl

/-- where the rows of the fragment hold (`x = 0` / `x = 1` on the keys of the two dictionaries), the product blocks
give the simplified rows -/
theorem kfdcFlowS_of_rows (inp : WalkInput) {safe seqs : List (List Edge)} {zs : List (Edge × Nat)} {fr : SafetyFrag}
    (sh : FragShape inp.st.g inp.k safe seqs zs fr) (a : Asg) (h : Sat a (kfdcFlow inp))
    (hrows : ∀ r ∈ fr.asRows, r.holds a) : Sat a (kfdcFlowS inp fr.zero fr.one) := by
  obtain ⟨hc, hs⟩ := (sat_kfdcFlow_iff inp a).1 h
  refine (sat_kfdcFlowS_iff inp _ _ a).2 ⟨hc.contBox, hc.prodBox, fun e he i hi => ?_, hs⟩
  exact prodPart_simplify inp _ _ _ e i (sh.zero_val hrows) (sh.one_val hrows) (hc.block e he i hi)

/-- give the bit / component columns of every product block the binary digits of the block's multiplicity (times
the layer's weight) -/
def patchBits (inp : WalkInput) (a : Asg) : Asg :=
  klaecProdAsg (kfdcProds inp) (fun q => kfdcProdName q.1 q.2) (fun q => multOf a q.2 q.1)
    (fun q => a (weightsVar q.2)) a

section Patch
variable (inp : WalkInput) (a : Asg)

theorem patchBits_weights (i : Nat) : patchBits inp a (weightsVar i) = a (weightsVar i) :=
  klaecProdAsg_ix_other _ _ _ _ _ "weights" i binary_ne_weights comp_ne_weights

/-- a block whose edge column holds the natural number `n`: the digits of `n` satisfy it -/
theorem prodFrag_patch (hinj : NameInj inp) (e : Edge) (i : Nat) (he : (e, i) ∈ kfdcProds inp) (n nb : Nat)
    (ub : Rat) (hx : a (edgeVar e i) = (n : Rat)) (hn : n < 2 ^ nb)
    (hw : 0 ≤ a (weightsVar i) ∧ a (weightsVar i) ≤ ub)
    (hpi : a (piVar e i) = (n : Rat) * a (weightsVar i)) :
    Sat (patchBits inp a) (prodFrag (edgeVar e i) (weightsVar i) (piVar e i) 0 ub (kfdcProdName e i) nb) := by
  have hmult : multOf a i e = n := multOf_of_eq a i e n hx
  have hw' : 0 ≤ patchBits inp a (weightsVar i) ∧ patchBits inp a (weightsVar i) ≤ ub := by
    rw [patchBits_weights]; exact hw
  refine prodFrag_sat_of_values (patchBits inp a) _ hx hn Rat.le_refl
    (Rat.le_trans hw.1 hw.2) hw' ?_ (fun j => ?_) (fun j => ?_)
  · show a (piVar e i) = a (edgeVar e i) * patchBits inp a (weightsVar i)
    rw [hpi, hx, patchBits_weights]
  · exact (klaecProdAsg_bit _ _ _ _ a hinj (e, i) he j).trans (by rw [hmult])
  · rw [patchBits_weights]
    exact (klaecProdAsg_comp _ _ _ _ a hinj (e, i) he j).trans (by rw [hmult])

end Patch

theorem c05_floor_toNat_natCast (n : Nat) : ((n : Rat)).floor.toNat = n :=
  floor_toNat_natCast n

/-- `hwm`: a block replaced by `pi = weight` needs one bit -/
theorem kfdcFlow_of_kfdcFlowS (inp : WalkInput) (hinj : NameInj inp) {safe seqs : List (List Edge)}
    {zs : List (Edge × Nat)} {fr : SafetyFrag} (sh : FragShape inp.st.g inp.k safe seqs zs fr)
    (hwm : seqs ≠ [] → 0 < inp.wmax false) (a : Asg) (hcore : Sat a (kfdcCore inp))
    (hasr : ∀ r ∈ fr.asRows, r.holds a) (h : Sat a (kfdcFlowS inp fr.zero fr.one)) :
    ∃ a', Sat a' (kfdcCore inp) ∧ Sat a' (kfdcFlow inp) := by
  have hfl := (sat_kfdcFlowS_iff inp _ _ a).1 h
  refine ⟨patchBits inp a, ?_, (sat_kfdcFlow_iff inp _).2 ⟨⟨fun i hi => ?_, hfl.prodBox, fun e he i hi => ?_⟩, hfl.sum⟩⟩
  · unfold kfdcCore walkCore
    exact sat_append
      (encodeWalks_transfer inp.st inp.cfg (kfdcCap inp) id (fun _ hi => hi) a (patchBits inp a) (fun _ _ => rfl)
        (fun _ _ => rfl) (fun _ _ => rfl) (sat_append_left hcore))
      (subsetBlock_transfer inp.st inp.cfg (kfdcCap inp) id (fun _ hi => hi) a (patchBits inp a) (fun _ => rfl) (fun _ _ => rfl)
        (fun _ _ => rfl) (fun _ _ => rfl) (sat_append_right hcore))
  · rw [patchBits_weights]
    exact hfl.contBox i hi
  · have hm : (e, i) ∈ kfdcProds inp := mem_kfdcProds.2 ⟨he, hi⟩
    have hw : 0 ≤ a (weightsVar i) ∧ a (weightsVar i) ≤ inp.wmax false :=
      ⟨(hfl.contBox i hi).1, (hfl.contBox i hi).2.1⟩
    rw [intProdQ_eq_frag]
    have hpart := hfl.part e he i hi
    revert hpart
    fun_cases prodPart inp fr.zero fr.one e i with
    | case1 hcz =>
      -- fixed to zero: the row left of the block is `pi = 0`
      intro hpart
      have hpi : a (piVar e i) = 0 := (rowEq_single_holds _ _ _).1 (hpart.2 _ (List.mem_singleton.2 rfl))
      exact prodFrag_patch inp a hinj e i hm 0 _ _ (by rw [sh.zero_val hasr (List.contains_iff_mem.1 hcz)]; rfl)
        (Nat.two_pow_pos _) hw (by rw [hpi]; exact (Rat.zero_mul _).symm)
    | case2 _ hco =>
      -- fixed to one: the row left of the block is `pi = weights`; there is a slot
      intro hpart
      have hco := List.contains_iff_mem.1 hco
      have hpi : a (piVar e i) = a (weightsVar i) := by
        have hr := (rowEq_holds ..).1 (hpart.2 _ (List.mem_singleton.2 rfl))
        rw [evalTerms_cons, evalTerms_single] at hr
        grind
      exact prodFrag_patch inp a hinj e i hm 1 _ _
        (by rw [sh.one_val hasr hco]; rfl) (one_lt_two_pow_klaecBits _ (hwm (sh.seqs_ne_nil_of_one hco))) hw
        (by rw [hpi]; exact (Rat.one_mul _).symm)
    | case3 =>
      -- the block is there: its bits cap the multiplicity
      intro hpart
      have hx := edge_col (sat_append_left hcore) hi (List.mem_filter.1 he).1
      have hlt := intProdQ_factor_lt hpart hx
      rw [intProdQ_eq_frag] at hpart
      exact prodFrag_patch inp a hinj e i hm _ _ _ hx hlt hw
        (hx ▸ prodFrag_sound a _ _ _ hpart)

theorem kfdc_walkRest (inp : WalkInput) (hinj : NameInj inp) {safe seqs : List (List Edge)}
    {zs : List (Edge × Nat)} {fr : SafetyFrag} (sh : FragShape inp.st.g inp.k safe seqs zs fr)
    (hwm : seqs ≠ [] → 0 < inp.wmax false) :
    WalkRest inp.st inp.cfg (kfdcCap inp) (kfdcTrusted inp) fr (kfdcFlow inp) (kfdcFlowS inp fr.zero fr.one) where
  cover := kfdc_cover inp
  sym a π h := ⟨_, permLayersK_isLayerRenaming inp π.fwd, kfdcFlow_perm inp hinj a π h, rfl⟩
  frame a cons cov h := ⟨kfdcFlow_subsetAsg inp a cons cov h, rfl⟩
  fwd a h hrows := kfdcFlowS_of_rows inp sh a h hrows
  bwd a hc hrows h :=
    have ⟨a', h1, h2⟩ := kfdcFlow_of_kfdcFlowS inp hinj sh hwm a hc hrows h
    ⟨a', h1, h2, rfl⟩

end FP
