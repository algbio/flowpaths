import FP.Proofs.WalkChan
import FP.Proofs.WalkCore
/-!
Soundness of the `kFlowDecompCycles` LP (`kfdcLP`). The LP is the walk core with the repetition caps `kfdcCap`, the
weight channel (`WalkChan`: products `pi e i = edge e i · weight i`) and one flow row per non-ignored edge
(`sat_kfdcFlow_iff`). The products are exact whatever the number of bits and whether or not `w_max` is a natural
number (`intProdQ_sound`), so every satisfying assignment decodes to walks and weights that explain every
non-ignored edge exactly (`kfdc_exact`).
-/
namespace FP
open FP.Spec

/-- `edge_upper_bounds[e]` as the encoder uses it -/
def kfdcCap (inp : WalkInput) (e : Edge) : Rat := lookupD (kfdcBounds inp) e 1

/-- `create_solver_and_walks` of the class -/
def kfdcCore (inp : WalkInput) : LP := walkCore inp.st inp.cfg (kfdcCap inp)

/-- `_encode_flow_decomposition` -/
def kfdcFlow (inp : WalkInput) : LP :=
  let prods := walkProducts (inp.activeEdges false) inp.k weightsVar piVar (inp.wmax false) kfdcProdName
  { cols := ((List.range inp.k).flatMap fun i => inp.st.g.edges.map fun e =>
        { v := piVar e i, lb := 0, ub := some (inp.wmax false), isInt := inp.weightInt })
      ++ ((List.range inp.k).map fun i =>
        { v := weightsVar i, lb := 0, ub := some (inp.wmax false), isInt := inp.weightInt })
      ++ prods.cols,
    rows := prods.rows
      ++ (inp.activeEdges false).map fun e => rowEq (ones (List.range inp.k) (piVar e)) (inp.f e) }

/-- `_encode_given_weights` -/
def kfdcGiven (inp : WalkInput) (ws : List Rat) : LP :=
  { rows := (List.range ws.length).map fun i => rowEq [(1, weightsVar i)] (ws.getD i 0),
    obj := inp.st.g.edges.flatMap fun e => (List.range inp.k).map fun i => ((1 : Rat), edgeVar e i) }

theorem kfdcLP_none (inp : WalkInput) : kfdcLP inp none = (kfdcCore inp).append (kfdcFlow inp) := rfl

theorem kfdcLP_some (inp : WalkInput) (ws : List Rat) :
    kfdcLP inp (some ws) = ((kfdcCore inp).append (kfdcFlow inp)).append (kfdcGiven inp ws) := rfl

theorem sat_kfdc_base (inp : WalkInput) (given : Option (List Rat)) (a : Asg)
    (h : Sat a (kfdcLP inp given)) : Sat a ((kfdcCore inp).append (kfdcFlow inp)) := by
  cases given with
  | none => exact h
  | some ws => rw [kfdcLP_some] at h; exact sat_append_left h

theorem sat_kfdcFlow_iff (inp : WalkInput) (a : Asg) :
    Sat a (kfdcFlow inp) ↔
      WalkChan a inp.st.g.edges (inp.activeEdges false) inp.k weightsVar piVar (inp.wmax false) kfdcProdName
        inp.weightInt inp.weightInt ∧
      ∀ e ∈ inp.activeEdges false, ((List.range inp.k).map fun i => a (piVar e i)).sum = inp.f e := by
  have hP := sat_walkProducts_iff a (inp.activeEdges false) inp.k weightsVar piVar (inp.wmax false) kfdcProdName
  simp only [Sat] at hP
  simp only [Sat, kfdcFlow, List.forall_mem_append, List.forall_mem_flatMap, List.forall_mem_map,
    List.mem_range, col_holds_iff, rowEq_holds, evalTerms_ones]
  -- `h1` `pi` boxes, `h2` weight boxes, `h3`/`h4` columns/rows of the product blocks, `h5` flow rows
  exact ⟨fun ⟨⟨⟨h1, h2⟩, h3⟩, h4, h5⟩ => ⟨⟨h2, h1, hP.1 ⟨h3, h4⟩⟩, h5⟩,
    fun ⟨hc, h5⟩ => ⟨⟨⟨hc.prodBox, hc.contBox⟩, (hP.2 hc.block).1⟩, (hP.2 hc.block).2, h5⟩⟩

/-- the cap of an edge of the augmented graph: the floor of the raw value (own flow value, `w_max`
without the attribute) inside an SCC, `1` outside -/
theorem kfdcCap_eq {inp : WalkInput} {e : Edge} (he : e ∈ inp.st.g.edges) :
    kfdcCap inp e = if isSccEdge inp.st.g e
      then ((((inp.fOpt e).getD (inp.wmax false)).floor : Int) : Rat) else 1 :=
  lookupD_capBounds _ _ e he

theorem kfdc_sat_enc_of_base {inp : WalkInput} {a : Asg} (h : Sat a ((kfdcCore inp).append (kfdcFlow inp))) :
    Sat a (encodeWalks inp.st inp.cfg (kfdcCap inp)) :=
  sat_append_left (sat_append_left h)

theorem kfdc_exact (inp : WalkInput) (given : Option (List Rat)) (a : Asg)
    (h : BaseWF inp.base) (hsat : Sat a (kfdcLP inp given)) :
    (∀ i, i < inp.k → 0 ≤ a (weightsVar i) ∧ a (weightsVar i) ≤ inp.wmax false ∧
        (inp.weightInt = true → ∃ z : Int, a (weightsVar i) = z)) ∧
    (∀ i, i < inp.k → ∀ e ∈ inp.st.g.edges,
        traversals (inp.st.source :: decodeWalkLayer inp.st a i ++ [inp.st.sink]) e = multOf a i e ∧
        a (edgeVar e i) = (multOf a i e : Rat) ∧ (multOf a i e : Rat) ≤ kfdcCap inp e) ∧
    IsWalkDecomp inp.st.source inp.st.sink (inp.activeEdges false) inp.f inp.k
      (decodeWalkLayer inp.st a) (fun i => a (weightsVar i)) := by
  have hb := sat_kfdc_base inp given a hsat
  obtain ⟨hc, hrow⟩ := (sat_kfdcFlow_iff inp a).1 (sat_append_right hb)
  have hlayer := walkcore_layer_mults inp.st (kfdcCap inp) a h.stwfc (kfdc_sat_enc_of_base hb)
  refine ⟨hc.contBox, hlayer, fun e he => ?_⟩
  have hee : e ∈ inp.st.g.edges := (List.mem_filter.1 he).1
  rw [← hrow e he]
  exact (hc.sum he fun i hi => ⟨(hlayer i hi e hee).1, (hlayer i hi e hee).2.1⟩).symm

end FP
