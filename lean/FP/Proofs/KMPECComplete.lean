import FP.Proofs.KMPEC
import FP.Proofs.KLAECAsg
import FP.Proofs.WalkWitness
/-!
Restricted completeness of the `kMinPathErrorCycles` LP, along the lines of `KLAECComplete`. `kmpecAsg` turns
multiplicities, weights, slacks and connectivity witnesses into an assignment of all columns of `kmpecLP`; it satisfies
the LP under the hypotheses `KmpecFamily`, among them that every product `w_i · m_i(e)` and `slack_i · m_i(e)` on a
non-ignored edge is at most `w_max` (the bounds of the `pi` and `gamma` columns; finding
C08-mpecycles-wmax-cuts-optimum). The walk form is `kmpecWalkAsg_sat` for families `MpecWithinCaps`; with no empty
walks and no subset constraints the decoded family of a satisfying assignment is one of them
(`kmpec_decoded_within_caps`).
-/
namespace FP
open FP.Spec FP.Spec.MPE

/-- the product blocks of the LP: per non-ignored edge and layer one `10_` block (`false`, weight) and
one `12_` block (`true`, slack) -/
def kmpecProdIdx (inp : WalkInput) : List (Bool × Edge × Nat) :=
  (inp.activeEdges true).flatMap fun e => (List.range inp.k).flatMap fun i =>
    [(false, e, i), (true, e, i)]

def kmpecBlockName (p : Bool × Edge × Nat) : String :=
  kmpecProdName (if p.1 then "12" else "10") p.2.1 p.2.2

theorem mem_kmpecProdIdx {inp : WalkInput} {b : Bool} {e : Edge} {i : Nat} :
    (b, e, i) ∈ kmpecProdIdx inp ↔ e ∈ inp.activeEdges true ∧ i < inp.k := by
  unfold kmpecProdIdx
  constructor
  · intro h
    obtain ⟨e', he', h⟩ := List.mem_flatMap.1 h
    obtain ⟨i', hi', h⟩ := List.mem_flatMap.1 h
    simp only [List.mem_cons, List.not_mem_nil, or_false] at h
    rcases h with h | h <;> cases h <;> exact ⟨he', List.mem_range.1 hi'⟩
  · rintro ⟨he, hi⟩
    refine List.mem_flatMap.2 ⟨e, he, List.mem_flatMap.2 ⟨i, List.mem_range.2 hi, ?_⟩⟩
    cases b <;> simp

/-- the names of the product blocks are pairwise different (the model identifies a column with its
HiGHS name) -/
def KmpecNameInj (inp : WalkInput) : Prop :=
  ∀ p ∈ kmpecProdIdx inp, ∀ q ∈ kmpecProdIdx inp, kmpecBlockName p = kmpecBlockName q → p = q

/-- the prefixes `"10"`, `"12"` have the same length, so equal names start with the same one -/
theorem kmpecProdName_inj {p p' : String} {e e' : Edge} {i j : Nat}
    (hlen : p.toList.length = p'.toList.length) (h : kmpecProdName p e i = kmpecProdName p' e' j) :
    p = p' ∧ i = j ∧ e.1 ++ "_v=" ++ e.2 = e'.1 ++ "_v=" ++ e'.2 := by
  have h := congrArg String.toList h
  simp only [kmpecProdName, String.toList_append, Nat.toString_eq_repr, Nat.toList_repr] at h
  obtain ⟨hx, hi⟩ := index_suffix_inj h
  simp only [List.append_assoc] at hx
  obtain ⟨hp, hx⟩ := List.append_inj hx hlen
  refine ⟨String.toList_inj.1 hp, hi, String.toList_inj.1 ?_⟩
  simp only [String.toList_append, List.append_assoc]
  exact List.append_cancel_left hx

theorem kmpecNameInj_of_edges (inp : WalkInput)
    (h : ∀ e ∈ inp.activeEdges true, ∀ e' ∈ inp.activeEdges true,
      e.1 ++ "_v=" ++ e.2 = e'.1 ++ "_v=" ++ e'.2 → e = e') : KmpecNameInj inp := by
  rintro ⟨b, e, i⟩ hp ⟨b', e', j⟩ hq hn
  obtain ⟨hpp, rfl, hee⟩ := kmpecProdName_inj (p := if b then "12" else "10") (p' := if b' then "12" else "10")
    (by cases b <;> cases b' <;> simp) hn
  have hb : b = b' := by revert hpp; cases b <;> cases b' <;> decide
  rw [hb, h e (mem_kmpecProdIdx.1 hp).1 e' (mem_kmpecProdIdx.1 hq).1 hee]

def kmpecAsg (inp : WalkInput) (m : Nat → Edge → Nat) (w sl : Nat → Rat)
    (sel : Nat → Edge → Bool) (dist : Nat → Node → Nat) : Asg :=
  klaecProdAsg (kmpecProdIdx inp) kmpecBlockName (fun p => m p.2.2 p.2.1)
    (fun p => if p.1 then sl p.2.2 else w p.2.2)
    (klaecBaseAsg inp m w sl (fun _ => 0) sel dist)

def kmpecWalkAsg (inp : WalkInput) (walk : Nat → List Node) (w sl : Nat → Rat) : Asg :=
  kmpecAsg inp (multsOf inp.st.source inp.st.sink walk) w sl
    (fun i => walkSel (inp.st.source :: walk i ++ [inp.st.sink]))
    (fun i => walkDist inp.st.g.nodes (inp.st.source :: walk i ++ [inp.st.sink]))

section Asg
variable (inp : WalkInput) (m : Nat → Edge → Nat) (w sl : Nat → Rat)
  (sel : Nat → Edge → Bool) (dist : Nat → Node → Nat)

theorem kmpecAsg_core : CoreCols inp (kmpecAsg inp m w sl sel dist) m sel dist :=
  (klaecBaseAsg_core inp m w sl (fun _ => 0) sel dist).prodAsg _ _ _ _

theorem kmpecAsg_chan : ChanCols inp (kmpecAsg inp m w sl sel dist) m w sl (fun _ => 0) :=
  (klaecBaseAsg_chan inp m w sl (fun _ => 0) sel dist).prodAsg _ _ _ _

end Asg

/-- the hypotheses of `KlaecFamily` with slacks beside the weights and the slack inequality in place of the error
bound -/
structure KmpecFamily (inp : WalkInput) (m : Nat → Edge → Nat) (w sl : Nat → Rat)
    (sel : Nat → Edge → Bool) (dist : Nat → Node → Nat) : Prop where
  layer : ∀ i, i < inp.k → LayerWitness inp.st inp.cfg.allowEmpty (klaecCap inp) (m i) (sel i) (dist i)
  weights : ∀ i, i < inp.k → 0 ≤ w i ∧ w i ≤ inp.wmax true ∧ (inp.weightInt = true → IsInt (w i))
  slacks : ∀ i, i < inp.k → 0 ≤ sl i ∧ sl i ≤ inp.wmax true ∧ (inp.weightInt = true → IsInt (sl i))
  multBits : ∀ i, i < inp.k → ∀ e ∈ inp.activeEdges true, m i e < 2 ^ klaecBits inp
  prodLe : ∀ i, i < inp.k → ∀ e ∈ inp.activeEdges true,
    w i * (m i e : Rat) ≤ inp.wmax true ∧ sl i * (m i e : Rat) ≤ inp.wmax true
  slackOK : ∀ e ∈ inp.activeEdges true,
    (inp.f e - explainedM inp.k m w e).abs * inp.scale e ≤ explainedM inp.k m sl e
  covered : ∀ j (hj : j < inp.cfg.constraints.length), ∃ i, i < inp.k ∧
    coversB (m i) inp.cfg.constraints[j] inp.cfg.coverage = true

theorem kmpec_complete_mult (inp : WalkInput) (m : Nat → Edge → Nat) (w sl : Nat → Rat)
    (sel : Nat → Edge → Bool) (dist : Nat → Node → Nat)
    (hwf : STWFc inp.st) (hinj : KmpecNameInj inp)
    (hscale : ∀ e ∈ inp.activeEdges true, 0 ≤ inp.scale e)
    (h : KmpecFamily inp m w sl sel dist) :
    Sat (kmpecAsg inp m w sl sel dist) (kmpecLP inp) := by
  have hc := kmpecAsg_core inp m w sl sel dist
  have hv := kmpecAsg_chan inp m w sl sel dist
  -- the weight channel (`10_` blocks) and the slack channel (`12_` blocks)
  obtain ⟨hcw, hsw⟩ := WalkChan.of_values (all := inp.st.g.edges) (pi := inp.weightInt) m w hc.edge hv.weights hv.pi
    (fun i hi e he j => klaecProdAsg_bit _ kmpecBlockName _ _ _ hinj (false, e, i) (mem_kmpecProdIdx.2 ⟨he, hi⟩) j)
    (fun i hi e he j => klaecProdAsg_comp _ kmpecBlockName _ _ _ hinj (false, e, i) (mem_kmpecProdIdx.2 ⟨he, hi⟩) j)
    h.weights id h.multBits fun i hi e he => (h.prodLe i hi e he).1
  obtain ⟨hcs, hss⟩ := WalkChan.of_values (all := inp.st.g.edges) (pi := false) m sl hc.edge hv.slack hv.gamma
    (fun i hi e he j => klaecProdAsg_bit _ kmpecBlockName _ _ _ hinj (true, e, i) (mem_kmpecProdIdx.2 ⟨he, hi⟩) j)
    (fun i hi e he j => klaecProdAsg_comp _ kmpecBlockName _ _ _ hinj (true, e, i) (mem_kmpecProdIdx.2 ⟨he, hi⟩) j)
    h.slacks (fun hf => nomatch hf) h.multBits fun i hi e he => (h.prodLe i hi e he).2
  refine (sat_kmpecLP_iff inp _).2 ⟨walkCore_sat inp (klaecCap inp) _ m sel dist hwf h.layer h.covered hc, hcw, hcs,
    fun e he => ?_⟩
  rw [hsw e he, hss e he]
  exact le_of_abs_mul_le _ _ _ (hscale e he) (h.slackOK e he)

/-- a family of `inp.k` weighted walks with slacks that the `kMinPathErrorCycles` model can represent -/
structure MpecWithinCaps (inp : WalkInput) (walk : Nat → List Node) (w sl : Nat → Rat) : Prop where
  isWalk : ∀ i, i < inp.k → IsWalkIn inp.st.g (inp.st.source :: walk i ++ [inp.st.sink])
  /-- every walk respects the repetition caps (largest reachable flow value inside an SCC, 1 outside) -/
  withinCap : ∀ i, i < inp.k → ∀ e ∈ inp.st.g.edges,
    (traversals (inp.st.source :: walk i ++ [inp.st.sink]) e : Rat) ≤ klaecCap inp e
  /-- weights in `[0, w_max]`, integral for `weight_type = int` -/
  weights : ∀ i, i < inp.k → 0 ≤ w i ∧ w i ≤ inp.wmax true ∧ (inp.weightInt = true → IsInt (w i))
  /-- slacks in `[0, w_max]`, integral for `weight_type = int` -/
  slacks : ∀ i, i < inp.k → 0 ≤ sl i ∧ sl i ≤ inp.wmax true ∧ (inp.weightInt = true → IsInt (sl i))
  /-- the traversal counts fit into the `⌈log2(w_max + 1)⌉` bits of the product blocks -/
  multBits : ∀ i, i < inp.k → ∀ e ∈ inp.activeEdges true,
    traversals (inp.st.source :: walk i ++ [inp.st.sink]) e < 2 ^ klaecBits inp
  /-- weight × traversals and slack × traversals are at most `w_max` (the bounds of the `pi` and `gamma` columns) -/
  prodLe : ∀ i, i < inp.k → ∀ e ∈ inp.activeEdges true,
    w i * (traversals (inp.st.source :: walk i ++ [inp.st.sink]) e : Rat) ≤ inp.wmax true ∧
    sl i * (traversals (inp.st.source :: walk i ++ [inp.st.sink]) e : Rat) ≤ inp.wmax true
  slackOK : ∀ e ∈ inp.activeEdges true, MPEC.SlackOK inp walk w sl e
  covered : ∀ j (hj : j < inp.cfg.constraints.length), ∃ i, i < inp.k ∧
    coversB (multsOf inp.st.source inp.st.sink walk i) inp.cfg.constraints[j] inp.cfg.coverage = true

theorem kmpecWalkAsg_mult (inp : WalkInput) (walk : Nat → List Node) (w sl : Nat → Rat) (i : Nat) (e : Edge) :
    multOf (kmpecWalkAsg inp walk w sl) i e = traversals (inp.st.source :: walk i ++ [inp.st.sink]) e :=
  multOf_of_eq _ i e _ ((kmpecAsg_core inp _ w sl _ _).edge i e)

theorem kmpecWalkAsg_obj (inp : WalkInput) (walk : Nat → List Node) (w sl : Nat → Rat) :
    evalTerms (kmpecWalkAsg inp walk w sl) (kmpecLP inp).obj = totalSlack inp.k sl := by
  rw [kmpecLP_obj]
  exact congrArg List.sum (List.map_congr_left fun i _ => (kmpecAsg_chan inp _ w sl _ _).slack i)

theorem kmpecWalkAsg_sat (inp : WalkInput) (walk : Nat → List Node) (w sl : Nat → Rat)
    (hb : BaseWF inp.base) (hinj : KmpecNameInj inp)
    (hscale : ∀ e ∈ inp.activeEdges true, 0 ≤ inp.scale e)
    (h : MpecWithinCaps inp walk w sl) : Sat (kmpecWalkAsg inp walk w sl) (kmpecLP inp) :=
  have hwf : STWFc inp.st := hb.stwfc
  kmpec_complete_mult inp _ w sl _ _ hwf hinj hscale
    { layer := fun i hi => walk_layer_witness inp.st hwf _ _ (h.isWalk i hi) (h.withinCap i hi)
      weights := h.weights
      slacks := h.slacks
      multBits := h.multBits
      prodLe := h.prodLe
      slackOK := h.slackOK
      covered := h.covered }

theorem kmpec_mult_bits (inp : WalkInput) (a : Asg) (hsat : Sat a (kmpecLP inp))
    (e : Edge) (he : e ∈ inp.activeEdges true) (i : Nat) (hi : i < inp.k) :
    multOf a i e < 2 ^ klaecBits inp :=
  ((sat_kmpecLP_iff inp a).1 hsat).2.1.mult_lt he hi (edge_col (kmpec_sat_enc hsat) hi (List.mem_filter.1 he).1)

theorem kmpec_decoded_within_caps (inp : WalkInput) (a : Asg) (hb : BaseWF inp.base)
    (hae : inp.cfg.allowEmpty = false) (hcons : inp.cfg.constraints = [])
    (hsat : Sat a (kmpecLP inp)) :
    MpecWithinCaps inp (decodeWalkLayer inp.st a) (fun i => a (weightsVar i)) (fun i => a (slackVar i)) := by
  have hlayer := walkcore_layer_mults inp.st _ a hb.stwfc (kmpec_sat_enc hsat)
  obtain ⟨_, hw, hs, _⟩ := (sat_kmpecLP_iff inp a).1 hsat
  refine { isWalk := fun i hi => decoded_isWalk inp.st inp.cfg _ a hb.stwfc (kmpec_sat_enc hsat) hae i hi
           withinCap := decoded_withinCap inp.st _ a hb.stwfc (kmpec_sat_enc hsat)
           weights := hw.contBox, slacks := hs.contBox,
           multBits := ?_, prodLe := ?_, slackOK := fun _ he => kmpec_slackOK hb hsat he, covered := ?_ }
  · intro i hi e he
    rw [(hlayer i hi e (List.mem_filter.1 he).1).1]
    exact kmpec_mult_bits inp a hsat e he i hi
  · intro i hi e he
    obtain ⟨h1, h2⟩ := kmpec_pi_gamma hsat he hi
    have hee := (List.mem_filter.1 he).1
    rw [(hlayer i hi e hee).1, ← h1, ← h2]
    exact ⟨(hw.prodBox i hi e hee).2.1, (hs.prodBox i hi e hee).2.1⟩
  · intro j hj
    rw [hcons] at hj
    exact absurd hj (Nat.not_lt_zero j)

end FP
