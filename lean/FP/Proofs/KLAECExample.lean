import FP.Proofs.KMPECComplete
import FP.Proofs.KLAECComplete
import FP.Proofs.ExplainedFlow
/-!
A concrete cyclic instance of the two error models, the one of the findings C07-laecycles-wmax-cuts-optimum / C08-mpecycles-wmax-cuts-optimum:
`s → a → b → a` (a 2-cycle `a ⇄ b`), additional end `b`, flow values `f(s,a) = 4`, `f(a,b) = 0`,
`f(b,a) = 4`, `error_scaling = {(a,b): 1/4}`, `weight_type = int`, `k = 1`; hence `w_max = 4`, the caps of
the two cycle edges are `4`, and every product block has `3` bits.

* the walk `s a b a b` (once round the cycle) with weight `2` — products `2·2 = 4 ≤ w_max` — is within
  the caps: `laec_within`, `mpec_within` (slack `2`); the completeness theorems turn it into satisfying
  assignments of `klaecLP` / `kmpecLP` with objectives `5` and `2`;
* the same walk with weight `4` has total error `2` (< 5) resp. admits slack `1` (< 2), but its product
  `4·2 = 8` exceeds `w_max = 4`: it is *not* within the caps (`laec_cut_off`, `mpec_cut_off`).
-/
namespace FP.CycleWitness
open FP FP.Spec FP.Spec.MPE

def base : Graph := { nodes := ["s", "a", "b"], edges := [("s", "a"), ("a", "b"), ("b", "a")] }

def inp : WalkInput :=
  { base := base, flow := [(("s", "a"), 4), (("a", "b"), 0), (("b", "a"), 4)], ends := ["b"],
    weightInt := true, scaling := [(("a", "b"), 1/4)], cfg := { k := 1 } }

theorem base_wf : BaseWF inp.base := by decide +kernel

def walk : Nat → List Node := fun _ => ["s", "a", "b", "a", "b"]

theorem st_edges : inp.st.g.edges = [("s", "a"), ("a", "b"), ("b", "a"), ("b", "sink"), ("source", "s")] := by
  decide +kernel

theorem active_eq : inp.activeEdges true = [("s", "a"), ("a", "b"), ("b", "a")] := by decide +kernel

theorem cap_fun : klaecCap inp = fun e =>
    lookupD [(("s", "a"), (1 : Rat)), (("a", "b"), 4), (("b", "a"), 4), (("b", "sink"), 1), (("source", "s"), 1)] e 1 := by
  have h : reachBounds inp
      = [(("s", "a"), 1), (("a", "b"), 4), (("b", "a"), 4), (("b", "sink"), 1), (("source", "s"), 1)] := by
    decide +kernel
  funext e
  unfold klaecCap
  rw [h]

theorem wmax_val : inp.wmax true = 4 := by decide +kernel
theorem bits_val : klaecBits inp = 3 := by decide +kernel
theorem ab_active : ("a", "b") ∈ inp.activeEdges true := by rw [active_eq]; decide

theorem cap_cycle : klaecCap inp ("a", "b") = 4 ∧ klaecCap inp ("b", "a") = 4 ∧ klaecCap inp ("s", "a") = 1 := by
  rw [cap_fun]
  decide +kernel

theorem edge_names : ∀ e ∈ inp.activeEdges true, ∀ e' ∈ inp.activeEdges true,
    e.1 ++ "_v=" ++ e.2 = e'.1 ++ "_v=" ++ e'.2 → e = e' := by rw [active_eq]; decide +kernel

theorem laec_names : KlaecNameInj inp := klaecNameInj_of_edges inp edge_names

theorem mpec_names : KmpecNameInj inp := kmpecNameInj_of_edges inp edge_names

theorem flows_int : inp.weightInt = true → ∀ e ∈ inp.activeEdges true, IsInt (inp.f e) := by
  intro _ e he
  have h : inp.f e = ((inp.f e).floor : Rat) := by
    revert e
    decide +kernel
  exact ⟨_, h⟩

theorem scale_nonneg : ∀ e ∈ inp.activeEdges true, 0 ≤ inp.scale e := by rw [active_eq]; decide +kernel

/-- once round the cycle with weight 2: within the caps of `kLeastAbsErrorsCycles` -/
theorem laec_within : LaecWithinCaps inp walk (fun _ => 2) where
  isWalk := by intro i _; simp only [walk]; unfold IsWalkIn; rw [st_edges]; decide +kernel
  withinCap := by intro i _; simp only [walk]; rw [cap_fun, st_edges]; decide +kernel
  weights := by
    intro i _
    exact ⟨by decide +kernel, by decide +kernel, fun _ => ⟨2, by decide +kernel⟩⟩
  multBits := by intro i _; simp only [walk]; rw [active_eq, bits_val]; decide +kernel
  prodLe := by intro i _; simp only [walk]; rw [active_eq, wmax_val]; decide +kernel
  errLe := by decide +kernel
  covered := by intro j hj; exact absurd hj (Nat.not_lt_zero j)

theorem laec_totalErr : LAEC.totalErr inp walk (fun _ => 2) = 5 := by decide +kernel

/-- the same walk and weight with slack 2: within the caps of `kMinPathErrorCycles` -/
theorem mpec_within : MpecWithinCaps inp walk (fun _ => 2) (fun _ => 2) where
  isWalk := laec_within.isWalk
  withinCap := laec_within.withinCap
  weights := laec_within.weights
  slacks := laec_within.weights
  multBits := laec_within.multBits
  prodLe := fun i hi e he => ⟨laec_within.prodLe i hi e he, laec_within.prodLe i hi e he⟩
  slackOK := by unfold MPEC.SlackOK; decide +kernel
  covered := laec_within.covered

theorem laec_sat : Sat (klaecWalkAsg inp walk (fun _ => 2)) (klaecLP inp) :=
  klaecWalkAsg_sat inp walk _ base_wf laec_names flows_int laec_within

theorem mpec_sat_checked : Sat (kmpecWalkAsg inp walk (fun _ => 2) (fun _ => 2)) (kmpecLP inp) :=
  kmpecWalkAsg_sat inp walk _ _ base_wf mpec_names scale_nonneg mpec_within

example : (klaecLP inp).cols.length = 42 ∧ (klaecLP inp).rows.length = 71 ∧
    (kmpecLP inp).cols.length = 63 ∧ (kmpecLP inp).rows.length = 113 := by decide +kernel

theorem laec_decode : decodeWalkLayer inp.st (klaecWalkAsg inp walk (fun _ => 2)) 0
    = ["s", "a", "b", "a", "b"] := by decide +kernel

theorem mpec_decode : decodeWalkLayer inp.st (kmpecWalkAsg inp walk (fun _ => 2) (fun _ => 2)) 0
    = ["s", "a", "b", "a", "b"] := by decide +kernel

/-- weight 4 on the same walk: total scaled error `2` instead of `5`, weight within `[0, w_max]`, walk
within the repetition caps -/
theorem laec_better_family :
    LAEC.totalErr inp walk (fun _ => 4) = 2 ∧ (4 : Rat) ≤ inp.wmax true ∧
    (∀ e ∈ inp.st.g.edges, (traversals (inp.st.source :: walk 0 ++ [inp.st.sink]) e : Rat) ≤ klaecCap inp e) := by
  rw [cap_fun, st_edges, wmax_val]
  decide +kernel

/-- with weight 4 the product `4 · 2 = 8` on `(a, b)` (and the error `8` there) exceeds `w_max = 4` -/
theorem laec_cut_off : ¬ LaecWithinCaps inp walk (fun _ => 4) := by
  intro h
  have := (h.prodLe 0 (by decide) ("a", "b") ab_active)
  exact absurd this (by decide +kernel)

/-- weight 4 and slack 1 on the same walk satisfy the slack inequality on every non-ignored edge -/
theorem mpec_better_family :
    ∀ e ∈ inp.activeEdges true, MPEC.SlackOK inp walk (fun _ => 4) (fun _ => 1) e := by
  unfold MPEC.SlackOK
  decide +kernel

/-- `pi(a,b) = 8 > w_max` -/
theorem mpec_cut_off : ¬ MpecWithinCaps inp walk (fun _ => 4) (fun _ => 1) := by
  intro h
  have := (h.prodLe 0 (by decide) ("a", "b") ab_active).1
  exact absurd this (by decide +kernel)

theorem f_vals : inp.f ("s", "a") = 4 ∧ inp.f ("a", "b") = 0 ∧ inp.f ("b", "a") = 4 := by decide +kernel

theorem scale_vals : inp.scale ("s", "a") = 1 ∧ inp.scale ("a", "b") = 1/4 ∧ inp.scale ("b", "a") = 1 := by
  decide +kernel

theorem explained_one (walk' : Nat → List Node) (w' : Nat → Rat) (e : Edge) :
    walkExplained inp.st.source inp.st.sink inp.k walk' w' e
      = w' 0 * (traversals (inp.st.source :: walk' 0 ++ [inp.st.sink]) e : Rat) :=
  explainedM_one _ w' e

/-- every source-to-sink walk of the augmented graph runs through `(s,a)` once and through `(a,b)` once
more than through `(b,a)` -/
theorem walk_shape (p : List Node) (hW : IsWalkIn inp.st.g (inp.st.source :: p ++ [inp.st.sink])) :
    (traversals (inp.st.source :: p ++ [inp.st.sink]) ("s", "a") : Rat) = 1 ∧
    (traversals (inp.st.source :: p ++ [inp.st.sink]) ("a", "b") : Rat)
      = 1 + (traversals (inp.st.source :: p ++ [inp.st.sink]) ("b", "a") : Rat) := by
  have hL := walk_layer_witness inp.st base_wf.stwfc false _ hW fun _ _ => Rat.le_refl
  generalize traversals (inp.st.source :: p ++ [inp.st.sink]) = m at *
  -- one unit leaves the source; it is conserved at `s` and at `a`
  have hsrc := hL.src
  rw [if_neg Bool.false_ne_true] at hsrc
  have hs := hL.cons "s" (by decide +kernel) (by decide +kernel) (by decide +kernel)
  have ha := hL.cons "a" (by decide +kernel) (by decide +kernel) (by decide +kernel)
  -- the edges out of the source, into and out of `s`, into and out of `a`
  have e1 : inp.st.g.edges.filter (·.1 = inp.st.source) = [("source", "s")] := by rw [st_edges]; decide +kernel
  have e2 : inp.st.g.edges.filter (·.2 = "s") = [("source", "s")] := by rw [st_edges]; decide +kernel
  have e3 : inp.st.g.edges.filter (·.1 = "s") = [("s", "a")] := by rw [st_edges]; decide +kernel
  have e4 : inp.st.g.edges.filter (·.2 = "a") = [("s", "a"), ("b", "a")] := by rw [st_edges]; decide +kernel
  have e5 : inp.st.g.edges.filter (·.1 = "a") = [("a", "b")] := by rw [st_edges]; decide +kernel
  unfold outN at hsrc
  unfold outN inN at hs ha
  rw [e1] at hsrc
  rw [e2, e3] at hs
  rw [e4, e5] at ha
  simp only [List.map_cons, List.map_nil, List.sum_cons, List.sum_nil, Nat.add_zero] at hsrc hs ha
  rw [← ha, ← hs, hsrc, Rat.natCast_add]
  exact ⟨rfl, rfl⟩

/-- with weight `w` and `j` rounds the three errors are at least `4 − w`, `w(1+j)` and `4 − wj`: in all
`8 − ¾·w(1+j)`, and the product on `(a,b)` is capped by `w_max = 4` -/
theorem laec_arith (w j : Rat) (hp : w * (1 + j) ≤ 4) :
    5 ≤ 1 * (4 - w * 1).abs + (1/4 * (0 - w * (1 + j)).abs + (1 * (4 - w * j).abs + 0)) := by
  have a1 := le_abs (4 - w * 1)
  have a2 := neg_le_abs (0 - w * (1 + j))
  have a3 := le_abs (4 - w * j)
  grind

theorem laec_lower_bound (walk' : Nat → List Node) (w' : Nat → Rat) (h : LaecWithinCaps inp walk' w') :
    5 ≤ LAEC.totalErr inp walk' w' := by
  obtain ⟨c1, c2⟩ := walk_shape (walk' 0) (h.isWalk 0 (by decide))
  have hp := h.prodLe 0 (by decide) ("a", "b") ab_active
  obtain ⟨hsc1, hsc2, hsc3⟩ := scale_vals
  obtain ⟨hf1, hf2, hf3⟩ := f_vals
  unfold LAEC.totalErr LAEC.absErr
  rw [active_eq]
  simp only [explained_one, List.map_cons, List.map_nil, List.sum_cons, List.sum_nil]
  rw [wmax_val, c2] at hp
  rw [hsc1, hsc2, hsc3, hf1, hf2, hf3, c1, c2]
  exact laec_arith _ _ hp

theorem laec_lp_lower_bound (a : Asg) (hsat : Sat a (klaecLP inp)) : 5 ≤ evalTerms a (klaecLP inp).obj :=
  Rat.le_trans (laec_lower_bound _ _ (klaec_decoded_within_caps inp a base_wf rfl rfl hsat))
    (klaec_obj_ge inp a base_wf scale_nonneg hsat)

theorem laec_obj : evalTerms (klaecWalkAsg inp walk (fun _ => 2)) (klaecLP inp).obj = 5 := by
  rw [klaecWalkAsg_obj]
  exact laec_totalErr

/-- the optimum of `klaecLP` on this instance is `5`, attained by `klaecWalkAsg inp walk 2` -/
theorem laec_optimal (a' : Asg) (hsat : Sat a' (klaecLP inp)) :
    evalTerms (klaecWalkAsg inp walk (fun _ => 2)) (klaecLP inp).obj ≤ evalTerms a' (klaecLP inp).obj := by
  rw [laec_obj]; exact laec_lp_lower_bound a' hsat

/-- without a round of the cycle `(b,a)` has error 4 and no slack; with `j ≥ 1` rounds the cap on the product
gives `2w ≤ w(1+j) ≤ 4`, so the error `4 − w` on `(s,a)` is at least 2 -/
theorem mpec_arith (w sl : Rat) (j : Nat) (hw : 0 ≤ w) (hp : w * (1 + j) ≤ 4)
    (h1 : (4 - w * 1).abs * 1 ≤ sl * 1) (h3 : (4 - w * j).abs * 1 ≤ sl * j) : 2 ≤ sl := by
  have a1 := le_abs (4 - w * 1)
  rcases Nat.eq_zero_or_pos j with rfl | hj
  · have a3 := le_abs (4 - w * ((0 : Nat) : Rat))
    rw [show ((0 : Nat) : Rat) = 0 from rfl] at h3 a3
    grind
  · have hn := Rat.mul_nonneg hw ((Rat.le_iff_sub_nonneg _ _).1 (one_le_natCast hj))
    grind

theorem mpec_lower_bound (walk' : Nat → List Node) (w' sl' : Nat → Rat)
    (h : MpecWithinCaps inp walk' w' sl') : 2 ≤ totalSlack inp.k sl' := by
  obtain ⟨c1, c2⟩ := walk_shape (walk' 0) (h.isWalk 0 (by decide))
  have hp := (h.prodLe 0 (by decide) ("a", "b") ab_active).1
  have ok1 := h.slackOK ("s", "a") (by rw [active_eq]; decide)
  have ok3 := h.slackOK ("b", "a") (by rw [active_eq]; decide)
  obtain ⟨hsc1, _, hsc3⟩ := scale_vals
  obtain ⟨hf1, _, hf3⟩ := f_vals
  unfold MPEC.SlackOK at ok1 ok3
  rw [explained_one, explained_one, hsc1, hf1, c1] at ok1
  rw [explained_one, explained_one, hsc3, hf3] at ok3
  rw [wmax_val, c2] at hp
  rw [show totalSlack inp.k sl' = sl' 0 + 0 from rfl, Rat.add_zero]
  exact mpec_arith _ _ _ (h.weights 0 (by decide)).1 hp ok1 ok3

theorem mpec_lp_lower_bound (a : Asg) (hsat : Sat a (kmpecLP inp)) : 2 ≤ evalTerms a (kmpecLP inp).obj := by
  rw [kmpecLP_obj]
  exact mpec_lower_bound _ _ _ (kmpec_decoded_within_caps inp a base_wf rfl rfl hsat)

theorem mpec_obj : evalTerms (kmpecWalkAsg inp walk (fun _ => 2) (fun _ => 2)) (kmpecLP inp).obj = 2 := by
  rw [kmpecWalkAsg_obj]
  show ((List.range 1).map fun _ => (2 : Rat)).sum = 2
  simp [List.range_succ, Rat.add_zero]

/-- the optimum of `kmpecLP` on this instance is `2`, attained by `kmpecWalkAsg inp walk 2 2` -/
theorem mpec_optimal (a' : Asg) (hsat : Sat a' (kmpecLP inp)) :
    evalTerms (kmpecWalkAsg inp walk (fun _ => 2) (fun _ => 2)) (kmpecLP inp).obj
      ≤ evalTerms a' (kmpecLP inp).obj := by
  rw [mpec_obj]; exact mpec_lp_lower_bound a' hsat

/-- the walk of the better (cut-off) families is a route of the user's graph -/
theorem walk_valid : ValidRoute inp.base inp.starts inp.ends (walk 0) := by
  have := (walk_routes_valid inp.base inp.starts inp.ends inp.cfg (klaecCap inp) _ base_wf
    (klaec_sat_enc laec_sat) 0 (by decide)).2
  rw [show decodeWalkLayer (augment inp.base inp.starts inp.ends) (klaecWalkAsg inp walk fun _ => 2) 0
    = walk 0 from laec_decode] at this
  exact this (by decide)

end FP.CycleWitness
