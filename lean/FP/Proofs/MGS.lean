import FP.Model.Enc.MGS
import FP.Proofs.GenSetSpec
import FP.Proofs.WrapperIntProd
/-! What the satisfying assignments of `mgsLP` (`MinGenSet._create_solver(k)`) are: `mgs_sat_iff` reads the model's LP
in values (`MgsBase`: the columns `gen_set`, `x`, `pi` and the row `total`; per number its product blocks `mgsProdLP` and
its row; the symmetry rows; `MgsPart`: the partition block), and soundness and completeness are put together from that.

Last, `remove_complement_values` does not change which multisets generate the input, for every multiplicity
(`preprocess_generates_iff`): a removed value is `0`, `total`, or — only for multiplicity 1, as the code does
(fix 20bda28) — the complement `total − v` of a kept or generated value. -/
namespace FP.GS
open FP.Spec

/-- number of bit columns `intProdQ` creates for the bound `ub` -/
def qBits (ub : Rat) : Nat :=
  if ub.den = 1 ∧ 0 ≤ ub.num then numBits ub.num.toNat else numBits ub.ceil.toNat

theorem qBits_eq (ub : Rat) : qBits ub = klaecBitsOf ub := by
  unfold qBits klaecBitsOf
  split
  · rename_i h
    rw [show ub.ceil = ub.num by unfold Rat.ceil; rw [if_pos h.1]]
  · rfl

/-- what the columns `gen_set`, `x`, `pi` and the row `total` say -/
def MgsBase (inp : MGSInput) (k : Nat) (a : Asg) : Prop :=
  (∀ i, i < k → 0 ≤ a (genVar i) ∧ a (genVar i) ≤ inp.total ∧
    (inp.weightInt = true → ∃ z : Int, a (genVar i) = z)) ∧
  (∀ i, i < k → ∀ j, j < inp.numbers.length →
    0 ≤ a (xVar i j) ∧ a (xVar i j) ≤ (if inp.maxMult = 1 then 1 else (inp.maxMult : Rat)) ∧
      ∃ z : Int, a (xVar i j) = z) ∧
  (∀ i, i < k → ∀ j, j < inp.numbers.length →
    0 ≤ a (mgsPiVar i j) ∧ a (mgsPiVar i j) ≤ inp.total ∧
      (inp.weightInt = true → ∃ z : Int, a (mgsPiVar i j) = z)) ∧
  ((List.range k).map fun i => a (genVar i)).sum = inp.total

/-- the name `pi_i={i}_j={j}` of the product helper of the pair `(i, j)` -/
def piName (i j : Nat) : String := "pi_i=" ++ toString i ++ "_j=" ++ toString j

/-- the product rows of the pair `(i, j)`: binary × continuous for `max_multiplicity == 1`, integer × continuous
otherwise -/
def mgsProdLP (inp : MGSInput) (i j : Nat) : LP :=
  if inp.maxMult = 1 then
    { rows := binProd (xVar i j) (genVar i) (mgsPiVar i j) 0 inp.total }
  else
    intProdQ (xVar i j) (genVar i) (mgsPiVar i j) 0 inp.total (piName i j)

theorem evalTerms_sumTerms (a : Asg) (l : List Nat) (f : Nat → Var) :
    evalTerms a (sumTerms l f) = (l.map (fun x => a (f x))).sum :=
  evalTerms_ones a l f

/-- the multiplicity the LP can express: the integer helper is called with `ub = total`, so the factor is
capped by its `qBits total` bits -/
def mgsEffMult (inp : MGSInput) : Nat :=
  if inp.maxMult = 1 then 1 else min inp.maxMult (2 ^ qBits inp.total - 1)

theorem mgsEffMult_one (inp : MGSInput) (hm : inp.maxMult = 1) : mgsEffMult inp = 1 := if_pos hm

theorem mgsEffMult_ne_one (inp : MGSInput) (hm : inp.maxMult ≠ 1) :
    mgsEffMult inp = min inp.maxMult (2 ^ qBits inp.total - 1) := if_neg hm

theorem mgsEffMult_le (inp : MGSInput) : mgsEffMult inp ≤ inp.maxMult := by
  unfold mgsEffMult
  split
  · omega
  · exact Nat.min_le_left _ _

theorem mgsEffMult_pos (inp : MGSInput) (hm : 1 ≤ inp.maxMult) (hT : inp.maxMult = 1 ∨ 0 < inp.total) :
    1 ≤ mgsEffMult inp := by
  unfold mgsEffMult
  split
  · omega
  · rename_i h1
    rcases hT with h | h
    · exact absurd h h1
    · rw [qBits_eq]
      exact Nat.le_min.2 ⟨hm, Nat.le_sub_one_of_lt (one_lt_two_pow_klaecBits inp.total h)⟩

/-- the multiset read off an assignment: `g_i = a(gen_set_i)` -/
def mgsGen (a : Asg) (k : Nat) : List Rat := (List.range k).map fun i => a (genVar i)

/-- what either product helper forces: `x_ij` is a multiplicity the LP can express and `pi_ij = x_ij · g_i` -/
theorem mgsProd_sound (inp : MGSInput) (a : Asg) (i j : Nat) (hprod : Sat a (mgsProdLP inp i j))
    (hx : 0 ≤ a (xVar i j) ∧ a (xVar i j) ≤ (if inp.maxMult = 1 then 1 else (inp.maxMult : Rat)) ∧
      ∃ z : Int, a (xVar i j) = z) :
    ∃ c : Nat, c ≤ mgsEffMult inp ∧ a (xVar i j) = c ∧ a (mgsPiVar i j) = (c : Rat) * a (genVar i) := by
  unfold mgsProdLP at hprod
  by_cases hm : inp.maxMult = 1
  · rw [if_pos hm] at hprod hx
    rw [mgsEffMult_one inp hm]
    have h01 := int01 _ hx.1 hx.2.1 hx.2.2
    have hp := binProd_sound _ _ h01 ((sat_rows_only a _).1 hprod)
    rcases h01 with h0 | h1
    · exact ⟨0, Nat.zero_le _, by rw [h0]; rfl, by rw [hp, h0]; rfl⟩
    · exact ⟨1, Nat.le_refl _, by rw [h1]; rfl, by rw [hp, h1]; rfl⟩
  · rw [if_neg hm] at hx hprod
    have hp := intProdQ_prod hprod
    obtain ⟨c, hc, he⟩ := nat_of_int_le _ _ hx.1 hx.2.1 hx.2.2
    have hcap : c < 2 ^ qBits inp.total := by rw [qBits_eq]; exact intProdQ_factor_lt hprod he
    exact ⟨c, mgsEffMult_ne_one inp hm ▸ Nat.le_min.2 ⟨hc, Nat.le_sub_one_of_lt hcap⟩, he, by rw [hp, he]⟩

/-- `t`: the largest number of parts of a constraint -/
def maxParts (cons : List (List Rat)) : Nat := (cons.map List.length).foldl max 0

theorem le_maxParts (cons : List (List Rat)) (con : List Rat) (h : con ∈ cons) : con.length ≤ maxParts cons :=
  (foldl_bound (r := (· ≤ ·)) Nat.le_refl Nat.le_trans Nat.le_max_left Nat.le_max_right _ 0).2 _ (List.mem_map.2 ⟨con, h, rfl⟩)

/-- what `_encode_partition_constraints` says for the constraint list `cons` -/
def MgsPart (inp : MGSInput) (k : Nat) (cons : List (List Rat)) (a : Asg) : Prop :=
  (∀ i, i < k → ∀ j, j < maxParts cons → ∀ c, c < cons.length →
    a (yVar i j c) = 0 ∨ a (yVar i j c) = 1) ∧
  (∀ i, i < k → ∀ j, j < maxParts cons → ∀ c, c < cons.length →
    0 ≤ a (prodYVar i j c) ∧ a (prodYVar i j c) ≤ inp.total ∧
      (inp.weightInt = true → ∃ z : Int, a (prodYVar i j c) = z)) ∧
  (∀ i, i < k → ∀ j, j < maxParts cons → ∀ c, c < cons.length →
    ∀ r ∈ binProd (yVar i j c) (genVar i) (prodYVar i j c) 0 inp.total, r.holds a) ∧
  (∀ i, i < k → ∀ c, c < cons.length →
    ((List.range (maxParts cons)).map fun j => a (yVar i j c)).sum = 1) ∧
  (∀ c (hc : c < cons.length) j, j < (cons[c]).length →
    ((List.range k).map fun i => a (prodYVar i j c)).sum = (cons[c]).getD j 0)

theorem mgsPartition_sat_iff (inp : MGSInput) (k : Nat) (a : Asg) :
    Sat a (mgsPartition inp k) ↔ ∀ cons, inp.partition = some cons → MgsPart inp k cons a := by
  unfold mgsPartition
  split
  · rename_i hp
    exact ⟨fun _ cons hc => (by rw [hp] at hc; cases hc), fun _ => sat_empty _⟩
  · rename_i hp
    refine ⟨fun _ cons hc => ?_, fun _ => sat_empty _⟩
    rw [hp] at hc
    cases hc
    exact ⟨fun _ _ _ _ _ hc => absurd hc (Nat.not_lt_zero _), fun _ _ _ _ _ hc => absurd hc (Nat.not_lt_zero _),
      fun _ _ _ _ _ hc => absurd hc (Nat.not_lt_zero _), fun _ _ _ hc => absurd hc (Nat.not_lt_zero _),
      fun _ hc => absurd hc (Nat.not_lt_zero _)⟩
  · rename_i cons _ hp
    simp only [hp, Option.some.injEq, forall_eq', MgsPart, maxParts, Sat, List.forall_mem_append, List.forall_mem_map,
      List.forall_mem_flatMap, forall_mem_zip_range, List.mem_range, col01_holds_iff]
    simp only [rowEq_holds, evalTerms_sumTerms, col_holds_iff, and_assoc]

theorem mgs_sat_iff (inp : MGSInput) (k : Nat) (a : Asg) :
    Sat a (mgsLP inp k) ↔
      MgsBase inp k a ∧
      (∀ j (hj : j < inp.numbers.length), (∀ i, i < k → Sat a (mgsProdLP inp i j)) ∧
        ((List.range k).map fun i => a (mgsPiVar i j)).sum = inp.numbers[j]) ∧
      (∀ r ∈ mgsSymmetry k, r.holds a) ∧ ∀ cons, inp.partition = some cons → MgsPart inp k cons a := by
  rw [← mgsPartition_sat_iff]
  unfold mgsLP MgsBase
  simp only [sat_append_iff, sat_foldl_append, List.forall_mem_map, forall_mem_zip_range, sat_mk, true_and,
    List.forall_mem_append, List.forall_mem_flatMap, List.mem_range, List.mem_singleton, forall_eq, rowEq_holds,
    evalTerms_sumTerms, col_holds_iff, and_assoc, forall_const, List.not_mem_nil, false_implies]
  -- the block of the pair `(i, j)` is `mgsProdLP inp i j`
  rfl

theorem mgs_sound_effMult (inp : MGSInput) (k : Nat) (a : Asg) (h : Sat a (mgsLP inp k)) :
    IsGenSet (mgsGen a k) inp.total inp.numbers (mgsEffMult inp) ∧
      (inp.weightInt = true → AllInt (mgsGen a k)) := by
  obtain ⟨⟨hg, hx, _, hsum⟩, hnum, _, _⟩ := (mgs_sat_iff inp k a).1 h
  refine ⟨⟨hsum, ?_, ?_⟩, ?_⟩
  · intro x hx
    obtain ⟨i, hi, rfl⟩ := List.mem_map.1 hx
    exact (hg i (List.mem_range.1 hi)).1
  · intro x hxm
    obtain ⟨j, hj, rfl⟩ := List.mem_iff_getElem.1 hxm
    obtain ⟨hprod, hrow⟩ := hnum j hj
    obtain ⟨cf, hcf⟩ := exists_choice (Q := (· < k)) fun i hi =>
      mgsProd_sound inp a i j (hprod i hi) (hx i hi j hj)
    refine ⟨(List.range k).map cf, by simp [mgsGen], ?_, ?_⟩
    · intro ci hci
      obtain ⟨i, hi, rfl⟩ := List.mem_map.1 hci
      exact (hcf i (List.mem_range.1 hi)).1
    · unfold mgsGen
      rw [dot_map, ← hrow]
      exact congrArg List.sum (List.map_congr_left fun i hi => (hcf i (List.mem_range.1 hi)).2.2.symm)
  · intro hw x hx
    obtain ⟨i, hi, rfl⟩ := List.mem_map.1 hx
    exact (hg i (List.mem_range.1 hi)).2.2 hw

theorem mgs_parts_of_sat {inp : MGSInput} {k : Nat} (a : Asg) (h : Sat a (mgsLP inp k))
    {cons : List (List Rat)} (hp : inp.partition = some cons) {con : List Rat} (hcon : con ∈ cons) :
    ∃ assign : List Nat, assign.length = k ∧ (∀ p ∈ assign, p < maxParts cons) ∧
      ∀ j, j < con.length → partSum assign (mgsGen a k) j = con.getD j 0 := by
  obtain ⟨c, hc, rfl⟩ := List.mem_iff_getElem.1 hcon
  obtain ⟨_, _, _, hpart⟩ := (mgs_sat_iff inp k a).1 h
  obtain ⟨hy01, _, hbin, hone, hsum⟩ := hpart cons hp
  have hpy : ∀ i j, i < k → j < maxParts cons →
      a (prodYVar i j c) = a (yVar i j c) * a (genVar i) := fun i j hi hj =>
    binProd_sound _ _ (hy01 i hi j hj c hc) (hbin i hi j hj c hc)
  -- the part of element `i` is the one index `j` with `y_ijc = 1`
  obtain ⟨asn, hasn⟩ := exists_choice (Q := (· < k)) fun i hi =>
    one_hot_range _ (fun j => a (yVar i j c)) (fun j hj => hy01 i hi j hj c hc) (hone i hi c hc)
  refine ⟨(List.range k).map asn, by simp, ?_, ?_⟩
  · intro p hp'
    obtain ⟨i, hi, rfl⟩ := List.mem_map.1 hp'
    exact (hasn i (List.mem_range.1 hi)).1
  · intro j hj
    have hjt : j < maxParts cons :=
      Nat.lt_of_lt_of_le hj (le_maxParts _ _ (List.getElem_mem hc))
    unfold mgsGen
    rw [partSum_map_range, ← hsum c hc j hj]
    refine congrArg List.sum (List.map_congr_left fun i hi => ?_)
    have hi' := List.mem_range.1 hi
    rw [hpy i j hi' hjt]
    by_cases hij : asn i = j
    · rw [if_pos hij, ((hasn i hi').2 j hjt).2 hij.symm, Rat.one_mul]
    · rw [if_neg hij]
      rcases hy01 i hi' j hjt c hc with h0 | h1'
      · rw [h0, Rat.zero_mul]
      · exact absurd (((hasn i hi').2 j hjt).1 h1').symm hij

def pairs (k n : Nat) : List (Nat × Nat) := (List.range k).flatMap fun i => (List.range n).map fun j => (i, j)

theorem mem_pairs (k n i j : Nat) : (i, j) ∈ pairs k n ↔ i < k ∧ j < n := by
  simp only [pairs, List.mem_flatMap, List.mem_map, List.mem_range, Prod.mk.injEq]
  constructor
  · rintro ⟨i', hi, j', hj, rfl, rfl⟩; exact ⟨hi, hj⟩
  · rintro ⟨hi, hj⟩; exact ⟨i, hi, j, hj, rfl, rfl⟩

theorem piName_inj (i j i' j' : Nat) (h : piName i j = piName i' j') : i = i' ∧ j = j' := by
  have := congrArg String.toList h
  simp only [piName, String.toList_append, Nat.toString_eq_repr, Nat.toList_repr, List.append_assoc] at this
  have h1 := List.append_cancel_left this
  have hs : "_j=".toList = '_' :: ['j', '='] := rfl
  rw [hs] at h1
  simp only [List.cons_append, List.nil_append] at h1
  obtain ⟨e1, e2⟩ := split_at_first '_' _ _ _ _ Nat.underscore_not_in_toDigits Nat.underscore_not_in_toDigits h1
  simp only [List.cons.injEq, true_and] at e2
  exact ⟨toDigits_inj e1, toDigits_inj e2⟩

/-- the names of the product helpers of distinct pairs differ -/
def NamesOK (k n : Nat) : Prop :=
  ∀ q ∈ pairs k n, ∀ q' ∈ pairs k n, piName q.1 q.2 = piName q'.1 q'.2 → q = q'

instance (k n : Nat) : Decidable (NamesOK k n) := by unfold NamesOK; infer_instance

/-- the assignment for completeness on the columns the encoder declares itself: `g i` are the elements, `c i j` the
multiplicity of element `i` in number `j`, `asn cc i` the part of constraint `cc` that element `i` goes to -/
def mgsBaseAsg (g : Nat → Rat) (c : Nat → Nat → Nat) (asn : Nat → Nat → Nat) : Asg := fun v =>
  match v with
  | .ix p b => if p = "gen_set" then g b else 0
  | .ij p i j => if p = "x" then (c i j : Rat) else if p = "pi" then (c i j : Rat) * g i else 0
  | .ijk p i j cc =>
    if p = "y" then (if asn cc i = j then 1 else 0)
    else if p = "product_y" then (if asn cc i = j then g i else 0) else 0
  | _ => 0

/-- for `max_multiplicity > 1` the helper's auxiliary columns of the pair `(i, j)`, named after `piName i j`, carry the
digits of `c i j` (`klaecProdAsg`; these names are pairwise distinct, `piName_inj`) -/
def mgsAsg (k n : Nat) (g : Nat → Rat) (c : Nat → Nat → Nat) (asn : Nat → Nat → Nat) : Asg :=
  klaecProdAsg (pairs k n) (fun q => piName q.1 q.2) (fun q => c q.1 q.2) (fun q => g q.1) (mgsBaseAsg g c asn)

section values
variable (k n : Nat) (g : Nat → Rat) (c : Nat → Nat → Nat) (asn : Nat → Nat → Nat)

@[simp] theorem asg_gen (i : Nat) : mgsAsg k n g c asn (genVar i) = g i :=
  klaecProdAsg_ix_other _ _ _ _ _ "gen_set" i
    (fun s h => by simpa [String.toList_append] using congrArg String.toList h)
    (fun s h => by simpa [String.toList_append] using congrArg String.toList h)
@[simp] theorem asg_x (i j : Nat) : mgsAsg k n g c asn (xVar i j) = (c i j : Rat) := by
  simp [mgsAsg, klaecProdAsg, mgsBaseAsg, xVar]
@[simp] theorem asg_pi (i j : Nat) : mgsAsg k n g c asn (mgsPiVar i j) = (c i j : Rat) * g i := by
  simp [mgsAsg, klaecProdAsg, mgsBaseAsg, mgsPiVar]
@[simp] theorem asg_y (i j cc : Nat) : mgsAsg k n g c asn (yVar i j cc) = if asn cc i = j then 1 else 0 := by
  simp [mgsAsg, klaecProdAsg, mgsBaseAsg, yVar]
@[simp] theorem asg_py (i j cc : Nat) :
    mgsAsg k n g c asn (prodYVar i j cc) = if asn cc i = j then g i else 0 := by
  simp [mgsAsg, klaecProdAsg, mgsBaseAsg, prodYVar]

theorem namesOK : NamesOK k n :=
  fun _ _ _ _ h => have ⟨e1, e2⟩ := piName_inj _ _ _ _ h; Prod.ext e1 e2

theorem asg_bit (i j b : Nat) (hi : i < k) (hj : j < n) :
    mgsAsg k n g c asn (bitVar (piName i j) b) = FP.bitOf (c i j) b :=
  klaecProdAsg_bit _ _ _ _ _ (namesOK k n) (i, j) ((mem_pairs k n i j).2 ⟨hi, hj⟩) b

theorem asg_comp (i j b : Nat) (hi : i < k) (hj : j < n) :
    mgsAsg k n g c asn (compVar (piName i j) b) = FP.bitOf (c i j) b * g i :=
  klaecProdAsg_comp _ _ _ _ _ (namesOK k n) (i, j) ((mem_pairs k n i j).2 ⟨hi, hj⟩) b

end values

section sat
variable (inp : MGSInput) (k : Nat) (g : Nat → Rat) (c : Nat → Nat → Nat) (asn : Nat → Nat → Nat)

theorem mgsAsg_sat_base
    (hg0 : ∀ i, i < k → 0 ≤ g i ∧ g i ≤ inp.total)
    (hgint : inp.weightInt = true → ∀ i, i < k → ∃ z : Int, g i = z)
    (hsum : ((List.range k).map g).sum = inp.total)
    (hc : ∀ i, i < k → ∀ j, j < inp.numbers.length → c i j ≤ mgsEffMult inp)
    (hpi : ∀ i, i < k → ∀ j, j < inp.numbers.length → (c i j : Rat) * g i ≤ inp.total) :
    MgsBase inp k (mgsAsg k inp.numbers.length g c asn) := by
  simp only [MgsBase, asg_gen, asg_x, asg_pi]
  refine ⟨fun i hi => ⟨(hg0 i hi).1, (hg0 i hi).2, fun hw => hgint hw i hi⟩,
    fun i hi j hj => ⟨Rat.natCast_nonneg, ?_, natCast_isInt _⟩,
    fun i hi j hj => ⟨Rat.mul_nonneg Rat.natCast_nonneg (hg0 i hi).1, hpi i hi j hj, fun hw => ?_⟩, hsum⟩
  · refine Rat.le_trans (Rat.natCast_le_natCast.2 (hc i hi j hj)) ?_
    split
    · rename_i hm; rw [mgsEffMult_one inp hm]; exact Rat.le_refl
    · exact Rat.natCast_le_natCast.2 (mgsEffMult_le inp)
  · obtain ⟨z, hz⟩ := hgint hw i hi
    exact ⟨(c i j : Int) * z, by rw [hz, Rat.intCast_mul, Rat.intCast_natCast]⟩

theorem mgsAsg_sat_prod (i j : Nat) (hi : i < k) (hj : j < inp.numbers.length)
    (hg0 : 0 ≤ g i ∧ g i ≤ inp.total) (hc : c i j ≤ mgsEffMult inp) :
    Sat (mgsAsg k inp.numbers.length g c asn) (mgsProdLP inp i j) := by
  unfold mgsProdLP
  by_cases hm : inp.maxMult = 1
  · rw [if_pos hm, sat_rows_only]
    rw [mgsEffMult_one inp hm] at hc
    have h01 := Nat.le_one_iff_eq_zero_or_eq_one.1 hc
    refine (binProd_exact _ _ _ _ 0 inp.total ?_ (by rw [asg_gen]; exact hg0)).2
      (by rw [asg_pi, asg_x, asg_gen])
    rw [asg_x]
    rcases h01 with h | h <;> rw [h] <;> simp
  · rw [if_neg hm]
    rw [mgsEffMult_ne_one inp hm, qBits_eq] at hc
    have hlt : c i j < 2 ^ klaecBitsOf inp.total :=
      Nat.lt_of_le_of_lt (Nat.le_trans hc (Nat.min_le_right _ _)) (Nat.sub_one_lt (Nat.ne_of_gt (Nat.two_pow_pos _)))
    exact intProdQ_sat_of_bits _ _ _ _ inp.total (piName i j) (c i j) (asg_x ..) hlt
      (by rw [asg_gen]; exact hg0) (by rw [asg_pi, asg_x, asg_gen])
      (fun b => asg_bit _ _ g c asn i j b hi hj)
      (fun b => by rw [asg_gen]; exact asg_comp _ _ g c asn i j b hi hj)

theorem mgsAsg_sat_symm (n : Nat) (hsym : ∀ i, i + 2 < k → g i ≤ g (i + 1)) :
    ∀ r ∈ mgsSymmetry k, r.holds (mgsAsg k n g c asn) := by
  simp only [mgsSymmetry, List.forall_mem_map, List.mem_range, rowLe_pair_holds, asg_gen, Rat.one_mul]
  exact fun i hi => hsym i (by omega)

theorem mgsAsg_sat_part (cons : List (List Rat))
    (hg0 : ∀ i, i < k → 0 ≤ g i ∧ g i ≤ inp.total)
    (hgint : inp.weightInt = true → ∀ i, i < k → ∃ z : Int, g i = z)
    (hasn : ∀ cc (hc : cc < cons.length) i, i < k → asn cc i < (cons[cc]).length)
    (hparts : ∀ cc (hc : cc < cons.length) j, j < (cons[cc]).length →
      ((List.range k).map fun i => if asn cc i = j then g i else 0).sum = (cons[cc]).getD j 0) :
    MgsPart inp k cons (mgsAsg k inp.numbers.length g c asn) := by
  simp only [MgsPart, asg_y, asg_py]
  have hy01 : ∀ i j cc, (if asn cc i = j then (1 : Rat) else 0) = 0 ∨
      (if asn cc i = j then (1 : Rat) else 0) = 1 := fun i j cc => by
    by_cases h : asn cc i = j
    · exact Or.inr (if_pos h)
    · exact Or.inl (if_neg h)
  refine ⟨fun i _ j _ cc _ => hy01 i j cc, fun i hi j _ cc _ => ?_, fun i hi j _ cc _ => ?_,
    fun i hi cc hc => ?_, hparts⟩
  · by_cases h : asn cc i = j
    · simp only [if_pos h]
      exact ⟨(hg0 i hi).1, (hg0 i hi).2, fun hw => hgint hw i hi⟩
    · simp only [if_neg h]
      exact ⟨Rat.le_refl, Rat.le_trans (hg0 i hi).1 (hg0 i hi).2, fun _ => ⟨0, rfl⟩⟩
  · refine (binProd_exact _ _ _ _ 0 inp.total ?_ (by rw [asg_gen]; exact hg0 i hi)).2 ?_
    · rw [asg_y]; exact hy01 i j cc
    · rw [asg_py, asg_y, asg_gen]
      by_cases h : asn cc i = j
      · rw [if_pos h, if_pos h, Rat.one_mul]
      · rw [if_neg h, if_neg h, Rat.zero_mul]
  · rw [sum_ite_eq_range, if_pos (Nat.lt_of_lt_of_le (hasn cc hc i hi) (le_maxParts cons _ (List.getElem_mem hc)))]

end sat

/-- a solution of the generating-set problem of an input, for the multiplicity the LP expresses -/
def MgsSolution (inp : MGSInput) (g : List Rat) : Prop :=
  IsGenSet g inp.total inp.numbers (mgsEffMult inp) ∧ (inp.weightInt = true → AllInt g) ∧
    ∀ cons, inp.partition = some cons → ∀ con ∈ cons, RespectsPartition g con

def SolvableAt (inp : MGSInput) (k : Nat) : Prop := ∃ g : List Rat, g.length = k ∧ MgsSolution inp g

/-- `hle`: the columns `pi` are bounded by `total`; a product `c i j · g i` stays below it if the multiplicity is one or
no number exceeds `total` -/
theorem mgs_complete (inp : MGSInput) (gs : List Rat) (hg : MgsSolution inp gs)
    (hsym : ∀ i, i + 2 < gs.length → gs.getD i 0 ≤ gs.getD (i+1) 0)
    (hle : inp.maxMult = 1 ∨ ∀ x ∈ inp.numbers, x ≤ inp.total) :
    ∃ a : Asg, Sat a (mgsLP inp gs.length) ∧ mgsGen a gs.length = gs := by
  obtain ⟨⟨hsum, hnn, hgen⟩, hint, hpart⟩ := hg
  -- the coefficient list of number `j`
  obtain ⟨cf, hcf⟩ := exists_choice (Q := (· < inp.numbers.length)) fun j hj =>
    hgen _ (getD_mem 0 hj)
  let g : Nat → Rat := fun i => gs.getD i 0
  let c : Nat → Nat → Nat := fun i j => (cf j).getD i 0
  have hg0 : ∀ i, i < gs.length → 0 ≤ g i ∧ g i ≤ inp.total := fun i hi =>
    have hm := getD_mem 0 hi
    ⟨hnn _ hm, by rw [← hsum, ← List.map_id gs]; exact le_sum_of_mem id hnn hm⟩
  have hgint : inp.weightInt = true → ∀ i, i < gs.length → ∃ z : Int, g i = z :=
    fun hw i hi => hint hw _ (getD_mem 0 hi)
  have hgsum : ((List.range gs.length).map g).sum = inp.total := by rw [range_map_getD, hsum]
  have hc_le : ∀ i, i < gs.length → ∀ j, j < inp.numbers.length → c i j ≤ mgsEffMult inp := fun i hi j hj =>
    (hcf j hj).2.1 _ (getD_mem 0 (by rw [(hcf j hj).1]; exact hi))
  have hdot : ∀ j (hj : j < inp.numbers.length),
      ((List.range gs.length).map fun i => (c i j : Rat) * g i).sum = inp.numbers[j] := by
    intro j hj
    rw [← dot_eq_sum_getD _ _ (hcf j hj).1, (hcf j hj).2.2, ← List.getElem_eq_getD]
  have hpi : ∀ i, i < gs.length → ∀ j, j < inp.numbers.length → (c i j : Rat) * g i ≤ inp.total := by
    intro i hi j hj
    rcases hle with hm | hle
    · -- multiplicity one: `c i j · g i` is `0` or `g i`
      have h1 := hc_le i hi j hj
      rw [mgsEffMult_one inp hm] at h1
      rcases Nat.le_one_iff_eq_zero_or_eq_one.1 h1 with h | h
      · simpa [h] using Rat.le_trans (hg0 i hi).1 (hg0 i hi).2
      · simpa [h] using (hg0 i hi).2
    · -- a term of the sum that makes up `numbers[j]`
      refine Rat.le_trans ?_ (hle _ (List.getElem_mem hj))
      rw [← hdot j hj]
      exact le_sum_of_mem (fun i => (c i j : Rat) * g i)
        (fun i hi => Rat.mul_nonneg Rat.natCast_nonneg (hg0 i (List.mem_range.1 hi)).1) (List.mem_range.2 hi)
  -- with the part assignments `asn` chosen below, this is the assignment
  suffices h : ∃ asn, ∀ cons, inp.partition = some cons →
      MgsPart inp gs.length cons (mgsAsg gs.length inp.numbers.length g c asn) by
    obtain ⟨asn, hP⟩ := h
    refine ⟨mgsAsg gs.length inp.numbers.length g c asn, (mgs_sat_iff _ _ _).2 ⟨?_, ?_, ?_, hP⟩, ?_⟩
    · exact mgsAsg_sat_base inp _ g c asn hg0 hgint hgsum hc_le hpi
    · intro j hj
      simp only [asg_pi]
      exact ⟨fun i hi => mgsAsg_sat_prod inp _ g c asn i j hi hj (hg0 i hi) (hc_le i hi j hj), hdot j hj⟩
    · exact mgsAsg_sat_symm _ g c asn _ hsym
    · simp only [mgsGen, asg_gen]
      exact range_map_getD gs 0
  cases hp : inp.partition with
  | none => exact ⟨fun _ _ => 0, fun _ hc => nomatch hc⟩
  | some cons =>
    obtain ⟨af, haf⟩ := exists_choice (Q := (· < cons.length)) fun cc hc =>
      hpart _ hp _ (getD_mem [] hc)
    refine ⟨fun cc i => (af cc).getD i 0, fun cons' hc' => ?_⟩
    cases hc'
    have hcc : ∀ cc (hc : cc < cons.length), cons.getD cc [] = cons[cc] :=
      fun cc hc => (List.getElem_eq_getD []).symm
    refine mgsAsg_sat_part inp _ g c _ _ hg0 hgint (fun cc hc i hi => ?_) (fun cc hc j hj => ?_)
    · obtain ⟨h1, h2, _⟩ := haf cc hc
      rw [hcc cc hc] at h2
      exact h2 _ (getD_mem 0 (by omega))
    · obtain ⟨h1, _, h3⟩ := haf cc hc
      rw [hcc cc hc] at h3
      rw [← h3 j hj, partSum_eq_sum_getD _ _ h1]

theorem sortRat_perm (l : List Rat) : (sortRat l).Perm l := List.mergeSort_perm l _

theorem sortRat_pairwise (l : List Rat) : (sortRat l).Pairwise (· ≤ ·) :=
  (List.pairwise_mergeSort
    (fun a b c h1 h2 => by
      simp only [decide_eq_true_eq] at h1 h2 ⊢
      exact Rat.le_trans h1 h2)
    (fun a b => by
      simp only [Bool.or_eq_true, decide_eq_true_eq]
      exact Rat.le_total) l).imp fun h => of_decide_eq_true h

theorem sortRat_sorted (l : List Rat) (i : Nat) (hi : i + 1 < (sortRat l).length) :
    (sortRat l).getD i 0 ≤ (sortRat l).getD (i+1) 0 := by
  have := List.pairwise_iff_getElem.1 (sortRat_pairwise l) i (i+1) (by omega) hi (by omega)
  rw [List.getD_eq_getElem?_getD, List.getD_eq_getElem?_getD, List.getElem?_eq_getElem (by omega),
    List.getElem?_eq_getElem hi]
  exact this

/-- the symmetry-breaking rows lose no multiset -/
theorem mgs_complete_sorted (inp : MGSInput) (gs : List Rat) (hg : MgsSolution inp gs)
    (hle : inp.maxMult = 1 ∨ ∀ x ∈ inp.numbers, x ≤ inp.total) :
    ∃ a : Asg, Sat a (mgsLP inp gs.length) ∧ mgsGen a gs.length = sortRat gs := by
  have hp := sortRat_perm gs
  have hlen : (sortRat gs).length = gs.length := hp.length_eq
  obtain ⟨a, h1, h2⟩ := mgs_complete inp (sortRat gs)
    ⟨isGenSet_perm hp.symm _ _ _ hg.1, fun hw x hx => hg.2.1 hw x (hp.mem_iff.1 hx),
      fun cons hc con hcon => respectsPartition_perm hp.symm con (hg.2.2 cons hc con hcon)⟩
    (fun i hi => sortRat_sorted gs i (by omega)) hle
  rw [hlen] at h1 h2
  exact ⟨a, h1, h2⟩

/-- the values the constructor collects in `elements_to_remove` -/
def mgsToRemove (numbers : List Rat) (total : Rat) (mult : Nat) : List Rat :=
  numbers.flatMap fun v =>
    (if decide (mult = 1) && numbers.contains (total - v) && decide (total - v > v) then [total - v] else [])
    ++ (if v == total || v == 0 then [v] else [])

theorem mgsPreprocess_true (numbers : List Rat) (total : Rat) (mult : Nat) :
    mgsPreprocess numbers total true mult
      = numbers.eraseDups.filter fun v => !(mgsToRemove numbers total mult).contains v := rfl

theorem mem_toRemove (numbers : List Rat) (total a : Rat) (mult : Nat)
    (h : a ∈ mgsToRemove numbers total mult) :
    (mult = 1 ∧ ∃ v ∈ numbers, a = total - v ∧ v < a) ∨ a = total ∨ a = 0 := by
  obtain ⟨v, hv, hm⟩ := List.mem_flatMap.1 h
  rcases List.mem_append.1 hm with h1 | h2
  · split at h1
    · rename_i hc
      simp only [Bool.and_eq_true, decide_eq_true_eq] at hc
      rw [List.mem_singleton.1 h1]
      exact Or.inl ⟨hc.1.1, v, hv, rfl, hc.2⟩
    · simp at h1
  · split at h2
    · rename_i hc
      simp only [Bool.or_eq_true, beq_iff_eq] at hc
      rw [List.mem_singleton.1 h2]
      rcases hc with h | h
      · exact Or.inr (Or.inl h)
      · exact Or.inr (Or.inr h)
    · simp at h2

theorem mem_preprocess (numbers : List Rat) (total a : Rat) (mult : Nat) :
    a ∈ mgsPreprocess numbers total true mult ↔ a ∈ numbers ∧ a ∉ mgsToRemove numbers total mult := by
  rw [mgsPreprocess_true, List.mem_filter, List.mem_eraseDups]
  simp

theorem preprocess_generates_iff (numbers : List Rat) (total : Rat) (rc : Bool) (mult : Nat) (hm : 1 ≤ mult)
    (g : List Rat) (hs : g.sum = total) :
    (∀ a ∈ mgsPreprocess numbers total rc mult, Generates g mult a) ↔ (∀ a ∈ numbers, Generates g mult a) := by
  cases rc with
  | false => simp [mgsPreprocess]
  | true =>
    constructor
    · intro h
      have htriv : ∀ v, v = total ∨ v = 0 → Generates g mult v := by
        rintro v (rfl | rfl)
        · exact hs ▸ generates_sum g mult hm
        · exact generates_zero g mult
      have hkept : ∀ v ∈ numbers, v ∉ mgsToRemove numbers total mult → Generates g mult v :=
        fun v hv hr => h v ((mem_preprocess numbers total v mult).2 ⟨hv, hr⟩)
      intro a ha
      by_cases hr : a ∈ mgsToRemove numbers total mult
      · rcases mem_toRemove numbers total a mult hr with ⟨h1m, v, hv, rfl, hlt⟩ | h1
        · -- multiplicity 1, a = total - v with v < a: v itself is kept or trivial
          subst h1m
          have hgv : Generates g 1 v := by
            by_cases hrv : v ∈ mgsToRemove numbers total 1
            · rcases mem_toRemove numbers total v 1 hrv with ⟨_, u, _, hvu, hult⟩ | h1
              · exfalso; grind
              · exact htriv v h1
            · exact hkept v hv hrv
          rw [← hs]
          exact generates_complement g v hgv
        · exact htriv a h1
      · exact hkept a ha hr
    · intro h a ha
      exact h a ((mem_preprocess numbers total a mult).1 ha).1

end FP.GS
