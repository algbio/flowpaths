import FP.Proofs.PathCore
/-!
Subpath constraints of the DAG models (rows 7a / 7b). `sat_subpathBlock_iff` says what the constraint block asks of an assignment. Soundness reads it on
the layer that row 7b makes responsible for a constraint; completeness sets the `r` variables
(`withR`) and uses that the other blocks constrain edge, position and length columns only (`sat_encodePaths_iff`).
With coverage counted in edges the block also holds for `r` columns already in the assignment, as soon as `r(i,j) = 1` only where
layer `i` reaches the requested fraction of constraint `j` (`subpathBlock_complete`); at coverage 1 every constraint then lies on a
route of the family (`route_contains`).
-/
namespace FP
open FP.Spec

theorem c10_row7a (c : PathCfg) (a : Asg) (i j : Nat) (con : List Edge) :
    (match c.coverageLength with
      | none =>
        rowGe (ones con (fun e => edgeVar e i) ++ [(-((con.length : Rat) * c.coverage), rVar i j)]) 0
      | some cl =>
        rowGe (con.map (fun e => (c.len e, edgeVar e i))
          ++ [(-((con.map c.len).sum * cl), rVar i j)]) 0).holds a ↔
    match c.coverageLength with
      | none => (con.length : Rat) * c.coverage * a (rVar i j) ≤ (con.map fun e => a (edgeVar e i)).sum
      | some cl =>
        (con.map c.len).sum * cl * a (rVar i j) ≤ (con.map fun e => c.len e * a (edgeVar e i)).sum := by
  -- both variants are a row `Σ ts − N·r ≥ 0`
  have hrow : ∀ (ts : Terms) (N : Rat) (v : Var),
      (rowGe (ts ++ [(-N, v)]) 0).holds a ↔ N * a v ≤ evalTerms a ts := fun ts N v => by
    rw [rowGe_holds, evalTerms_append, evalTerms_single, Rat.neg_mul, ← Rat.sub_eq_add_neg]
    exact (Rat.le_iff_sub_nonneg _ _).symm
  cases c.coverageLength <;> simp only [hrow, evalTerms_ones, evalTerms_map]

theorem sat_subpathBlock_iff (c : PathCfg) (a : Asg) :
    Sat a (subpathBlock c) ↔
      (∀ i, i < c.k → ∀ j, j < c.constraints.length → a (rVar i j) = 0 ∨ a (rVar i j) = 1) ∧
      (∀ i, i < c.k → ∀ j (hj : j < c.constraints.length),
        match c.coverageLength with
        | none => (c.constraints[j].length : Rat) * c.coverage * a (rVar i j)
            ≤ (c.constraints[j].map fun e => a (edgeVar e i)).sum
        | some cl => (c.constraints[j].map c.len).sum * cl * a (rVar i j)
            ≤ (c.constraints[j].map fun e => c.len e * a (edgeVar e i)).sum) ∧
      (∀ j, j < c.constraints.length → 1 ≤ ((List.range c.k).map fun i => a (rVar i j)).sum) := by
  unfold subpathBlock
  by_cases hne : c.constraints.isEmpty = true
  · have h0 : c.constraints.length = 0 := by rw [List.isEmpty_iff.1 hne]; rfl
    have hno : ∀ j, ¬ j < c.constraints.length := fun j hj => Nat.not_lt_zero j (h0 ▸ hj)
    rw [if_pos hne]
    exact ⟨fun _ => ⟨fun _ _ j hj => absurd hj (hno j), fun _ _ j hj => absurd hj (hno j),
      fun j hj => absurd hj (hno j)⟩, fun _ => sat_empty a⟩
  rw [if_neg hne]
  simp only [Sat, List.forall_mem_append, List.forall_mem_flatMap, List.forall_mem_map, List.mem_range,
    col01_holds_iff, rowGe_holds, evalTerms_ones]
  -- what remains: the rows 7a are indexed by the pairs of `zip`, the statement by `j`
  refine and_congr_right fun _ => and_congr_left fun _ => forall₂_congr fun i _ => ?_
  rw [forall_mem_zip_range]
  exact forall₂_congr fun j _ => c10_row7a c a i j _

-- the sums of row 7a, by count and by length, when the edge variables are the indicator of an edge set `S`
theorem c10_count_of_indicator (con S : List Edge) (x : Edge → Rat)
    (hx : ∀ e ∈ con, x e = if e ∈ S then 1 else 0) :
    (con.map x).sum = ((con.countP fun e => decide (e ∈ S) : Nat) : Rat) := by
  rw [← sum_ind_eq_countP]
  refine congrArg List.sum (List.map_congr_left fun e he => ?_)
  rw [hx e he]
  simp only [decide_eq_true_eq]

theorem c10_length_of_indicator (con S : List Edge) (w x : Edge → Rat)
    (hx : ∀ e ∈ con, x e = if e ∈ S then 1 else 0) :
    (con.map fun e => w e * x e).sum = (con.map fun e => if e ∈ S then w e else 0).sum := by
  refine congrArg List.sum (List.map_congr_left fun e he => ?_)
  rw [hx e he]
  split
  · exact Rat.mul_one _
  · exact Rat.mul_zero _

/-- rows 7a/7b read at the layer that 7b makes responsible for constraint `j` -/
theorem subpathBlock_responsible (c : PathCfg) (a : Asg) (hsat : Sat a (subpathBlock c)) (j : Nat)
    (hj : j < c.constraints.length) :
    ∃ i, i < c.k ∧ a (rVar i j) = 1 ∧
      match c.coverageLength with
      | none => (c.constraints[j].length : Rat) * c.coverage
          ≤ (c.constraints[j].map fun e => a (edgeVar e i)).sum
      | some cl => (c.constraints[j].map c.len).sum * cl
          ≤ (c.constraints[j].map fun e => c.len e * a (edgeVar e i)).sum := by
  obtain ⟨hbin, h7a, h7b⟩ := (sat_subpathBlock_iff c a).1 hsat
  obtain ⟨i, hi, hr⟩ := exists_responsible a c.k j (fun i hi => hbin i hi j hj) (h7b j hj)
  have hrow := h7a i hi j hj
  rw [hr] at hrow
  simp only [Rat.mul_one] at hrow
  exact ⟨i, hi, hr, hrow⟩

/-- the edge set `S` contains the requested fraction of the constraint `con` (the two coverage modes of rows 7a) -/
def CovOK (c : PathCfg) (S con : List Edge) : Prop :=
  match c.coverageLength with
  | none => (con.length : Rat) * c.coverage ≤ ((con.countP (fun e => decide (e ∈ S)) : Nat) : Rat)
  | some cl => (con.map c.len).sum * cl ≤ (con.map fun e => if e ∈ S then c.len e else 0).sum

theorem c10_responsible_layer (s : STGraph) (c : PathCfg) (a : Asg) (hwf : STWF s)
    (hsat : Sat a (encodePaths s c)) (j : Nat) (hj : j < c.constraints.length)
    (hedges : ∀ e ∈ c.constraints[j], e ∈ s.g.edges) :
    ∃ i, i < c.k ∧ a (rVar i j) = 1 ∧
      ∃ p, decodeLayer s (fun e i => a (edgeVar e i)) i = some p ∧ Route s c.allowEmpty p ∧
        CovOK c (walkEdges (s.source :: p ++ [s.sink])) c.constraints[j] := by
  obtain ⟨i, hi, hr, hrow⟩ := subpathBlock_responsible c a ((sat_encodePaths_iff s c a).1 hsat).2.1 j hj
  obtain ⟨p, hp, hroute, hx⟩ :=
    layer_sound (X := fun e i => a (edgeVar e i)) hwf (layerFacts_of_sat hsat hi)
  have hind : ∀ e ∈ c.constraints[j],
      a (edgeVar e i) = if e ∈ walkEdges (s.source :: p ++ [s.sink]) then 1 else 0 :=
    fun e he => (hx e (hedges e he)).trans (trav_of_route hwf hroute e)
  refine ⟨i, hi, hr, p, hp, hroute, ?_⟩
  unfold CovOK
  cases hcl : c.coverageLength with
  | none =>
    simp only [hcl] at hrow ⊢
    rwa [c10_count_of_indicator _ _ _ hind] at hrow
  | some cl =>
    simp only [hcl] at hrow ⊢
    rwa [c10_length_of_indicator _ _ _ _ hind] at hrow

theorem constraint_honoured (s : STGraph) (c : PathCfg) (a : Asg) (hwf : STWF s)
    (hsat : Sat a (encodePaths s c)) (hcl : c.coverageLength = none)
    (j : Nat) (hj : j < c.constraints.length) (hedges : ∀ e ∈ c.constraints[j], e ∈ s.g.edges) :
    ∃ i, i < c.k ∧ a (rVar i j) = 1 ∧
      ∃ p, decodeLayer s (fun e i => a (edgeVar e i)) i = some p ∧
        (c.constraints[j].length : Rat) * c.coverage ≤
          ((c.constraints[j].countP
            (fun e => decide (e ∈ walkEdges (s.source :: p ++ [s.sink]))) : Nat) : Rat) := by
  obtain ⟨i, hi, hr, p, hp, _, hcov⟩ := c10_responsible_layer s c a hwf hsat j hj hedges
  simp only [CovOK, hcl] at hcov
  exact ⟨i, hi, hr, p, hp, hcov⟩

theorem constraint_honoured_length (s : STGraph) (c : PathCfg) (a : Asg) (hwf : STWF s)
    (hsat : Sat a (encodePaths s c)) (cl : Rat) (hcl : c.coverageLength = some cl)
    (j : Nat) (hj : j < c.constraints.length) (hedges : ∀ e ∈ c.constraints[j], e ∈ s.g.edges) :
    ∃ i, i < c.k ∧ a (rVar i j) = 1 ∧
      ∃ p, decodeLayer s (fun e i => a (edgeVar e i)) i = some p ∧
        (c.constraints[j].map c.len).sum * cl ≤
          (c.constraints[j].map fun e =>
            if e ∈ walkEdges (s.source :: p ++ [s.sink]) then c.len e else 0).sum := by
  obtain ⟨i, hi, hr, p, hp, _, hcov⟩ := c10_responsible_layer s c a hwf hsat j hj hedges
  simp only [CovOK, hcl] at hcov
  exact ⟨i, hi, hr, p, hp, hcov⟩

theorem constraint_honoured_route (base : Graph) (starts ends : List Node) (c : PathCfg) (a : Asg)
    (h : BaseWF base) (hac : Acyclic base)
    (hsat : Sat a (encodePaths (augment base starts ends) c)) (hcl : c.coverageLength = none)
    (hcov : 0 < c.coverage)
    (j : Nat) (hj : j < c.constraints.length) (hne : c.constraints[j] ≠ [])
    (hedges : ∀ e ∈ c.constraints[j], e ∈ base.edges) :
    ∃ i, i < c.k ∧ ∃ p, decodeLayer (augment base starts ends) (fun e i => a (edgeVar e i)) i = some p ∧
      ValidRoute base starts ends p ∧
      (c.constraints[j].length : Rat) * c.coverage ≤
        ((c.constraints[j].countP (fun e => decide (e ∈ walkEdges p)) : Nat) : Rat) := by
  have hwf := h.stwf (st := starts) (en := ends) hac
  obtain ⟨i, hi, _, p', hp, hroute, hcount⟩ := c10_responsible_layer _ c a hwf hsat j hj
    fun e he => (aug_mem_edges' h).2 (Or.inl (hedges e he))
  simp only [CovOK, hcl] at hcount
  -- membership in the extended walk and in the route coincide for edges of the user's graph
  have hcnt : c.constraints[j].countP (fun e => decide (e ∈ walkEdges (srcName :: p' ++ [snkName])))
      = c.constraints[j].countP (fun e => decide (e ∈ walkEdges p')) :=
    List.countP_congr fun e he => by
      have hb := h.closed e (hedges e he)
      rw [decide_eq_true_eq, decide_eq_true_eq]
      exact we_mem_strip _ (fun hh => h.freshSrc (hh ▸ hb.1))
        (fun hh => h.freshSnk (hh ▸ hb.2))
  replace hcount : _ ≤ ((c.constraints[j].countP
      (fun e => decide (e ∈ walkEdges (srcName :: p' ++ [snkName]))) : Nat) : Rat) := hcount
  rw [hcnt] at hcount
  refine ⟨i, hi, p', hp, (validRoute_of_route h hroute fun hp0 => ?_).1, hcount⟩
  -- an empty route contains no edge of the (non-empty) constraint
  subst hp0
  have hpos := Rat.mul_pos (show (0 : Rat) < (c.constraints[j].length : Rat) by
    exact_mod_cast List.length_pos_iff.2 hne) hcov
  rw [List.countP_eq_zero.2 fun e _ => by simp [walkEdges]] at hcount
  exact absurd hcount (Rat.not_le.2 hpos)

/-- overwrite the `r` variables: layer `resp j` is declared responsible for constraint `j` -/
def withR (a : Asg) (resp : Nat → Nat) : Asg := fun v =>
  match v with
  | .ij pfx i j => if pfx = "r" then (if i = resp j then 1 else 0) else a v
  | _ => a v

/-- the `r(i,j)` columns of the constraint block -/
def Var.isR : Var → Bool
  | .ij pfx _ _ => pfx = "r"
  | _ => false

theorem withR_r (a : Asg) (resp : Nat → Nat) (i j : Nat) :
    withR a resp (rVar i j) = if resp j = i then 1 else 0 := by simp [withR, rVar, eq_comm]

theorem withR_other (a : Asg) (resp : Nat → Nat) (v : Var) (h : v.isR = false) :
    withR a resp v = a v := by
  unfold withR
  cases v <;> simp_all [Var.isR]

theorem c10_terms_map_noR {α} (l : List α) (w : α → Rat) (f : α → Var) (h : ∀ x, (f x).isR = false) :
    ∀ t ∈ l.map (fun x => (w x, f x)), t.2.isR = false := by
  intro t ht
  obtain ⟨x, _, rfl⟩ := List.mem_map.1 ht
  exact h x

theorem withR_edge (a : Asg) (resp : Nat → Nat) (e : Edge) (i : Nat) :
    withR a resp (edgeVar e i) = a (edgeVar e i) := rfl

theorem c10_sum_map_nonneg' {α} (l : List α) (f : α → Rat) (h : ∀ e ∈ l, 0 ≤ f e) : 0 ≤ (l.map f).sum :=
  sum_map_nonneg h

/-- row 7a with `r = [resp = i]`: nothing is asked of a layer that is not responsible -/
theorem c10_need_le (N S : Rat) (r i : Nat) (hS : 0 ≤ S) (h : r = i → N ≤ S) :
    N * (if r = i then 1 else 0) ≤ S := by
  split
  · rw [Rat.mul_one]; exact h ‹_›
  · rw [Rat.mul_zero]; exact hS

def PathCfg.noConstraints (c : PathCfg) : PathCfg := { c with constraints := [] }

theorem constraint_complete (s : STGraph) (c : PathCfg) (a : Asg) (P : Nat → List Edge)
    (resp : Nat → Nat) (hsat : Sat a (encodePaths s c.noConstraints))
    (hx : ∀ i, i < c.k → ∀ j (hj : j < c.constraints.length), ∀ e ∈ c.constraints[j],
      a (edgeVar e i) = if e ∈ P i then 1 else 0)
    (hlen : ∀ j (hj : j < c.constraints.length), ∀ e ∈ c.constraints[j], 0 ≤ c.len e)
    (hresp : ∀ j (hj : j < c.constraints.length), resp j < c.k ∧
      match c.coverageLength with
      | none => (c.constraints[j].length : Rat) * c.coverage ≤
          ((c.constraints[j].countP (fun e => decide (e ∈ P (resp j))) : Nat) : Rat)
      | some cl => (c.constraints[j].map c.len).sum * cl ≤
          (c.constraints[j].map fun e => if e ∈ P (resp j) then c.len e else 0).sum) :
    Sat (withR a resp) (encodePaths s c) ∧ ∀ v, v.isR = false → withR a resp v = a v := by
  -- layers, positions and lengths are read off columns that `withR` leaves alone
  obtain ⟨hcore, _, hpos⟩ := (sat_encodePaths_iff s c.noConstraints a).1 hsat
  refine ⟨(sat_encodePaths_iff s c _).2 ⟨hcore, ?_, hpos⟩, fun v hv => withR_other a resp v hv⟩
  rw [sat_subpathBlock_iff]
  refine ⟨fun i _ j _ => ?_, fun i hi j hj => ?_, fun j hj => ?_⟩
  · rw [withR_r]; split
    · exact .inr rfl
    · exact .inl rfl
  · have hres := (hresp j hj).2
    simp only [withR_r, withR_edge]
    cases hcl : c.coverageLength with
    | none =>
      simp only [hcl] at hres ⊢
      rw [c10_count_of_indicator _ (P i) _ (hx i hi j hj)]
      exact c10_need_le _ _ _ _ Rat.natCast_nonneg fun h => h ▸ hres
    | some cl =>
      simp only [hcl] at hres ⊢
      rw [c10_length_of_indicator _ (P i) _ _ (hx i hi j hj)]
      refine c10_need_le _ _ _ _ (sum_map_nonneg fun e he => ?_) fun h => h ▸ hres
      split
      · exact hlen j hj e he
      · exact Rat.le_refl
  · simp only [withR_r, sum_ite_eq_range, if_pos (hresp j hj).1]
    exact Rat.le_refl

/-- any 0/1 choice of `r` satisfies the constraint block if `r i j = 1` only where layer `i` reaches the
requested fraction of constraint `j`, and every constraint has such a layer -/
theorem subpathBlock_complete (c : PathCfg) (a : Asg) (hcl : c.coverageLength = none)
    (hx : ∀ i, i < c.k → ∀ con ∈ c.constraints, ∀ e ∈ con, 0 ≤ a (edgeVar e i))
    (hr01 : ∀ i, i < c.k → ∀ j, j < c.constraints.length → a (rVar i j) = 0 ∨ a (rVar i j) = 1)
    (hr : ∀ i, i < c.k → ∀ j (hj : j < c.constraints.length), a (rVar i j) = 1 →
      (c.constraints[j].length : Rat) * c.coverage ≤ (c.constraints[j].map fun e => a (edgeVar e i)).sum)
    (hex : ∀ j, j < c.constraints.length → ∃ i, i < c.k ∧ a (rVar i j) = 1) :
    Sat a (subpathBlock c) := by
  rw [sat_subpathBlock_iff]
  refine ⟨hr01, fun i hi j hj => ?_, fun j hj => ?_⟩
  · simp only [hcl]
    rcases hr01 i hi j hj with h0 | h1
    · rw [h0, Rat.mul_zero]; exact sum_map_nonneg (hx i hi _ (List.getElem_mem hj))
    · rw [h1, Rat.mul_one]; exact hr i hi j hj h1
  · obtain ⟨i, hi, h1⟩ := hex j hj
    rw [← h1]
    exact le_sum_of_mem (fun i' => a (rVar i' j)) (fun i' hi' => by
      rcases hr01 i' (List.mem_range.1 hi') j hj with h | h <;> rw [h] <;> decide) (List.mem_range.2 hi)

theorem route_contains (s : STGraph) (c : PathCfg) (a : Asg) (hsat : Sat a (encodePaths s c))
    (P : Nat → List Node) (htrav : ∀ i, i < c.k → ∀ e ∈ s.g.edges, a (edgeVar e i) = trav s (P i) e)
    (hcl : c.coverageLength = none) (hcov : c.coverage = 1)
    (hce : ∀ con ∈ c.constraints, ∀ e ∈ con, e ∈ s.g.edges) (con : List Edge)
    (hcon : con ∈ c.constraints) :
    ∃ i, i < c.k ∧ ∀ e ∈ con, e ∈ walkEdges (full s (P i)) := by
  obtain ⟨j, hj, rfl⟩ := List.mem_iff_getElem.1 hcon
  obtain ⟨i, hi, _, hge⟩ := subpathBlock_responsible c a ((sat_encodePaths_iff s c a).1 hsat).2.1 j hj
  simp only [hcl, hcov, Rat.mul_one] at hge
  have hbin := (layerFacts_of_sat hsat hi).bin
  -- the edge variables along the constraint are at most 1 and sum to its length: all are 1
  have hall := all_one_of_sum_ge_length
    (fun e he => by rcases hbin e (hce _ hcon e he) with h0 | h0 <;> rw [h0] <;> decide) hge
  exact ⟨i, hi, fun e he => mem_of_trav_ne_zero (by
    rw [← htrav i hi e (hce _ hcon e he), hall e he]; decide)⟩

end FP
