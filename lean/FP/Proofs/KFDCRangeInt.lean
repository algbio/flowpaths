import FP.Proofs.KFDCRangeWalks
import FP.Proofs.KFDCRangeCons
import FP.Proofs.FlowDecompExists
/-!
The search range `k ≤ |E| + #constraints` of `MinFlowDecompCycles.solve` is adequate for integer instances:
`weight_type = int`, no additional starts/ends (edge mode), nothing ignored, every edge of the user's graph
carries the flow attribute. If the k-model is satisfiable for some `k`, it is satisfiable for some
`j ≤ |E(G)| + #constraints` (`kfdcr_range_int`). A satisfying assignment decodes to `k` walks with natural
weights; layers of weight `0`, empty layers and layers through no edge of the user's graph contribute nothing,
and `kfdcr_few_walks` replaces the others by at most `|E|` walks with positive integer weights and the same
weighted traversal counts (`kfdcr_decomp_few`). Walks with weights `≥ 1` are within all caps
(`withinCap_of_int`), so with one covering layer per subset constraint they are represented by a satisfying
assignment (`kfdcr_feasible_add_covering`). If all flow values are `0`, the model without layers is
satisfiable (`kfdcr_feasible_zero`): this case is treated apart, since `kfdcr_feasible_add_covering` asks for an
edge with flow value at least `1`.
-/
namespace FP
open FP.Spec FP.Euler

theorem kfdcr_feasible_zero (inp : WalkInput) (hb : BaseWF inp.base) (hcons : inp.cfg.constraints = [])
    (hzero : ∀ e ∈ inp.activeEdges false, inp.f e = 0) : KfdcFeasible inp 0 := by
  -- the family of no walks at all
  have hk : ∀ i, ¬ i < (inp.withK 0).k := Nat.not_lt_zero
  refine feasible_of_walks inp 0 (fun _ => []) (fun _ => 0) hb (fun p hp => absurd (mem_kfdcProds.1 hp).2 (hk _))
    { isWalk := fun i hi => absurd hi (hk i)
      withinCap := fun i hi => absurd hi (hk i)
      weights := fun i hi => absurd hi (hk i)
      multBits := fun i hi => absurd hi (hk i)
      flowLe := fun e he => ?_
      decomposes := fun e he => (hzero e he).symm
      covered := fun j hj => by rw [show (inp.withK 0).cfg.constraints = [] from hcons] at hj; cases hj }
  rw [show (inp.withK 0).f e = 0 from hzero e he, wmax_withK]
  simp

theorem kfdcr_active_iff (inp : WalkInput) (hb : BaseWF inp.base) (hign : inp.ignore = []) (e : Edge) :
    e ∈ inp.activeEdges false ↔ e ∈ inp.st.g.edges ∧ kfdcr_isBase inp.st e = true := by
  rw [mem_activeEdges_false, hign]
  simp only [kfdcr_isBase, Bool.and_eq_true, decide_eq_true_eq]
  exact ⟨fun ⟨he, h1, h2, _⟩ => ⟨he, ⟨h1, h2⟩, hb.stwfc.snkNoOut e he⟩,
    fun ⟨he, ⟨h1, h2⟩, _⟩ => ⟨he, h1, h2, List.not_mem_nil⟩⟩

theorem kfdcr_inner_le (inp : WalkInput) (hb : BaseWF inp.base) :
    (inp.st.g.edges.filter (isInner inp.st)).length ≤ inp.base.edges.length := by
  have hnd : (inp.st.g.edges.filter (isInner inp.st)).Nodup := hb.stwfc.edgesNodup.filter _
  apply hnd.length_le_of_subset
  intro e he
  obtain ⟨h1, h2⟩ := List.mem_filter.1 he
  simp only [isInner, Bool.and_eq_true, decide_eq_true_eq] at h2
  exact (aug_inner_edge_iff hb).1 ⟨h1, h2⟩

section Range
variable (inp : WalkInput) (hb : BaseWF inp.base) (hst : inp.starts = []) (hen : inp.ends = [])
  (hign : inp.ignore = [])
include hb hst hen hign

/-- `p i` are the inner vertex sequences, `c i` natural weights; a layer may also be degenerate (running
through no edge at all). -/
theorem kfdcr_decomp_few (k : Nat) (p : Nat → List Node) (c : Nat → Nat)
    (hlayer : ∀ i, i < k → IsWalkIn inp.st.g (inp.st.source :: p i ++ [inp.st.sink]) ∨
      ∀ e ∈ inp.st.g.edges, traversals (inp.st.source :: p i ++ [inp.st.sink]) e = 0)
    (hdec : IsWalkDecomp inp.st.source inp.st.sink (inp.activeEdges false) inp.f k p (fun i => (c i : Rat))) :
    ∃ A : List (List Node × Nat), A.length ≤ inp.base.edges.length ∧ (∀ d ∈ A, kfdcr_AWalk inp.st d) ∧
      ∀ e ∈ inp.activeEdges false, inp.f e = ((kfdcr_tot A e : Nat) : Rat) := by
  have hth : Thin inp.st := thin_augment hb hst hen
  let L : Nat → List Node := fun i => inp.st.source :: p i ++ [inp.st.sink]
  let Fall : List (List Node × Nat) := (List.range k).map fun i => (L i, c i)
  -- the layers that are walks of positive weight through a base edge (a classical test)
  have _ : ∀ d, Decidable (kfdcr_AWalk inp.st d) := fun _ => Classical.propDecidable _
  let F := Fall.filter fun d => decide (kfdcr_AWalk inp.st d)
  have hF : ∀ d ∈ F, kfdcr_AWalk inp.st d := fun d hd => of_decide_eq_true (List.mem_filter.1 hd).2
  have hflow : ∀ e ∈ inp.activeEdges false, inp.f e = ((kfdcr_tot F e : Nat) : Rat) := by
    intro e he
    obtain ⟨heE, hbase⟩ := (kfdcr_active_iff inp hb hign e).1 he
    have h1 : kfdcr_tot F e = kfdcr_tot Fall e := by
      unfold kfdcr_tot
      apply sum_filter_of_zero
      intro d hd hk
      obtain ⟨i, hi, rfl⟩ := List.mem_map.1 hd
      have hi' : i < k := List.mem_range.1 hi
      show c i * traversals (L i) e = 0
      by_cases hc0 : c i = 0
      · rw [hc0, Nat.zero_mul]
      · have : traversals (L i) e = 0 := by
          rcases hlayer i hi' with hW | hz
          · -- a walk: then it has no base edge
            apply List.count_eq_zero.2
            intro hmem
            exact of_decide_eq_false hk ⟨by omega, ⟨p i, rfl⟩, hW, e, hmem, hbase⟩
          · exact hz e heE
        rw [this, Nat.mul_zero]
    rw [h1, ← hdec e he]
    unfold walkExplained kfdcr_tot
    rw [natCast_sum, List.map_map]
    refine congrArg List.sum (List.map_congr_left fun i _ => ?_)
    show (c i : Rat) * ((traversals (L i) e : Nat) : Rat) = ((c i * traversals (L i) e : Nat) : Rat)
    rw [Rat.natCast_mul]
  obtain ⟨A, hAlen, hA, hAtot⟩ := kfdcr_few_walks hb.stwfc hth F hF
  refine ⟨A, Nat.le_trans hAlen (kfdcr_inner_le inp hb), hA, ?_⟩
  intro e he
  rw [hflow e he, hAtot e ((kfdcr_active_iff inp hb hign e).1 he).1]

omit hb hst hen hign in
/-- a family of walks as functions of the layer index -/
theorem kfdcr_family_decomp (A : List (List Node × Nat)) (hA : ∀ d ∈ A, kfdcr_AWalk inp.st d)
    (hflowA : ∀ e ∈ inp.activeEdges false, inp.f e = ((kfdcr_tot A e : Nat) : Rat)) :
    ∃ (walk : Nat → List Node) (n : Nat → Nat),
      (∀ i, i < A.length → kfdcr_AWalk inp.st (inp.st.source :: walk i ++ [inp.st.sink], n i)) ∧
      IsWalkDecomp inp.st.source inp.st.sink (inp.activeEdges false) inp.f A.length walk (fun i => (n i : Rat)) := by
  let d0 : List Node × Nat := ([], 0)
  have hget : ∀ i, i < A.length → A.getD i d0 ∈ A := fun i hi => getD_mem d0 hi
  have hwalkEq : ∀ d ∈ A, inp.st.source :: d.1.tail.dropLast ++ [inp.st.sink] = d.1 := by
    intro d hd
    obtain ⟨_, ⟨p, hp⟩, _, _⟩ := hA d hd
    rw [hp]
    have : (inp.st.source :: p ++ [inp.st.sink]).tail = p ++ [inp.st.sink] := rfl
    rw [this, List.dropLast_concat]
  refine ⟨fun i => ((A.getD i d0).1).tail.dropLast, fun i => (A.getD i d0).2, ?_, ?_⟩
  · intro i hi
    show kfdcr_AWalk inp.st (inp.st.source :: (A.getD i d0).1.tail.dropLast ++ [inp.st.sink], (A.getD i d0).2)
    rw [hwalkEq _ (hget i hi)]
    exact hA _ (hget i hi)
  · intro e he
    rw [hflowA e he]
    unfold walkExplained kfdcr_tot
    rw [natCast_sum]
    have := map_range_getD A d0 (fun d => ((d.2 : Nat) : Rat)
      * ((traversals (inp.st.source :: d.1.tail.dropLast ++ [inp.st.sink]) e : Nat) : Rat))
    rw [this]
    refine congrArg List.sum (List.map_congr_left fun d hd => ?_)
    rw [hwalkEq d hd, Rat.natCast_mul]

/-- `m`: as in `kfdcr_range_rat` -/
theorem kfdcr_range_int (hint : inp.weightInt = true) (hcons : ConsOK inp)
    (hattr : ∀ e ∈ inp.base.edges, ∃ q, inp.fOpt e = some q)
    (hM : (∃ e ∈ inp.activeEdges false, 1 ≤ inp.f e) ∨ inp.cfg.constraints = [])
    (m : Nat) (hm : inp.cfg.constraints.length = m)
    (hinj : ∀ j, j ≤ inp.base.edges.length + m → NameInj (inp.withK j))
    (k : Nat) (hf : KfdcFeasible inp k) :
    ∃ j, j ≤ inp.base.edges.length + m ∧ KfdcFeasible inp j := by
  subst hm
  obtain ⟨a, ha⟩ := hf
  obtain ⟨hw, _, hdec⟩ := kfdc_exact (inp.withK k) none a hb ha
  -- an integral weight `≥ 0` is the natural number taken for it
  obtain ⟨A, hAle, hA, hflowA⟩ := kfdcr_decomp_few inp hb hst hen hign k (decodeWalkLayer inp.st a)
    (fun i => (a (weightsVar i)).floor.toNat)
    (fun i hi => (walkcore_layer inp.st _ a hb.stwfc (kfdcr_sat_enc inp k a ha) hi).2.imp_right And.right)
    fun e he => (explainedM_congr k _ _ _ e fun i hi => by
      rw [← nat_of_int_nonneg _ (hw i hi).1 ((hw i hi).2.2 hint)]; rfl).trans (hdec e he)
  by_cases hM' : ∃ e ∈ inp.activeEdges false, 1 ≤ inp.f e
  · obtain ⟨walk, n, hfam, hdecA⟩ := kfdcr_family_decomp inp A hA hflowA
    have hcapA := withinCap_of_int (inp.withK A.length) walk (fun i => (n i : Rat)) hb
      (caps_are_flows (inp.withK A.length) hb hign hattr) (fun i hi => (hfam i hi).2.2.1)
      (fun i hi => one_le_natCast (hfam i hi).1) hdecA
    refine ⟨A.length + inp.cfg.constraints.length, by omega, ?_⟩
    exact kfdcr_feasible_add_covering inp hb hattr hM' hcons k a ha A.length walk (fun i => (n i : Rat))
      (fun i hi => (hfam i hi).2.2.1)
      (fun i hi e he => kfdcr_cap_withK inp hb hattr A.length k e he ▸ hcapA i hi e he)
      (fun i hi =>
        let ⟨_, _, hW, eb, heb, hbase⟩ := hfam i hi
        ⟨eb, (kfdcr_active_iff inp hb hign eb).2 ⟨hW eb heb, hbase⟩, heb⟩)
      (fun i hi => ⟨Rat.natCast_nonneg, fun _ => natCast_isInt _⟩)
      (fun e he => hflowA e he ▸ natCast_le_wunit inp he (hflowA e he ▸ Rat.le_refl))
      hdecA (hinj _ (by omega))
  · -- the flow values are natural numbers below `1`
    refine ⟨0, Nat.zero_le _, kfdcr_feasible_zero inp hb (hM.resolve_left hM') fun e he => ?_⟩
    rw [hflowA e he]
    have h0 : kfdcr_tot A e = 0 := Nat.eq_zero_of_not_pos fun h =>
      hM' ⟨e, he, by rw [hflowA e he]; exact one_le_natCast h⟩
    rw [h0]; rfl

end Range

end FP
