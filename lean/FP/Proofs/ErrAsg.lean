import FP.Proofs.PathCoreComplete
/-!
What k-Least-Absolute-Errors and k-Min-Path-Error share: the meaning of their rows (error rows, McCormick
products against the edge indicators), the assignment representing a k-route solution, the product channel in both
directions (`coupled_complete`, `coupled_sound`), conservation and the source row read on a literal graph for the
instance modules, and
the largest flow value `fmax` with `w_max = k · fmax`.
-/
namespace FP
open FP.Spec

theorem sum_map_mul_left_p07 {α} (l : List α) (f : α → Rat) (k : Rat) :
    (l.map (fun i => k * f i)).sum = k * (l.map f).sum :=
  sum_map_mul_left l f k

/-- the two rows `f − Σ X ≤ v`, `Σ X − f ≤ v` of k-Least-Absolute-Errors -/
theorem laeRows_iff (a : Asg) (X : Terms) (v : Var) (f : Rat) :
    (rowLe (negTerms X ++ [(-1, v)]) (-f)).holds a ∧ (rowLe (X ++ [(-1, v)]) f).holds a ↔
      (f - evalTerms a X).abs ≤ a v := by
  simp only [rowLe_holds, evalTerms_append, evalTerms_negTerms, evalTerms_single, abs_le_iff]
  constructor <;> rintro ⟨h1, h2⟩ <;> constructor <;> grind

/-- rows 9aa / 9ab of k-Min-Path-Error -/
theorem errRows_iff (a : Asg) (f sc : Rat) (X G : Terms) :
    (∀ r ∈ errRows f sc X G, r.holds a) ↔
      (f - evalTerms a X) * sc ≤ evalTerms a G ∧ -(f - evalTerms a X) * sc ≤ evalTerms a G := by
  simp only [errRows, List.forall_mem_cons, List.not_mem_nil, false_imp_iff, implies_true, and_true,
    rowLe_holds, rowGe_holds, evalTerms_append, evalTerms_negTerms, evalTerms_scaled]
  constructor <;> rintro ⟨h1, h2⟩ <;> constructor <;> grind

theorem errRows_sound (a : Asg) (f sc : Rat) (X G : Terms) (h : ∀ r ∈ errRows f sc X G, r.holds a) :
    (f - evalTerms a X).abs * sc ≤ evalTerms a G :=
  abs_mul_le _ _ _ ((errRows_iff a f sc X G).1 h).1 ((errRows_iff a f sc X G).1 h).2

theorem errRows_complete (a : Asg) (f sc : Rat) (X G : Terms) (hsc : 0 ≤ sc)
    (h : (f - evalTerms a X).abs * sc ≤ evalTerms a G) : ∀ r ∈ errRows f sc X G, r.holds a :=
  (errRows_iff a f sc X G).2 (le_of_abs_mul_le _ _ _ hsc h)

theorem sum_prod_explained (a : Asg) (s : STGraph) (k : Nat) (P : Nat → List Node) (c : Nat → Rat)
    (p : Nat → Var) (e : Edge) (h : ∀ i, i < k → a (p i) = trav s (P i) e * c i) :
    evalTerms a (ones (List.range k) p) = explained s k P c e := by
  rw [evalTerms_ones]
  exact congrArg List.sum (List.map_congr_left fun i hi => by rw [h i (List.mem_range.1 hi), Rat.mul_comm])

/-- `P i` is the inner path of layer `i` (without the synthetic endpoints, `[]` for an unused layer), as in `Route` -/
structure ErrSol where
  P : Nat → List Node
  w : Nat → Rat
  sl : Nat → Rat := fun _ => 0
  ee : Edge → Rat := fun _ => 0

/-- the assignment of the LP columns that represents a solution: `edge` = route indicators,
`pi` = indicator · weight, `gamma` = indicator · slack, `position` / `path_length` = edge counts,
`weights`, `slack`, `ee` as given; every other column 0 -/
def solAsg (s : STGraph) (σ : ErrSol) : Asg := fun v =>
  match v with
  | .uvi pfx u v i =>
    if pfx = "edge" then trav s (σ.P i) (u, v)
    else if pfx = "pi" then trav s (σ.P i) (u, v) * σ.w i
    else if pfx = "gamma" then trav s (σ.P i) (u, v) * σ.sl i
    else if pfx = "position" then ((edgesReaching s u).map (trav s (σ.P i))).sum
    else 0
  | .ix pfx i =>
    if pfx = "weights" then σ.w i else if pfx = "slack" then σ.sl i
    else if pfx = "path_length" then (s.g.edges.map (trav s (σ.P i))).sum else 0
  | .uv pfx u v => if pfx = "ee" then σ.ee (u, v) else 0
  | _ => 0

section
variable (s : STGraph) (σ : ErrSol)
theorem solAsg_edge (e : Edge) (i : Nat) : solAsg s σ (edgeVar e i) = trav s (σ.P i) e := by
  simp [solAsg, edgeVar]
theorem solAsg_pi (e : Edge) (i : Nat) : solAsg s σ (piVar e i) = trav s (σ.P i) e * σ.w i := by
  simp [solAsg, piVar]
theorem solAsg_gamma (e : Edge) (i : Nat) : solAsg s σ (gammaVar e i) = trav s (σ.P i) e * σ.sl i := by
  simp [solAsg, gammaVar]
theorem solAsg_w (i : Nat) : solAsg s σ (weightsVar i) = σ.w i := by simp [solAsg, weightsVar]
theorem solAsg_slack (i : Nat) : solAsg s σ (slackVar i) = σ.sl i := by simp [solAsg, slackVar]
theorem solAsg_ee (e : Edge) : solAsg s σ (eeVar e) = σ.ee e := by simp [solAsg, eeVar]
end

theorem solAsg_sat_paths {s : STGraph} {c : PathCfg} {σ : ErrSol} (hwf : STWF s)
    (hroute : ∀ i, i < c.k → Route s c.allowEmpty (σ.P i))
    (hcons : c.constraints = []) (hlen : c.lengths = none) : Sat (solAsg s σ) (encodePaths s c) :=
  encodePaths_complete s c (solAsg s σ) σ.P hwf hroute hcons hlen
    (fun i _ e _ => solAsg_edge s σ e i)
    (fun _ i _ => ⟨fun e _ => by simp [solAsg, posVar], by simp [solAsg, lenVar]⟩)

theorem coupled_complete (a : Asg) {s : STGraph} (ae : Bool) (k : Nat) (P : Nat → List Node) (c : Nat → Var)
    (p : Edge → Nat → Var) (x : Nat → Rat) (ub : Rat) (isInt : Bool) (hwf : STWF s)
    (hroute : ∀ i, i < k → Route s ae (P i))
    (hedge : ∀ e i, a (edgeVar e i) = trav s (P i) e) (hc : ∀ i, a (c i) = x i)
    (hp : ∀ e i, a (p e i) = trav s (P i) e * x i)
    (hx : ∀ i, i < k → 0 ≤ x i ∧ x i ≤ ub ∧ (isInt = true → IsInt (x i))) :
    (∀ i, i < k → 0 ≤ a (c i) ∧ a (c i) ≤ ub ∧ (isInt = true → IsInt (a (c i)))) ∧
    (∀ i, i < k → ∀ e ∈ s.g.edges,
      0 ≤ a (p e i) ∧ a (p e i) ≤ ub ∧ (isInt = true → IsInt (a (p e i)))) ∧
    (∀ e ∈ s.g.edges, ∀ i, i < k → ∀ r ∈ binProd (edgeVar e i) (c i) (p e i) 0 ub, r.holds a) ∧
    (∀ e, evalTerms a (ones (List.range k) (p e)) = explained s k P x e) := by
  have h01 := fun i hi e => trav01 hwf (hroute i hi) e
  refine ⟨fun i hi => (hc i).symm ▸ hx i hi, fun i hi e he => ?_, fun e he i hi => ?_,
    fun e => sum_prod_explained a s k P x (p e) e fun i _ => hp e i⟩
  · rw [hp]
    obtain ⟨h0, h1⟩ := mul01_bounds (h01 i hi e) Rat.le_refl (Rat.le_trans (hx i hi).1 (hx i hi).2.1) (hx i hi).1 (hx i hi).2.1
    exact ⟨h0, h1, fun hint => mul_isInt (natCast_isInt _) ((hx i hi).2.2 hint)⟩
  · refine (binProd_exact a _ _ _ 0 ub ?_ ?_).2 ?_
    · rw [hedge]; exact h01 i hi e
    · rw [hc]; exact ⟨(hx i hi).1, (hx i hi).2.1⟩
    · rw [hp, hedge, hc]

theorem coupled_sound {a : Asg} {s : STGraph} (ae : Bool) (k : Nat) (P : Nat → List Node) (c p : Nat → Var)
    {ub : Rat} {e : Edge} (hwf : STWF s) (hroute : ∀ i, i < k → Route s ae (P i)) (he : e ∈ s.g.edges)
    (hedge : ∀ i, i < k → ∀ e ∈ s.g.edges, a (edgeVar e i) = trav s (P i) e)
    (hrows : ∀ i, i < k → ∀ r ∈ binProd (edgeVar e i) (c i) (p i) 0 ub, r.holds a) :
    (∀ i, i < k → a (p i) = a (edgeVar e i) * a (c i)) ∧
      evalTerms a (ones (List.range k) p) = explained s k P (fun i => a (c i)) e := by
  have hp : ∀ i, i < k → a (p i) = a (edgeVar e i) * a (c i) := fun i hi =>
    binProd_sound _ _ (hedge i hi e he ▸ trav01 hwf (hroute i hi) e) (hrows i hi)
  exact ⟨hp, sum_prod_explained a s k P _ p e fun i hi => by rw [hp i hi, hedge i hi e he]⟩

theorem mem_basicEdges {inp : ErrInput} {e : Edge} (he : e ∈ inp.basicEdges) : e ∈ inp.st.g.edges :=
  (List.mem_filter.1 he).1

/-- `weight_type(max flow over the non-ignored edges)` — `w_max = k · fmax` -/
def ErrInput.fmax (inp : ErrInput) : Rat := inp.cast (listMax (inp.basicEdges.map inp.fi.f))

theorem wmax_none_eq (inp : ErrInput) : inp.wmax none = max ((inp.k : Rat) * inp.fmax) 0 := rfl

theorem fmax_isInt (inp : ErrInput) (hint : inp.fi.weightInt = true) : IsInt inp.fmax := by
  unfold ErrInput.fmax ErrInput.cast
  rw [hint]; exact ⟨_, rfl⟩

theorem fmax_nonneg (inp : ErrInput) (hf : ∀ e ∈ inp.basicEdges, 0 ≤ inp.fi.f e ∧ inp.fi.f e ≤ inp.fmax) :
    0 ≤ inp.fmax := by
  cases hb : inp.basicEdges with
  | nil =>
    unfold ErrInput.fmax ErrInput.cast
    rw [hb]
    have h0 : (0:Rat).floor = 0 := by decide
    split
    · simp [listMax, h0]
    · simp [listMax]
  | cons e es =>
    have := hf e (by rw [hb]; simp)
    exact Rat.le_trans this.1 this.2

theorem kfmax_le_wmax (inp : ErrInput) : (inp.k : Rat) * inp.fmax ≤ inp.wmax none := by
  rw [wmax_none_eq, Rat.max_def]; split
  · assumption
  · exact Rat.le_refl

theorem fmax_le_wmax (inp : ErrInput) (hk : 1 ≤ inp.k) (h0 : 0 ≤ inp.fmax) : inp.fmax ≤ inp.wmax none := by
  have hk' : (1:Rat) ≤ (inp.k : Rat) := by exact_mod_cast hk
  have := Rat.mul_le_mul_of_nonneg_right hk' h0
  rw [Rat.one_mul] at this
  exact Rat.le_trans this (kfmax_le_wmax inp)

/-- `ValidRoute` in a form that `decide` evaluates on a literal graph and route -/
theorem validRoute_of_check (base : Graph) (starts ends p : List Node)
    (h : p ≠ [] ∧ (∀ v ∈ p, v ∈ base.nodes) ∧ (∀ e ∈ walkEdges p, e ∈ base.edges) ∧
      (∀ v ∈ p.head?, base.pred v = [] ∨ v ∈ starts) ∧ (∀ v ∈ p.getLast?, base.succ v = [] ∨ v ∈ ends)) :
    ValidRoute base starts ends p :=
  ⟨h.1, h.2.1, h.2.2.1, h.2.2.2.1, h.2.2.2.2⟩

theorem conserved_at {s : STGraph} {x : Edge → Rat}
    (hc : ∀ v ∈ s.g.nodes, v ≠ s.source → v ≠ s.sink → inflow s.g x v = outflow s.g x v) (v : Node)
    (ps ss : List Node)
    (h : v ∈ s.g.nodes ∧ v ≠ s.source ∧ v ≠ s.sink ∧ s.g.pred v = ps ∧ s.g.succ v = ss) :
    (ps.map fun u => x (u, v)).sum = (ss.map fun w => x (v, w)).sum :=
  flow_at (hc v h.1 h.2.1 h.2.2.1) ps ss ⟨h.2.2.2.1, h.2.2.2.2⟩

theorem layer_src_eq {s : STGraph} {x : Edge → Rat} (hf : LayerFacts s false x) (ss : List Node)
    (hs : s.g.succ s.source = ss) : (ss.map fun w => x (s.source, w)).sum = 1 := by
  rw [← hs, sum_succ]
  exact hf.src

end FP
