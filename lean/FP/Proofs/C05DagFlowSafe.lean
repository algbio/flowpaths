import FP.Proofs.C05DagOpt
import FP.Proofs.SafetyExcess
/-!
# FP.Proofs.C05DagFlowSafe — `kFlowDecomp`'s flow-safe paths lie in some path of every solution

`kFlowDecomp.__init__` hands `compute_flow_decomp_safe_paths(G, flow)` over as `external_safe_paths` only when no
edge is ignored (fix 3d0fcdd). Then every satisfying assignment of the k-model is a flow decomposition of the whole
flow of the user's graph (C02 `kfd_exact`): the layers, with the synthetic endpoints removed, are walks of the user's
graph with weights `≥ 0`, each empty or ending in a node without out-edges, whose superposition is the flow on every
edge. `flowSafe_in_decomposition` (C06 `excess_flow_safe` for families that may have members of weight 0 and empty
members) puts every path reported by the two-pointer scan `flowSafePaths` (whatever decomposition paths it was given)
inside one of them — hence inside one layer.
-/
namespace FP
open FP.Spec FP.Safety

theorem c05d_base_edge_active (inp : FlowInput) (hb : BaseWF inp.base) (hign : inp.ignore = []) (e : Edge)
    (he : e ∈ inp.base.edges) : e ∈ inp.activeEdges ∧ e.1 ≠ inp.st.source ∧ e.2 ≠ inp.st.sink := by
  obtain ⟨hm, h1, h2⟩ := (aug_inner_edge_iff (st := inp.starts) (en := inp.ends) hb).2 he
  refine ⟨?_, h1, h2⟩
  unfold FlowInput.activeEdges
  apply List.mem_filter.2
  refine ⟨hm, ?_⟩
  have hs : e ∉ inp.st.sourceSinkEdges := fun hm => (fst_or_snd_of_mem_sourceSinkEdges hm).elim h1 h2
  simp [FlowInput.ignored, hs, hign]

theorem c05d_flowSafe_in_layers (inp : FlowInput) (hb : BaseWF inp.base) (hac : Acyclic inp.base)
    (hign : inp.ignore = []) (hends : inp.ends = [])
    (hkeys : ∀ e q, inp.flow.lookup e = some q → e ∈ inp.base.edges)
    (paths : List (List Node)) (out : List (List Edge)) (hout : flowSafePaths inp.base inp.flow paths = .ok out)
    (a : Asg) (hsat : Sat a (kfdLP inp)) : ∀ q ∈ out, SomeLayerHas inp.st a inp.cfg.k q := by
  have hwf : STWF inp.st := hb.stwf hac
  have henc : Sat a (encodePaths inp.st inp.cfg) := sat_append_left hsat
  obtain ⟨ps, hps, _, hw, hexp⟩ := kfd_exact inp a hb hac hsat
  have hr := (routes_of_decode inp.st inp.cfg a hwf henc hps).2
  let P : Nat → List Node := fun i => ps.getD i []
  have hvr : ∀ i, i < inp.cfg.k → P i ≠ [] → ValidRoute inp.base inp.starts inp.ends (P i) :=
    fun i hi hne => (validRoute_of_route hb (hr i hi).1 hne).1
  -- every layer is a member, of weight 0 or with the empty path included
  let D : List (List Node × Rat) := (List.range inp.cfg.k).map fun i => (P i, a (wVar i))
  have hD : ∀ pw ∈ D, IsWalkIn inp.base pw.1 ∧ 0 ≤ pw.2 ∧
      ∀ t, pw.1.getLast? = some t → inp.base.succ t = [] := by
    intro pw hpw
    obtain ⟨i, hi, rfl⟩ := List.mem_map.1 hpw
    have hi' := List.mem_range.1 hi
    refine ⟨fun e he => ?_, (hw i hi').1, fun t ht => ?_⟩
    · exact (hvr i hi' fun h0 => by rw [show P i = [] from h0] at he; cases he).adjacent e he
    · rcases (hvr i hi' fun h0 => by rw [show P i = [] from h0] at ht; cases ht).last t ht with h | h
      · exact h
      · rw [hends] at h; cases h
  have hf : ∀ e ∈ inp.base.edges,
      lookupD inp.flow e 0 = (D.map fun pw => ((walkEdges pw.1).count e : Rat) * pw.2).sum := by
    intro e he
    obtain ⟨hact, h1, h2⟩ := c05d_base_edge_active inp hb hign e he
    rw [show lookupD inp.flow e 0 = inp.f e from rfl, ← hexp e hact, List.map_map]
    refine congrArg List.sum (List.map_congr_left fun i _ => ?_)
    show a (wVar i) * (traversals (inp.st.source :: P i ++ [inp.st.sink]) e : Rat) = _
    unfold traversals
    rw [we_count_inner _ _ _ _ h1 h2]
    exact Rat.mul_comm _ _
  intro q hq
  obtain ⟨pw, hpw, hinf⟩ := flowSafe_in_decomposition inp.base inp.flow hkeys paths out hout D hD hf q hq
  obtain ⟨i, hi, rfl⟩ := List.mem_map.1 hpw
  have hi' := List.mem_range.1 hi
  refine ⟨i, hi', fun e he => ?_⟩
  have hin : e ∈ walkEdges (P i) := hinf.subset he
  have hne : P i ≠ [] := fun h0 => by rw [show P i = [] from h0] at hin; cases hin
  -- on a route the edge variable is the indicator of the route (`trav_of_route`)
  have hmem : e ∈ walkEdges (full inp.st (P i)) :=
    we_sub_append_left [_] _ _ (we_sub_append_right (P i) [inp.st.sink] e hin)
  have hg := Route.walk_of_ne (hr i hi').1 hne e hmem
  exact ⟨hg, by rw [(hr i hi').2 e hg, trav_of_route hwf (hr i hi').1 e, if_pos hmem]⟩

/-- the modelled provenance of `external_safe_paths` (`kfdExternalOK`) gives `ExternalInLayers` -/
theorem c05d_externalInLayers_of_ok (inp : FlowInput) (hb : BaseWF inp.base) (hac : Acyclic inp.base)
    (hends : inp.ends = []) (hkeys : ∀ e q, inp.flow.lookup e = some q → e ∈ inp.base.edges)
    (external : Option (List (List Edge))) (decompPaths : List (List Node))
    (hok : kfdExternalOK inp external decompPaths = true) : ExternalInLayers inp external := by
  intro a hsat l hl q hq
  subst hl
  unfold kfdExternalOK at hok
  simp only [Bool.and_eq_true] at hok
  obtain ⟨hign, hscan⟩ := hok
  have hign' : inp.ignore = [] := List.isEmpty_iff.1 hign
  cases hfs : flowSafePaths inp.base inp.flow decompPaths with
  | ok out =>
    rw [hfs] at hscan
    have hmem : q ∈ out := by
      have := List.all_eq_true.1 hscan q hq
      simpa using this
    exact c05d_flowSafe_in_layers inp hb hac hign' hends hkeys decompPaths out hfs a hsat q hmem
  | raises w => rw [hfs] at hscan; cases hscan
  | fuel => rw [hfs] at hscan; cases hscan

end FP
