import FP.Proofs.ErrExample
import FP.Proofs.KMPEGiven
import FP.Proofs.SatCheck
/-!
A given-weights instance of k-Min-Path-Error on which the bound `w_max` of the slack columns cuts off the
optimum. User DAG `s0 → u`, `s1 → u`, `u → v`, `v → t1`, `v → x`, `s2 → x`, `x → y` with `f = 1` on every edge except
`f(u,v) = f(x,y) = 0`, `k = 3`, `weight_type = int`, `solution_weights_superset = [15, 15, 15]` — so
`w_max = max(3·1, 15) = 15`. Routes `A = s0 u v t1`, `B = s1 u v x y`, `C = s2 x y`, each of weight 15.

* slacks `(15, 15, 15)` satisfy the slack inequality on every edge: a bounded choice of total slack `45`;
* slacks `(14, 16, 14)` satisfy it as well (`B` shares `(u,v)` with `A` and `(x,y)` with `C`, both with
  error `30`): total slack `44` — but `16 > w_max`, so the slack column of `B` cannot take that value;
* every satisfying assignment of the LP the constructor builds has objective at least `45`.

The namespace `Factors` at the end holds a second, smaller instance, with path-length factors.
-/
namespace FP.GivenExampleMPE
open FP FP.Spec FP.Spec.MPE

def base : Graph :=
  { nodes := ["s0", "s1", "s2", "u", "v", "t1", "x", "y"],
    edges := [("s0", "u"), ("s1", "u"), ("u", "v"), ("v", "t1"), ("v", "x"), ("s2", "x"), ("x", "y")] }

theorem base_wf : BaseWF base := by decide +kernel

def rank : Node → Nat := fun v =>
  if v = "s0" then 0 else if v = "s1" then 0 else if v = "s2" then 0 else if v = "u" then 1
  else if v = "v" then 2 else if v = "t1" then 3 else if v = "x" then 3 else 4
theorem base_acyclic : Acyclic base := ⟨rank, by decide⟩

/-- the user's call: `k = 3`; `kMinPathError` always encodes edge positions -/
def fi0 : FlowInput :=
  { base := base,
    flow := [(("s0", "u"), 1), (("s1", "u"), 1), (("u", "v"), 0), (("v", "t1"), 1), (("v", "x"), 1),
             (("s2", "x"), 1), (("x", "y"), 0)],
    weightInt := true, cfg := { k := 3, encodePosition := true } }

def ws : List Rat := [15, 15, 15]

/-- what the constructor makes of it: `k = len(ws)`, empty paths allowed -/
def inp : MpeInput := { ei := ({ fi := fi0 } : ErrInput).forGiven ws }

def pA : List Node := ["s0", "u", "v", "t1"]
def pB : List Node := ["s1", "u", "v", "x", "y"]
def pC : List Node := ["s2", "x", "y"]
def P : Nat → List Node := fun i => if i = 0 then pA else if i = 1 then pB else pC
def sl15 : Nat → Rat := fun _ => 15
/-- the better slacks, `16 > w_max` on route `B` -/
def sl44 : Nat → Rat := fun i => if i = 1 then 16 else 14

theorem k3 : inp.ei.k = 3 := rfl
def aug : STGraph :=
  { g := { nodes := ["s0", "s1", "s2", "u", "v", "t1", "x", "y", "source", "sink"],
           edges := [("s0", "u"), ("s1", "u"), ("s2", "x"), ("u", "v"), ("v", "t1"), ("v", "x"), ("t1", "sink"),
                     ("x", "y"), ("y", "sink"), ("source", "s0"), ("source", "s1"), ("source", "s2")] },
    source := "source", sink := "sink" }
/-- the finite facts about `inp` as components of one theorem: a single kernel evaluation builds the augmented graph
and `basicEdges` once, where one evaluation per fact builds them each time -/
theorem table : inp.ei.st.g = aug.g ∧
    inp.ei.basicEdges = [("s0", "u"), ("s1", "u"), ("s2", "x"), ("u", "v"), ("v", "t1"), ("v", "x"), ("x", "y")] ∧
    inp.ei.wmax (some ws) = 15 ∧
    (∀ e ∈ inp.ei.basicEdges, SlackOK inp.ei P (givenW ws) sl15 e) ∧
    (∀ e ∈ inp.ei.basicEdges, SlackOK inp.ei P (givenW ws) sl44 e) ∧
    totalSlack inp.ei.k sl44 = 44 := by
  unfold SlackOK
  decide +kernel

theorem st_eq : inp.ei.st = aug :=
  congrArg (fun g => ({ g := g, source := "source", sink := "sink" } : STGraph)) table.1
theorem basic : inp.ei.basicEdges
    = [("s0", "u"), ("s1", "u"), ("s2", "x"), ("u", "v"), ("v", "t1"), ("v", "x"), ("x", "y")] := table.2.1
theorem f_s0u : inp.ei.fi.f ("s0", "u") = 1 := by decide
theorem f_s1u : inp.ei.fi.f ("s1", "u") = 1 := by decide
theorem f_s2x : inp.ei.fi.f ("s2", "x") = 1 := by decide
theorem f_uv : inp.ei.fi.f ("u", "v") = 0 := by decide
theorem f_xy : inp.ei.fi.f ("x", "y") = 0 := by decide
theorem scale1 (e : Edge) : inp.ei.scale e = 1 := rfl
theorem gw (i : Nat) (hi : i < 3) : givenW ws i = 15 := by
  have : i = 0 ∨ i = 1 ∨ i = 2 := by omega
  rcases this with rfl | rfl | rfl <;> rfl
theorem wmax15 : inp.ei.wmax (some ws) = 15 := table.2.2.1

theorem valid_P (i : Nat) : ValidRoute inp.ei.fi.base inp.ei.fi.starts inp.ei.fi.ends (P i) := by
  unfold P
  split
  · exact validRoute_of_check base [] [] pA (by decide +kernel)
  · split
    · exact validRoute_of_check base [] [] pB (by decide +kernel)
    · exact validRoute_of_check base [] [] pC (by decide +kernel)

theorem routes (i : Nat) : Route inp.ei.st true (P i) :=
  route_of_validRoute [] [] base_wf base_acyclic true (valid_P i)

theorem bounded45 : GivenBounded inp.ei ws 3 P sl15 where
  routes := fun i _ => routes i
  cap := by decide
  nonneg := fun _ _ => by show (0 : Rat) ≤ 15; decide
  integral := fun _ _ _ => (⟨15, by decide⟩ : IsInt (15 : Rat))
  slackOK := table.2.2.2.1
  sle := fun _ _ => by rw [wmax15]; exact Rat.le_refl

theorem solution44 : GivenSolution inp.ei ws 3 P sl44 where
  routes := fun i _ => routes i
  cap := by decide
  nonneg := fun i _ => by unfold sl44; split <;> decide
  integral := fun _ i _ => by
    unfold sl44; split
    · exact ⟨16, by decide⟩
    · exact ⟨14, by decide⟩
  slackOK := table.2.2.2.2.1

theorem total44 : totalSlack inp.ei.k sl44 = 44 := table.2.2.2.2.2

theorem not_bounded44 : ¬ GivenBounded inp.ei ws 3 P sl44 := by
  intro hb
  have := hb.sle 1 (by decide)
  rw [wmax15] at this
  exact absurd this (by decide)

theorem scale_nonneg : ∀ e ∈ inp.ei.basicEdges, 0 ≤ inp.ei.scale e := by
  intro e _; rw [scale1]; decide

theorem sat45 : ∃ a : Asg, Sat a (kmpeGivenLP inp ws 3) ∧ evalTerms a (kmpeGivenLP inp ws 3).obj = 45 := by
  obtain ⟨a, hsat, _, _, hobj⟩ :=
    kmpe_given_complete inp ws 3 P sl15 base_wf base_acyclic rfl rfl rfl scale_nonneg bounded45
  exact ⟨a, hsat, hobj.trans (by decide +kernel)⟩

/-- a start edge (`f = 1`) whose slack is its explained weight `15·n` is used: `n = 0` would read `1 ≤ 0` -/
theorem start_arith (n : Nat) (h : (1 - 15 * (n : Rat)).abs ≤ 15 * (n : Rat)) : 15 ≤ 15 * (n : Rat) := by
  cases n with
  | zero => exact absurd h (by decide +kernel)
  | succ n => have := @Rat.natCast_nonneg n; rw [Rat.natCast_add]; grind

/-- a non-negative flow `w − s` that cannot be positive behind a node vanishes on the edges into it -/
theorem eq_arith (w0 w1 wU s0 s1 sU : Rat) (n0 : 0 ≤ w0 - s0) (n1 : 0 ≤ w1 - s1) (z : -(0 - wU) ≤ sU)
    (cw : w0 + w1 = wU) (cs : s0 + s1 = sU) : s0 = w0 ∧ s1 = w1 := by
  grind

theorem sum_arith (a b c T : Rat) (h0 : 15 ≤ a) (h1 : 15 ≤ b) (h2 : 15 ≤ c) (h : a + (b + c) ≤ T) : 45 ≤ T := by
  grind

/-- every bounded choice has total slack at least `45`. `W`, `S` are the explained weight and slack; `W − S` is a
non-negative flow (slacks are at most `w_max = 15`, the weight), it vanishes on the two `f = 0` edges, hence on
the start edges before them; each start edge (`f = 1`) is used, so `S = W ≥ 15` there, and what leaves the source
is at most the total slack -/
theorem lower_bound (P : Nat → List Node) (sl : Nat → Rat) (hb : GivenBounded inp.ei ws 3 P sl) :
    45 ≤ totalSlack inp.ei.k sl := by
  have hwf : STWF aug := st_eq ▸ augment_wf base [] [] base_wf base_acyclic
  have hr : ∀ i, i < 3 → Route aug true (P i) := fun i hi => st_eq ▸ hb.routes i hi
  have hsub := explained_sub aug 3 P (givenW ws) sl
  have hnn : ∀ e, 0 ≤ explained aug 3 P (givenW ws) e - explained aug 3 P sl e := fun e =>
    hsub e ▸ explained_nonneg aug 3 P _ e fun i hi => by
      have := hb.sle i hi
      rw [wmax15] at this
      rw [gw i hi]; exact (Rat.le_iff_sub_nonneg _ _).1 this
  have ok : ∀ e ∈ inp.ei.basicEdges,
      (inp.ei.fi.f e - explained aug 3 P (givenW ws) e).abs ≤ explained aug 3 P sl e := fun e he => by
    have := hb.slackOK e he
    unfold SlackOK at this
    rwa [st_eq, scale1, Rat.mul_one] at this
  have fl := fun (w : Nat → Rat) => conserved_at fun v hv h1 h2 => explained_flow hwf P w v hv h1 h2 3 hr
  -- `W ≤ S` on the two `f = 0` edges
  have zU := Rat.le_trans (neg_le_abs _) (ok ("u", "v") (by rw [basic]; decide))
  have zX := Rat.le_trans (neg_le_abs _) (ok ("x", "y") (by rw [basic]; decide))
  rw [f_uv] at zU
  rw [f_xy] at zX
  have wU := fl (givenW ws) "u" ["s0", "s1"] ["v"] (by decide)
  have sU := fl sl "u" ["s0", "s1"] ["v"] (by decide)
  have wX := fl (givenW ws) "x" ["s2", "v"] ["y"] (by decide)
  have sX := fl sl "x" ["s2", "v"] ["y"] (by decide)
  have s0 := fl sl "s0" ["source"] ["u"] (by decide)
  have s1 := fl sl "s1" ["source"] ["u"] (by decide)
  have s2 := fl sl "s2" ["source"] ["x"] (by decide)
  have src := explained_src_le hwf P sl 3 fun i hi => ⟨hr i hi, hb.nonneg i hi⟩
  rw [← sum_succ, show aug.g.succ aug.source = ["s0", "s1", "s2"] by decide] at src
  simp only [List.map_cons, List.map_nil, List.sum_cons, List.sum_nil, Rat.add_zero] at wU sU wX sX s0 s1 s2 src
  obtain ⟨e0, e1⟩ := eq_arith _ _ _ _ _ _ (hnn ("s0", "u")) (hnn ("s1", "u")) zU wU sU
  obtain ⟨e2, _⟩ := eq_arith _ _ _ _ _ _ (hnn ("s2", "x")) (hnn ("v", "x")) zX wX sX
  have used : ∀ e ∈ inp.ei.basicEdges, inp.ei.fi.f e = 1 →
      explained aug 3 P sl e = explained aug 3 P (givenW ws) e → 15 ≤ explained aug 3 P sl e := by
    intro e he hf heq
    obtain ⟨n, _, hn⟩ := explained_const hwf P (givenW ws) 15 e 3 fun i hi => ⟨hr i hi, gw i hi⟩
    have := ok e he
    rw [hf, heq, hn] at this
    rw [heq, hn]
    exact start_arith n this
  have u0 := used ("s0", "u") (by rw [basic]; decide) f_s0u e0
  have u1 := used ("s1", "u") (by rw [basic]; decide) f_s1u e1
  have u2 := used ("s2", "x") (by rw [basic]; decide) f_s2x e2
  show 45 ≤ ((List.range 3).map sl).sum
  have hs : aug.source = "source" := rfl
  rw [hs, s0, s1, s2] at src
  exact sum_arith _ _ _ _ u0 u1 u2 src

theorem lp_lower_bound (a : Asg) (hsat : Sat a (kmpeGivenLP inp ws 3)) :
    45 ≤ evalTerms a (kmpeGivenLP inp ws 3).obj := by
  obtain ⟨ps, _, _, hbd, _, _, _, hobj⟩ := kmpe_given_sound inp ws 3 a base_wf base_acyclic rfl hsat
  rw [hobj]
  exact lower_bound _ _ hbd

end FP.GivenExampleMPE

/-! A satisfying assignment of the given-weights LP *with* path-length factors:
`a → b → c`, `f = (4, 1)`, `weight_type = int`, `solution_weights_superset = [2]` (so `k = 1`,
`w_max = max(1·4, 2) = 4`), `path_length_ranges = [[0, 1000]]`, `path_length_factors = [2]`: the route
`a b c` (4 edges in the augmented graph) with slack `1`, length factor `2`, scaled slack `2`,
`gamma = 2` on both edges (`|4 − 2| ≤ 2`, `|1 − 2| ≤ 2`). All 25 columns (positions, piecewise selector,
bits and components of the integer × continuous product included) are given explicitly and the 45 rows are
checked one by one. -/
namespace FP.GivenExampleMPE.Factors
open FP FP.Spec

def fi0 : FlowInput :=
  { base := ErrExample.base, flow := [(("a", "b"), 4), (("b", "c"), 1)], weightInt := true,
    cfg := { k := 1, encodePosition := true } }
def ws : List Rat := [2]
def inp : MpeInput :=
  { ei := ({ fi := fi0 } : ErrInput).forGiven ws, ranges := [(0, 1000)], factors := [2] }

def asg : Asg := fun v =>
  match v with
  | .uvi pfx u _ _ =>
    if pfx = "edge" then 1
    else if pfx = "position" then (if u = "source" then 0 else if u = "a" then 1 else if u = "b" then 2 else 3)
    else if pfx = "gamma" then (if u = "a" ∨ u = "b" then 2 else 0)
    else 0
  | .ix pfx i =>
    if pfx = "path_length" then 4
    else if pfx = "slack" then 1
    else if pfx = "path_slack_scaled" then 2
    else if pfx = "z_error_scale_0" then 1
    else if pfx = "scaled_slack" then 2
    else if pfx = "binary_scaled_slack_i0" then (if i = 0 then 1 else 0)
    else if pfx = "comp_scaled_slack_i0" then (if i = 0 then 2 else 0)
    else 0
  | _ => 0

theorem sat : Sat asg (kmpeGivenLP inp ws 1) :=
  satCheck_sound _ _ (by decide +kernel)

example : (kmpeGivenLP inp ws 1).cols.length = 25 ∧ (kmpeGivenLP inp ws 1).rows.length = 45 := by
  decide +kernel

theorem decode : decodeLayer inp.ei.st (fun e i => asg (edgeVar e i)) 0 = some ["a", "b", "c"] := by
  decide +kernel

theorem hyps : inp.factors ≠ [] ∧ inp.ranges.length = inp.factors.length ∧ (∀ r ∈ inp.ranges, r.1 ≤ r.2) ∧
    0 ≤ listMin inp.factors ∧ listMax inp.factors ≤ inp.ei.wmax (some ws) * listMax inp.factors := by
  decide +kernel

end FP.GivenExampleMPE.Factors
