import FP.Proofs.KLAE
/-!
User DAG `a → b → c` with values `f(a,b) = 4`, `f(b,c) = 1`, `error_scaling = {(a,b): 1/2}`, `k = 1`,
`weight_type = int`. The only route is `a, b, c`; with weight 1 the errors are `3` on `(a,b)` and `0`
on `(b,c)`: scaled total `3/2`, unscaled total `3`. Used for the non-vacuity examples of C07 / C08
and for the objective-inconsistency witness.

(`decide` gets stuck on `Rat` arithmetic — `Rat.mul`/`Rat.add` normalise through `Nat.gcd` — so closed
arithmetic is evaluated by `decide +kernel`; `half` is the normal form of `1/2`.)
-/
namespace FP.ErrExample
open FP FP.Spec

def half : Rat := ⟨1, 2, by decide, by decide⟩

def base : Graph := { nodes := ["a", "b", "c"], edges := [("a", "b"), ("b", "c")] }

theorem base_wf : BaseWF base := by decide +kernel

def rank : Node → Nat := fun v => if v = "a" then 0 else if v = "b" then 1 else 2
theorem base_acyclic : Acyclic base := ⟨rank, by decide⟩

/-- `encodePosition` is on (as `kMinPathError` forces it; harmless for `kLeastAbsErrors`) -/
def fi : FlowInput :=
  { base := base, flow := [(("a", "b"), 4), (("b", "c"), 1)], weightInt := true,
    cfg := { k := 1, encodePosition := true } }

def inp : ErrInput := { fi := fi, scaling := [(("a", "b"), half)] }
def mpe : MpeInput := { ei := inp }

def P : Nat → List Node := fun _ => ["a", "b", "c"]
def w : Nat → Rat := fun _ => 1
/-- slack 2 covers `|4 − 1| · 1/2 = 3/2` (integral slacks) -/
def sl : Nat → Rat := fun _ => 2

theorem w0 (i : Nat) : 0 ≤ w i := by show (0:Rat) ≤ 1; decide
theorem w4 (i : Nat) : w i ≤ 4 := by show (1:Rat) ≤ 4; decide
theorem wint (i : Nat) : IsInt (w i) := ⟨1, by show (1:Rat) = ((1:Int):Rat); simp⟩
/-- one kernel evaluation for the finite facts about `inp` with the route `P`, weight `w` and slack `sl` -/
theorem table : inp.basicEdges = [("a", "b"), ("b", "c")] ∧ inp.wmax none = 4 ∧
    (∀ e ∈ inp.basicEdges, LAE.absErr inp P w e ≤ inp.wmax none) ∧
    (∀ e ∈ inp.basicEdges, inp.fi.f e = ((inp.fi.f e).num : Int)) ∧
    (∀ e ∈ inp.basicEdges, 0 ≤ inp.scale e ∧ inp.scale e ≤ 1) ∧
    (∀ e ∈ inp.basicEdges, 0 ≤ inp.fi.f e ∧ inp.fi.f e ≤ inp.fmax) ∧
    LAE.totalErr inp P w = 3/2 ∧ (inp.basicEdges.map fun e => LAE.absErr inp P w e).sum = 3 ∧
    (∀ e ∈ mpe.ei.basicEdges, MPE.SlackOK mpe.ei P w sl e) ∧
    ∀ e ∈ mpe.ei.basicEdges, trav mpe.ei.st (P 0) e = 1 := by
  unfold LAE.absErr MPE.SlackOK
  decide +kernel

theorem basic : inp.basicEdges = [("a", "b"), ("b", "c")] := table.1
theorem f_ab : inp.fi.f ("a", "b") = 4 := by decide
theorem f_bc : inp.fi.f ("b", "c") = 1 := by decide
theorem sc_ab : inp.scale ("a", "b") = 1/2 := by decide +kernel
theorem sc_bc : inp.scale ("b", "c") = 1 := by decide
theorem wmax4 : inp.wmax none = 4 := table.2.1

theorem valid : ValidRoute base [] [] ["a", "b", "c"] := validRoute_of_check _ _ _ _ (by decide)

theorem route (ae : Bool) : Route inp.st ae ["a", "b", "c"] :=
  route_of_validRoute [] [] base_wf base_acyclic ae valid

theorem solution : LAE.Solution inp P w where
  routes := fun _ _ => route _
  nonneg := fun i _ => w0 i
  integral := fun _ i _ => wint i

theorem bounded : LAE.Bounded inp P w where
  toSolution := solution
  wle := fun i _ => by rw [wmax4]; exact w4 i
  errle := table.2.2.1

theorem flows_int : inp.fi.weightInt = true → ∀ e ∈ inp.basicEdges, IsInt (inp.fi.f e) :=
  fun _ e he => ⟨_, table.2.2.2.1 e he⟩

theorem scale_nonneg : ∀ e ∈ inp.basicEdges, 0 ≤ inp.scale e ∧ inp.scale e ≤ 1 := table.2.2.2.2.1

theorem flows_ok : ∀ e ∈ inp.basicEdges, 0 ≤ inp.fi.f e ∧ inp.fi.f e ≤ inp.fmax := table.2.2.2.2.2.1

theorem totalErr_val : LAE.totalErr inp P w = 3/2 := table.2.2.2.2.2.2.1

theorem sumErr_val : (inp.basicEdges.map fun e => LAE.absErr inp P w e).sum = 3 := table.2.2.2.2.2.2.2.1

theorem mpe_bounded : MPE.Bounded mpe.ei P w sl where
  routes := fun _ _ => route _
  nonneg := fun i _ => ⟨w0 i, by show (0:Rat) ≤ 2; decide⟩
  integral := fun _ i _ => ⟨wint i, 2, by show (2:Rat) = ((2:Int):Rat); simp⟩
  slackOK := table.2.2.2.2.2.2.2.2.1
  wle := fun i _ => by
    show w i ≤ inp.wmax none ∧ sl i ≤ inp.wmax none
    rw [wmax4]; exact ⟨w4 i, by show (2:Rat) ≤ 4; decide⟩

theorem covers : MPE.Covers mpe.ei P :=
  fun e he => ⟨0, by decide, table.2.2.2.2.2.2.2.2.2 e he⟩

/-- a layer that may not stay empty runs through both edges -/
theorem path_forced {x : Edge → Rat} (hf : LayerFacts (augment base [] []) false x) :
    x ("a", "b") = 1 ∧ x ("b", "c") = 1 := by
  have hsrc := layer_src_eq hf ["a"] (by decide)
  have ca := conserved_at hf.cons "a" ["source"] ["b"] (by decide)
  have cb := conserved_at hf.cons "b" ["a"] ["c"] (by decide)
  simp only [List.map_cons, List.map_nil, List.sum_cons, List.sum_nil, Rat.add_zero] at hsrc ca cb
  have hab := ca.symm.trans hsrc
  exact ⟨hab, cb.symm.trans hab⟩

theorem range_k : List.range inp.k = [0] := by decide

/-- the arithmetic of the instance: the error rows `|4 − x| ≤ e1`, `|1 − x| ≤ e2` and an objective
`e1/2 + e2` of at most `3/2` leave only `e1 = 3`, `e2 = 0` -/
theorem opt_arith (e1 e2 x : Rat) (h1 : 4 - x ≤ e1 ∧ -(4 - x) ≤ e1) (h2 : 1 - x ≤ e2 ∧ -(1 - x) ≤ e2)
    (hle : 1/2 * e1 + (1 * e2 + 0) ≤ 3/2) : e1 = 3 ∧ e2 = 0 := by
  grind

/-- `get_objective_value` has to apply `error_scaling`, as it does (fix 1c464ac): at every optimum of the
instance the solver's and the reported objective are `3/2`, whereas the unscaled sum of the error columns
is `3`, which `is_valid_solution()` would reject -/
theorem every_optimum_consistent (a : Asg) (hsat : Sat a (klaeLP inp))
    (hopt : ∀ a', Sat a' (klaeLP inp) → evalTerms a (klaeLP inp).obj ≤ evalTerms a' (klaeLP inp).obj) :
    a (eeVar ("a", "b")) = 3 ∧ a (eeVar ("b", "c")) = 0 ∧
      evalTerms a (klaeLP inp).obj = 3/2 ∧ reportedObjective inp a = 3/2 ∧ unscaledErrorSum inp a = 3 := by
  obtain ⟨henc, _, _, _, hbin, herr⟩ := (klae_sat_iff inp a).1 hsat
  obtain ⟨hxab, hxbc⟩ := path_forced (layerFacts_of_sat henc (i := 0) (by decide))
  have hab : ("a", "b") ∈ inp.basicEdges := by rw [basic]; simp
  have hbc : ("b", "c") ∈ inp.basicEdges := by rw [basic]; simp
  have hpab := binProd_sound _ _ (Or.inr hxab) (hbin _ hab 0 (by decide))
  have hpbc := binProd_sound _ _ (Or.inr hxbc) (hbin _ hbc 0 (by decide))
  rw [hxab, Rat.one_mul] at hpab
  rw [hxbc, Rat.one_mul] at hpbc
  -- the error rows: `|4 − w| ≤ ee(a,b)`, `|1 − w| ≤ ee(b,c)`
  have h1 := herr _ hab
  have h2 := herr _ hbc
  rw [evalTerms_ones, range_k, abs_le_iff] at h1 h2
  simp only [List.map_cons, List.map_nil, List.sum_cons, List.sum_nil, hpab, hpbc, f_ab, f_bc] at h1 h2
  -- a witness of value 3/2 bounds the objective `ee(a,b)/2 + ee(b,c)`
  obtain ⟨a0, hsat0, _, _, _, hobj0⟩ := klae_complete inp P w base_wf base_acyclic rfl rfl flows_int bounded
  have hobj : evalTerms a (klaeLP inp).obj = _ := klaeObj_eval inp a
  rw [basic] at hobj
  simp only [List.map_cons, List.map_nil, List.sum_cons, List.sum_nil, sc_ab, sc_bc] at hobj
  have hle := hopt a0 hsat0
  rw [hobj0, totalErr_val, hobj] at hle
  have hun : unscaledErrorSum inp a = a (eeVar ("a", "b")) + (a (eeVar ("b", "c")) + 0) := by
    unfold unscaledErrorSum; rw [basic]; rfl
  rw [objective_consistent, hun, hobj]
  obtain ⟨he1, he2⟩ := opt_arith _ _ _ h1 h2 hle
  rw [he1, he2]
  exact ⟨rfl, rfl, by decide +kernel, by decide +kernel, by decide +kernel⟩

end FP.ErrExample
