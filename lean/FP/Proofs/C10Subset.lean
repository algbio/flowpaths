import FP.Proofs.WalkCore
import FP.Proofs.WalkCoreComplete
import FP.Proofs.PathCoreEnc
/-!
The two `min1` rows make `used_edge(e,i)` the indicator of `edge(e,i) ≥ 1`; through it the layer
responsible for a subset constraint traverses the requested fraction of the constraint's *distinct* edges
(`subset_constraint_honoured` on the edge columns, `subset_constraint_covered` on the decoded walk). At coverage 1
`coversB` says that every edge of the constraint is used (`coversB_of_all`, `all_of_coversB`).
Conversely (`subsetAsg_complete`) a solution of `_encode_walks` that covers every subset constraint in some layer satisfies the block with
new values on the `r` / `used_edge` columns (`subsetAsg`), every other column unchanged.
-/
namespace FP
open FP.Spec

/-- the two rows `min1_le_x` and `x_le_Ue_min1` of `_encode_subset_constraints` -/
def min1Rows (e : Edge) (i : Nat) (ub : Rat) : List Row :=
  [ rowLe [(1, usedVar e i), (-1, edgeVar e i)] 0,
    rowLe [(1, edgeVar e i), (-ub, usedVar e i)] 0 ]

theorem min1Rows_hold_iff (a : Asg) (e : Edge) (i : Nat) (ub : Rat) :
    (∀ r ∈ min1Rows e i ub, r.holds a) ↔
      a (usedVar e i) ≤ a (edgeVar e i) ∧ a (edgeVar e i) ≤ ub * a (usedVar e i) := by
  simp only [min1Rows, List.mem_cons, List.not_mem_nil, or_false, forall_eq_or_imp, forall_eq,
    rowLe_pair_holds, Rat.one_mul]

theorem used_indicator_of_le (u x ub : Rat) (hu : u = 0 ∨ u = 1) (hx0 : 0 ≤ x) (h1 : u ≤ x)
    (h2 : x ≤ ub * u) : (u = 1 ↔ 1 ≤ x) ∧ (u = 0 ↔ x = 0) := by
  rcases hu with hu | hu <;> rw [hu] at h1 h2 ⊢
  · have hx : x = 0 := Rat.le_antisymm (by rwa [Rat.mul_zero] at h2) hx0
    rw [hx]
    exact ⟨⟨fun h => absurd h (by decide), fun h => absurd h (by decide)⟩, ⟨fun _ => rfl, fun _ => rfl⟩⟩
  · exact ⟨⟨fun _ => h1, fun _ => rfl⟩,
      ⟨fun h => absurd h (by decide), fun h => absurd (h ▸ h1) (by decide)⟩⟩

theorem used_indicator_exact (a : Asg) (e : Edge) (i : Nat) (ub : Rat)
    (hu : a (usedVar e i) = 0 ∨ a (usedVar e i) = 1) (hx0 : 0 ≤ a (edgeVar e i))
    (hrows : ∀ r ∈ min1Rows e i ub, r.holds a) :
    (a (usedVar e i) = 1 ↔ 1 ≤ a (edgeVar e i)) ∧ (a (usedVar e i) = 0 ↔ a (edgeVar e i) = 0) :=
  have h := (min1Rows_hold_iff a e i ub).1 hrows
  used_indicator_of_le _ _ ub hu hx0 h.1 h.2

theorem used_indicator_complete (a : Asg) (e : Edge) (i : Nat) (ub : Rat)
    (hz : ∃ z : Int, a (edgeVar e i) = z) (hx0 : 0 ≤ a (edgeVar e i)) (hub : a (edgeVar e i) ≤ ub)
    (hu : a (usedVar e i) = if 1 ≤ a (edgeVar e i) then 1 else 0) :
    ∀ r ∈ min1Rows e i ub, r.holds a := by
  rw [min1Rows_hold_iff, hu]
  split
  · rw [Rat.mul_one]; exact ⟨‹_›, hub⟩
  · -- an integer in `[0, 1)` is 0
    obtain ⟨z, hz⟩ := hz
    have hz0 : (0 : Int) ≤ z := by rw [hz] at hx0; exact Rat.intCast_nonneg.1 hx0
    have hz1 : ¬ (1 : Int) ≤ z := fun h => ‹¬ 1 ≤ a (edgeVar e i)› (by
      rw [hz]; exact_mod_cast Rat.intCast_le_intCast.2 h)
    have hzz : z = 0 := by omega
    rw [hz, hzz, Rat.mul_zero]
    exact ⟨Rat.le_refl, Rat.le_refl⟩

theorem subset_constraint_honoured (s : STGraph) (c : WalkCfg) (ub : Edge → Rat) (a : Asg)
    (hsat : Sat a (walkCore s c ub)) (j : Nat) (hj : j < c.constraints.length)
    (hedges : ∀ e ∈ c.constraints[j], e ∈ s.g.edges) :
    ∃ i, i < c.k ∧ a (rVar i j) = 1 ∧
      (c.constraints[j].eraseDups.length : Rat) * c.coverage ≤
        ((c.constraints[j].eraseDups.countP (fun e => decide (1 ≤ a (edgeVar e i))) : Nat) : Rat) := by
  have hne : c.constraints.isEmpty = false := by
    cases hc : c.constraints.isEmpty
    · rfl
    · rw [List.isEmpty_iff.1 hc] at hj; exact absurd hj (Nat.not_lt_zero _)
  obtain ⟨F, h7b⟩ := (sat_subsetBlock_iff s c ub a).1 (sat_append_right hsat) hne
  obtain ⟨i, hi, hr⟩ := exists_responsible a c.k j (fun i hi => (F i hi).rCol j hj) (h7b j hj)
  refine ⟨i, hi, hr, ?_⟩
  have h0 := (F i hi).r7a j hj
  rw [hr, Rat.mul_one, ← Rat.sub_eq_add_neg] at h0
  rw [← sum_ind_eq_countP]
  refine Rat.le_trans ((Rat.le_iff_sub_nonneg _ _).2 h0) (sum_map_le fun e he => ?_)
  have hee : e ∈ s.g.edges := hedges e (List.mem_eraseDups.1 he)
  have hub := (F i hi).usedCol e hee
  have hmin := (F i hi).min1 e hee
  rw [Rat.one_mul] at hmin
  have hx0 := (encFacts_of_sat (sat_append_left hsat) hi).edgeCol e hee
  have hex := used_indicator_of_le _ _ (ub e) hub hx0.1 hmin.1 hmin.2
  simp only [decide_eq_true_eq]
  split
  · rw [hex.1.2 ‹_›]; exact Rat.le_refl
  · rcases hub with h | h
    · rw [h]; exact Rat.le_refl
    · exact absurd (hex.1.1 h) ‹_›

theorem coversB_of_all (mi : Edge → Nat) (con : List Edge) (cov : Rat) (hcov : cov ≤ 1)
    (h : ∀ e ∈ con, mi e ≠ 0) : coversB mi con cov = true := by
  unfold coversB
  apply decide_eq_true
  rw [sum_map_eq_length (fun e he => by simp [h e (List.mem_eraseDups.1 he)])]
  exact mul_le_self_of_le_one Rat.natCast_nonneg hcov

theorem all_of_coversB (mi : Edge → Nat) (con : List Edge) (cov : Rat) (hcov : 1 ≤ cov)
    (h : coversB mi con cov = true) : ∀ e ∈ con, mi e ≠ 0 := by
  unfold coversB at h
  have hlen := Rat.mul_le_mul_of_nonneg_left hcov (Rat.natCast_nonneg (a := con.eraseDups.length))
  rw [Rat.mul_one] at hlen
  have hall := all_one_of_sum_ge_length (fun e _ => by split <;> decide)
    (Rat.le_trans hlen (of_decide_eq_true h))
  intro e he hz
  have h2 := hall e (List.mem_eraseDups.2 he)
  rw [if_pos hz] at h2
  exact absurd h2 (by decide)

theorem subset_constraint_covered (s : STGraph) (c : WalkCfg) (ub : Edge → Rat) (a : Asg) (hwf : STWFc s)
    (hsat : Sat a (walkCore s c ub)) (j : Nat) (hj : j < c.constraints.length)
    (hedges : ∀ e ∈ c.constraints[j], e ∈ s.g.edges) :
    ∃ i, i < c.k ∧
      coversB (fun e => traversals (s.source :: decodeWalkLayer s a i ++ [s.sink]) e) c.constraints[j] c.coverage
        = true := by
  have henc := sat_append_left hsat
  obtain ⟨i, hi, _, hle⟩ := subset_constraint_honoured s c ub a hsat j hj hedges
  refine ⟨i, hi, decide_eq_true (Rat.le_trans hle ?_)⟩
  -- termwise: an edge column that is at least 1 is a positive traversal count
  rw [← sum_ind_eq_countP]
  refine sum_map_le fun e he => ?_
  have hee := hedges e (List.mem_eraseDups.1 he)
  split
  · rename_i h1
    have hne : traversals (s.source :: decodeWalkLayer s a i ++ [s.sink]) e ≠ 0 := by
      rw [(walkcore_layer_mults s ub a hwf henc i hi e hee).1]
      exact (edge_col_one_le_iff henc hi hee).1 (of_decide_eq_true h1)
    rw [if_neg hne]; exact Rat.le_refl
  · split <;> decide

/-- new values for the `used_edge` and `r` columns: the indicator of a positive multiplicity, and "layer
`i` covers constraint `j` to the required fraction"; every other column keeps its value -/
def subsetAsg (a : Asg) (cons : List (List Edge)) (cov : Rat) : Asg := fun v =>
  match v with
  | .uvi p x y i => if p = "used_edge" then (if multOf a i (x, y) = 0 then 0 else 1) else a v
  | .ij p i j => if p = "r" then (if coversB (multOf a i) (cons.getD j []) cov then 1 else 0) else a v
  | _ => a v

theorem subsetAsg_edge (a : Asg) (cons : List (List Edge)) (cov : Rat) (e : Edge) (i : Nat) :
    subsetAsg a cons cov (edgeVar e i) = a (edgeVar e i) := by simp [subsetAsg, edgeVar]

theorem subsetAsg_sel (a : Asg) (cons : List (List Edge)) (cov : Rat) (e : Edge) (i : Nat) :
    subsetAsg a cons cov (selVar e i) = a (selVar e i) := by simp [subsetAsg, selVar]

theorem subsetAsg_dist (a : Asg) (cons : List (List Edge)) (cov : Rat) (v : Node) (i : Nat) :
    subsetAsg a cons cov (distVar v i) = a (distVar v i) := by simp [subsetAsg, distVar]

theorem subsetAsg_used (a : Asg) (cons : List (List Edge)) (cov : Rat) (e : Edge) (i : Nat) :
    subsetAsg a cons cov (usedVar e i) = if multOf a i e = 0 then 0 else 1 := by simp [subsetAsg, usedVar]

theorem subsetAsg_r (a : Asg) (cons : List (List Edge)) (cov : Rat) (i j : Nat) :
    subsetAsg a cons cov (rVar i j) = if coversB (multOf a i) (cons.getD j []) cov then 1 else 0 := by
  simp [subsetAsg, rVar]

theorem subsetAsg_pi (a : Asg) (cons : List (List Edge)) (cov : Rat) (e : Edge) (i : Nat) :
    subsetAsg a cons cov (piVar e i) = a (piVar e i) := by simp [subsetAsg, piVar]

theorem subsetAsg_other (a : Asg) (cons : List (List Edge)) (cov : Rat) (v : Var)
    (hr : ∀ i j, v ≠ rVar i j) (hu : ∀ e i, v ≠ usedVar e i) : subsetAsg a cons cov v = a v := by
  unfold subsetAsg
  cases v with
  | uvi p x y i =>
    by_cases hp : p = "used_edge"
    · subst hp; exact absurd rfl (hu (x, y) i)
    · simp [hp]
  | ij p i j =>
    by_cases hp : p = "r"
    · subst hp; exact absurd rfl (hr i j)
    · simp [hp]
  | _ => rfl

theorem subsetAsg_complete (s : STGraph) (c : WalkCfg) (ub : Edge → Rat) (a : Asg)
    (hsat : Sat a (encodeWalks s c ub))
    (hcov : ∀ j (hj : j < c.constraints.length), ∃ i, i < c.k ∧
      (∀ e ∈ c.constraints[j], e ∈ s.g.edges) ∧
      (c.constraints[j].eraseDups.length : Rat) * c.coverage ≤
        ((c.constraints[j].eraseDups.countP (fun e => decide (1 ≤ a (edgeVar e i))) : Nat) : Rat)) :
    Sat (subsetAsg a c.constraints c.coverage) (walkCore s c ub) := by
  have hm : ∀ i, i < c.k → ∀ e ∈ s.g.edges, a (edgeVar e i) = (multOf a i e : Rat) :=
    fun i hi e he => edge_col hsat hi he
  refine sat_append
    (encodeWalks_transfer s c ub id (fun _ hi => hi) a _ (subsetAsg_edge a _ _) (subsetAsg_sel a _ _) (subsetAsg_dist a _ _) hsat)
    (subsetBlock_sat s c ub _ (fun i => multOf a i) (fun i hi e he => ?_)
      (fun i hi e he => (subsetAsg_edge a _ _ e i).trans (hm i hi e he))
      (fun i _ e => subsetAsg_used a _ _ e i) (fun i _ j hj => ?_) (fun j hj => ?_))
  · -- the row `edge ≤ ub·used_edge`: `edge(e,i) ≤ ub e` is a column bound of `_encode_walks`
    rw [← hm i hi e he]
    exact ((encFacts_of_sat hsat hi).edgeCol e he).2.1
  · rw [subsetAsg_r, getD_eq_getElem _ [] hj]
  · obtain ⟨i, hi, hed, hle⟩ := hcov j hj
    refine ⟨i, hi, decide_eq_true ?_⟩
    -- on graph edges "multiplicity non-zero" is `1 ≤ edge(e,i)`, so the sum of indicators is the count
    have hsum : (c.constraints[j].eraseDups.map fun e => if multOf a i e = 0 then (0 : Rat) else 1).sum
        = ((c.constraints[j].eraseDups.countP (fun e => decide (1 ≤ a (edgeVar e i))) : Nat) : Rat) := by
      rw [← sum_ind_eq_countP]
      refine congrArg List.sum (List.map_congr_left fun e he => ?_)
      have hee : e ∈ s.g.edges := hed e (List.mem_eraseDups.1 he)
      by_cases hz : multOf a i e = 0 <;> simp [hz, edge_col_one_le_iff hsat hi hee]
    rw [hsum]
    exact hle

end FP
