import FP.Proofs.NodeExpandKFD
/-!
What the equalities "node mode is edge mode on the explicit expansion" of `FP.Props.C11` rest on for `kPathCover`,
`kLeastAbsErrors` and `kMinPathError` (the theorems themselves are stated there): an accepted node branch hands
`nxmTranslated` to the edge-level generator (`nx_stages_ok`, `nxm_translate_ok`), that record and the explicit expansion
agree in the sense of `FlowAgree`, and each generator reads the ignore list only as a set and the values of non-ignored
edges only (`kcoverLP_congr_on`, `klaeLP_congr_on`, `kmpeLP_congr_on`; `nxm_errAgree` supplies their hypothesis).
`_encode_paths` reads the length attribute only on the edges of the subpath constraints (when
`subpath_constraints_coverage_length` is set) and, with `encode_edge_position`, on all edges.
-/
namespace FP
namespace NX

/-- the five translations every node branch starts with (constraints, starts, ends, ignored nodes, error scaling): a run
that gets through them continues with the specification's translations. Stated on the nested `match` as the model files
write it, so that it applies to `nodeTranslateGen` and `nxcTranslate` as they unfold. -/
theorem nx_stages_ok {α} {g : Graph} {inp : NodeModeInput}
    {k : List (List Edge) → List Node → List Node → List Edge → List (Edge × Rat) → Except String α} {r : α}
    (h : ((match expandConstraints g inp.nf.constraints with
      | .error e => .error e
      | .ok cons =>
        match expandStarts g inp.starts with
        | .error e => .error e
        | .ok xs =>
          match expandEnds g inp.ends with
          | .error e => .error e
          | .ok xe =>
            match inp.nf.ignoreNodes.mapM (expandedNode g) with
            | .error e => .error e
            | .ok ign =>
              match expandScaling g inp.scaling with
              | .error e => .error e
              | .ok sc => k cons xs xe ign sc) : Except String α) = .ok r) :
    k (specConstraints inp.nf.constraints) (inp.starts.map n0) (inp.ends.map n1) (inp.nf.ignoreNodes.map nodeEdge)
      (inp.scaling.map fun p => (nodeEdge p.1, p.2)) = .ok r := by
  split at h
  · cases h
  rename_i cons hc
  split at h
  · cases h
  rename_i xs hs
  split at h
  · cases h
  rename_i xe he
  split at h
  · cases h
  rename_i ign hi
  split at h
  · cases h
  rename_i sc hsc
  obtain rfl := expandConstraints_ok hc
  obtain ⟨rfl, _⟩ := expandStarts_ok hs
  obtain ⟨rfl, _⟩ := expandEnds_ok he
  obtain ⟨rfl, _⟩ := mapM_expandedNode_ok hi
  obtain rfl := expandScaling_ok hsc
  exact h

theorem nxm_translate_ok {inp : NodeModeInput} {ng : NodeGraph} {lengths : Option (List (Edge × Rat))}
    {pos : Bool} {ei : ErrInput} (h : nodeTranslateGen inp ng lengths pos = .ok ei) :
    ei = nxmTranslated inp ng lengths pos :=
  (Except.ok.inj (ite_error_ok (nx_stages_ok (ite_error_ok h).2)).2).symm

theorem nxm_errEdgeChecks_ok {sc : List (Node × Rat)} {ei ei' : ErrInput}
    (h : errEdgeChecks sc ei = .ok ei') : ei' = ei := by
  unfold errEdgeChecks at h
  replace h := (ite_error_ok h).2
  replace h := (ite_error_ok h).2
  exact (Except.ok.inj (ite_error_ok h).2).symm

theorem klaeNodeInternal_ok {inp : NodeModeInput} {ei : ErrInput} (h : klaeNodeInternal inp = .ok ei) :
    ei = nxmTranslated inp inp.nf.ng (expandLengths inp.nf.ng) false := by
  unfold klaeNodeInternal at h
  split at h
  · cases h
  rename_i ei0 ht
  obtain rfl := nxm_errEdgeChecks_ok h
  exact nxm_translate_ok ht

theorem kmpeNodeInternal_ok {inp : NodeMpeInput} {mi : MpeInput} (h : kmpeNodeInternal inp = .ok mi) :
    mi = { ei := nxmTranslated inp.nm inp.nm.nf.ng (expandLengths inp.nm.nf.ng) true, ranges := inp.ranges,
           factors := inp.factors } := by
  unfold kmpeNodeInternal at h
  split at h
  · cases h
  rename_i ei0 ht
  split at h
  · cases h
  rename_i ei1 hck
  split at h
  · cases h
  split at h
  · cases h
  obtain rfl := nxm_errEdgeChecks_ok hck
  obtain rfl := nxm_translate_ok ht
  exact (Except.ok.inj h).symm

theorem kcoverNodeInternal_ok {inp : NodeModeInput} {fi : FlowInput} (h : kcoverNodeInternal inp = .ok fi) :
    fi = (nxmTranslated inp (coverNG inp.nf.ng) (expandLengths inp.nf.ng) false).fi := by
  unfold kcoverNodeInternal at h
  split at h
  · cases h
  rename_i ei0 ht
  split at h
  · cases h
  obtain rfl := nxm_translate_ok ht
  exact (Except.ok.inj h).symm

theorem nxm_errAgree (a b : ErrInput) (h : FlowAgree a.fi b.fi) (hs : a.scaling = b.scaling) : ErrAgreeOn a b := by
  have hign : a.ignored = b.ignored := by
    funext e; unfold ErrInput.ignored; rw [h.ignored, hs]
  have hbasic : a.basicEdges = b.basicEdges := by
    unfold ErrInput.basicEdges ErrInput.st; rw [h.st, hign]
  refine ⟨hbasic, fun e he => ?_, fun e _ => by unfold ErrInput.scale; rw [hs]⟩
  have h2 : a.ignored e = false := by simpa using (List.mem_filter.1 he).2
  exact h.f e (Bool.or_eq_false_iff.1 h2).1

/-- `G[u][v].get(length_attr, 1)` -/
def lenAt (l : Option (List (Edge × Rat))) (e : Edge) : Rat :=
  match l with
  | none => 1
  | some l => lookupD l e 1

theorem nxm_len_eq (c : PathCfg) (e : Edge) : c.len e = lenAt c.lengths e := rfl

theorem subpathRow_len_congr (f g : Edge → Rat) (con : List Edge) (h : ∀ e ∈ con, f e = g e) (cl : Rat) (i : Nat)
    (r : Var) :
    rowGe (con.map (fun e => (f e, edgeVar e i)) ++ [(-((con.map f).sum * cl), r)]) 0
      = rowGe (con.map (fun e => (g e, edgeVar e i)) ++ [(-((con.map g).sum * cl), r)]) 0 := by
  rw [List.map_congr_left h, List.map_congr_left (g := fun e => (g e, edgeVar e i)) fun e he => by rw [h e he]]

theorem subpathBlock_len_congr (c : PathCfg) (l' : Option (List (Edge × Rat)))
    (hlen : c.coverageLength = none ∨
      ∀ con ∈ c.constraints, ∀ e ∈ con, lenAt c.lengths e = lenAt l' e) :
    subpathBlock c = subpathBlock { c with lengths := l' } := by
  unfold subpathBlock
  cases hcl : c.coverageLength with
  | none => rfl
  | some cl =>
    have hl : ∀ con ∈ c.constraints, ∀ e ∈ con, c.len e = PathCfg.len { c with lengths := l' } e :=
      hlen.resolve_left (by rw [hcl]; exact nofun)
    dsimp only
    congr 3
    · apply flatMap_congr
      intro i _
      apply List.map_congr_left
      rintro ⟨j, con⟩ hjc
      exact subpathRow_len_congr _ _ con (hl con (List.of_mem_zip hjc).2) cl i _

/-- without `encode_edge_position`, `_encode_paths` reads the length attribute only when
`subpath_constraints_coverage_length` is set, and then only on the edges of the constraints -/
theorem nxm_encodePaths_len_congr (s : STGraph) (c : PathCfg) (l' : Option (List (Edge × Rat)))
    (hpos : c.encodePosition = false)
    (hlen : c.coverageLength = none ∨
      ∀ con ∈ c.constraints, ∀ e ∈ con, lenAt c.lengths e = lenAt l' e) :
    encodePaths s c = encodePaths s { c with lengths := l' } := by
  have hposb : positionBlock s c = positionBlock s { c with lengths := l' } := by
    unfold positionBlock
    simp only [hpos, Bool.not_false, ↓reduceIte]
  unfold encodePaths
  rw [subpathBlock_len_congr c l' hlen, hposb]
  rfl

/-- `kcoverLP` reads the length attribute through `_encode_paths` only -/
theorem kcoverLP_lengths_congr (fi : FlowInput) (l' : Option (List (Edge × Rat))) (hpos : fi.cfg.encodePosition = false)
    (hlen : fi.cfg.coverageLength = none ∨ ∀ con ∈ fi.cfg.constraints, ∀ e ∈ con, lenAt fi.cfg.lengths e = lenAt l' e) :
    kcoverLP fi = kcoverLP { fi with cfg := { fi.cfg with lengths := l' } } :=
  congrArg (fun lp => LP.append lp _) (nxm_encodePaths_len_congr fi.st fi.cfg l' hpos hlen)

/-- `coverLengths` (the length attribute of an expansion built without `node_length_attr`) and `expandLengths` differ
on copies of original edges only -/
theorem nxm_len_nodeEdge (ng : NodeGraph) (v : Node) :
    lenAt (coverLengths ng) (nodeEdge v) = lenAt (expandLengths ng) (nodeEdge v) := by
  unfold coverLengths expandLengths lenAt
  cases ng.nodeLen with
  | none => rfl
  | some nl =>
    have hnone (f : Edge → Rat) : (ng.g.edges.map fun e => (edgeEdge e, f e)).lookup (nodeEdge v) = none := by
      have h := lookup_map_none edgeEdge (ng.g.edges.map fun e => (e, f e)) (nodeEdge v)
        (fun p _ h => nodeEdge_ne_edgeEdge _ _ h.symm)
      rw [List.map_map] at h
      exact h
    simp only [Option.map_some, lookupD, List.lookup_append, hnone]

end NX
end FP
