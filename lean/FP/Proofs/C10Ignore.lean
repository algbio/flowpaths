import FP.Model.Enc.IgnoreBlock
import FP.Model.Enc.KMPE
import FP.Proofs.LP
/-!
Each of `kfdLP`, `kcoverLP`, `klaeLP`, `kmpeLP` is `encodePaths` with a class part appended that is a function
of the list of non-ignored edges and is generated edge by edge (`BlockWise`). Ignoring `e` filters
that list, so it removes exactly `e`'s block (`BlockWise.delete`), and a smaller list gives fewer
rows (`BlockWise.subset`). Each generator reads its input only through the augmented graph, the path
configuration, the weight type, the list of non-ignored edges and the values on them (`kfdLP_congr_on`,
`kcoverLP_congr_on`, `klaeLP_congr_on`, `kmpeLP_congr_on`); an error scale of 0 (`ErrInput.scaleZero`) yields the
same non-ignored edges, flow and scales on them as ignoring (`scaleZero_agree`).
-/
namespace FP

/-- `R` is generated element by element: up to order, `R l` is the blocks `B x` of the elements of `l` -/
def BlockWise {α β} (R : List α → List β) (B : α → List β) : Prop :=
  ∀ l, (R l).Perm (l.flatMap B)

namespace BlockWise

theorem flatMap {α β} (B : α → List β) : BlockWise (fun l => l.flatMap B) B :=
  fun _ => .refl _

theorem map {α β} (g : α → β) : BlockWise (fun l => l.map g) (fun x => [g x]) :=
  fun _ => List.map_eq_flatMap ▸ .refl _

theorem append {α β} {R₁ R₂ : List α → List β} {B₁ B₂ : α → List β}
    (h₁ : BlockWise R₁ B₁) (h₂ : BlockWise R₂ B₂) :
    BlockWise (fun l => R₁ l ++ R₂ l) (fun x => B₁ x ++ B₂ x) := fun l => by
  refine ((h₁ l).append (h₂ l)).trans ?_
  induction l with
  | nil => exact .refl _
  | cons x l ih =>
    simp only [List.flatMap_cons]
    rw [List.append_assoc, List.append_assoc]
    exact ((List.perm_append_comm_assoc _ _ _).trans (ih.append_left _)).append_left _

theorem subset {α β} {R : List α → List β} {B : α → List β} (h : BlockWise R B)
    {l' l : List α} (hs : l' ⊆ l) : R l' ⊆ R l := fun _ hy =>
  let ⟨x, hx, hy⟩ := List.mem_flatMap.1 ((h l').mem_iff.1 hy)
  (h l).mem_iff.2 (List.mem_flatMap.2 ⟨x, hs hx, hy⟩)

theorem delete {α β} [BEq α] [LawfulBEq α] {R : List α → List β} {B : α → List β}
    (h : BlockWise R B) {l : List α} (hnd : l.Nodup) {e : α} (he : e ∈ l) :
    (R l).Perm (R (l.filter fun x => x != e) ++ B e) := by
  have hl : (l.flatMap B).Perm ((l.filter fun x => x != e).flatMap B ++ B e) := by
    rw [← hnd.erase_eq_filter]
    exact ((List.perm_cons_erase he).flatMap_right B).trans (List.flatMap_cons ▸ List.perm_append_comm)
  exact ((h l).trans hl).trans ((h _).symm.append_right _)

end BlockWise

theorem c10_perm_append_block {β} (E : List β) {R R' B : List β} (h : R.Perm (R' ++ B)) :
    (E ++ R).Perm ((E ++ R') ++ B) := by
  rw [List.append_assoc]; exact h.append_left E

theorem coupleBin_blockWise (k : Nat) (prod : Edge → Nat → Var) (cont : Nat → Var) (ub : Rat) :
    BlockWise (fun l => coupleBin l k prod cont ub) (fun e => coupleBin [e] k prod cont ub) := fun l => by
  simp only [coupleBin, List.flatMap_singleton]
  exact .refl _

theorem c10_filter_ignoreMore (l : List Edge) (ign ign' : Edge → Bool) (e : Edge)
    (h : ∀ x, ign' x = (ign x || x == e)) :
    l.filter (fun x => !ign' x) = (l.filter fun x => !ign x).filter (fun x => x != e) := by
  rw [List.filter_filter]
  apply List.filter_congr
  intro x _
  rw [h, Bool.not_or, Bool.and_comm]
  rfl

theorem ignoreMore_ignored (inp : FlowInput) (e e' : Edge) :
    (inp.ignoreMore e).ignored e' = (inp.ignored e' || e' == e) := by
  unfold FlowInput.ignored FlowInput.ignoreMore FlowInput.st
  simp only [List.contains_cons]
  rw [← Bool.or_assoc, Bool.or_right_comm]

theorem ignoreMore_active (inp : FlowInput) (e : Edge) :
    (inp.ignoreMore e).activeEdges = inp.activeEdges.filter (fun e' => e' != e) :=
  c10_filter_ignoreMore _ _ _ e (ignoreMore_ignored inp e)

-- the class part of `kfdLP`: columns (independent of the non-ignored edges) and rows as a function of their list
def kfdCols (s : STGraph) (k : Nat) (wm : Rat) (isInt : Bool) : List Col :=
  ((List.range k).flatMap fun i => s.g.edges.map fun e =>
      { v := piVar e i, lb := 0, ub := some wm, isInt := isInt })
    ++ (List.range k).map fun i => { v := wVar i, lb := 0, ub := some wm, isInt := isInt }

def kfdRowsOf (k : Nat) (f : Edge → Rat) (active : List Edge) (wm : Rat) : List Row :=
  coupleBin active k piVar wVar wm ++ active.map fun e => rowEq (ones (List.range k) (piVar e)) (f e)

theorem kfdLP_eq (inp : FlowInput) :
    kfdLP inp = (encodePaths inp.st inp.cfg).append
      { cols := kfdCols inp.st inp.cfg.k inp.wmax inp.weightInt,
        rows := kfdRowsOf inp.cfg.k inp.f inp.activeEdges inp.wmax } := rfl

/-- the weight bound needs no hypothesis of its own: it is the maximum of the flow over the non-ignored edges -/
theorem kfdLP_congr_on {a b : FlowInput} (hst : a.st = b.st) (hcfg : a.cfg = b.cfg)
    (hint : a.weightInt = b.weightInt) (hact : a.activeEdges = b.activeEdges)
    (hf : ∀ e ∈ a.activeEdges, a.f e = b.f e) : kfdLP a = kfdLP b := by
  have hw : a.wmax = b.wmax := by
    unfold FlowInput.wmax
    rw [← hact, List.map_congr_left hf]
  have hrows : ∀ wm, kfdRowsOf a.cfg.k a.f a.activeEdges wm = kfdRowsOf a.cfg.k b.f a.activeEdges wm :=
    fun _ => congrArg (_ ++ ·) (List.map_congr_left fun e he => congrArg (rowEq _) (hf e he))
  rw [kfdLP_eq, kfdLP_eq, hrows, hst, hcfg, hint, hact, hw]

theorem kfdRowsOf_blockWise (k : Nat) (f : Edge → Rat) (wm : Rat) :
    BlockWise (fun l => kfdRowsOf k f l wm)
      (fun e => coupleBin [e] k piVar wVar wm ++ [rowEq (ones (List.range k) (piVar e)) (f e)]) :=
  (coupleBin_blockWise _ _ _ _).append (.map _)

theorem kfd_ignore_filter (inp : FlowInput) (e : Edge) (hw : (inp.ignoreMore e).wmax = inp.wmax) :
    kfdLP (inp.ignoreMore e) = (encodePaths inp.st inp.cfg).append
      { cols := kfdCols inp.st inp.cfg.k inp.wmax inp.weightInt,
        rows := kfdRowsOf inp.cfg.k inp.f (inp.activeEdges.filter fun e' => e' != e) inp.wmax } := by
  rw [kfdLP_eq, hw, ignoreMore_active]
  rfl

theorem kfd_ignore_is_row_deletion (inp : FlowInput) (e : Edge) (hnd : inp.st.g.edges.Nodup)
    (he : e ∈ inp.activeEdges) (hw : (inp.ignoreMore e).wmax = inp.wmax) :
    (kfdLP (inp.ignoreMore e)).cols = (kfdLP inp).cols ∧
    (kfdLP (inp.ignoreMore e)).obj = (kfdLP inp).obj ∧
    (kfdLP inp).rows.Perm ((kfdLP (inp.ignoreMore e)).rows ++ kfdEdgeRows inp e) := by
  rw [kfd_ignore_filter inp e hw, kfdLP_eq]
  simp only [LP.append_cols, LP.append_obj, LP.append_rows, kfdEdgeRows, true_and]
  exact c10_perm_append_block _ ((kfdRowsOf_blockWise _ _ _).delete (hnd.sublist List.filter_sublist) he)

theorem kcoverLP_eq (inp : FlowInput) :
    kcoverLP inp = (encodePaths inp.st inp.cfg).append
      { rows := inp.activeEdges.map fun e => rowGe (ones (List.range inp.cfg.k) (edgeVar e)) 1 } := by
  unfold kcoverLP coverSkipped
  simp only [Bool.not_false]
  rw [List.filter_eq_self.2 (fun _ _ => rfl)]

theorem kcoverLP_congr_on {a b : FlowInput} (hst : a.st = b.st) (hcfg : a.cfg = b.cfg)
    (hact : a.activeEdges = b.activeEdges) : kcoverLP a = kcoverLP b := by
  rw [kcoverLP_eq, kcoverLP_eq, hst, hcfg, hact]

theorem kcover_ignore_filter (inp : FlowInput) (e : Edge) :
    kcoverLP (inp.ignoreMore e) = (encodePaths inp.st inp.cfg).append
      { rows := (inp.activeEdges.filter fun e' => e' != e).map fun e =>
          rowGe (ones (List.range inp.cfg.k) (edgeVar e)) 1 } := by
  rw [kcoverLP_eq, ignoreMore_active]
  rfl

/-- `kPathCover` has no flow attribute: the LP does not depend on `flow` at all -/
theorem kcover_flow_irrelevant (inp : FlowInput) (flow' : List (Edge × Rat)) :
    kcoverLP { inp with flow := flow' } = kcoverLP inp := rfl

theorem err_ignoreMore_ignored (inp : ErrInput) (e e' : Edge) :
    (inp.ignoreMore e).ignored e' = (inp.ignored e' || e' == e) := by
  unfold ErrInput.ignored ErrInput.ignoreMore
  simp only [ignoreMore_ignored]
  exact Bool.or_right_comm _ _ _

theorem err_ignoreMore_basic (inp : ErrInput) (e : Edge) :
    (inp.ignoreMore e).basicEdges = inp.basicEdges.filter (fun e' => e' != e) :=
  c10_filter_ignoreMore _ _ _ e (err_ignoreMore_ignored inp e)

def errCol (wm : Rat) (isInt : Bool) (e : Edge) : Col := { v := eeVar e, lb := 0, ub := some wm, isInt := isInt }

/-- the two error rows of one edge (`klaeEdgeRows` without its product block) -/
def klaeErrRows (k : Nat) (f : Edge → Rat) (e : Edge) : List Row :=
  [ rowLe (negTerms (ones (List.range k) (piVar e)) ++ [(-1, eeVar e)]) (-(f e)),
    rowLe (ones (List.range k) (piVar e) ++ [(-1, eeVar e)]) (f e) ]

/-- the class part of `klaeLP` as a function of the list `basic` of non-ignored edges -/
def klaePart (s : STGraph) (k : Nat) (isInt : Bool) (f sc : Edge → Rat) (basic : List Edge) (wm : Rat) : LP :=
  { cols := ((List.range k).flatMap fun i => s.g.edges.map fun e =>
        { v := piVar e i, lb := 0, ub := some wm, isInt := isInt })
      ++ ((List.range k).map fun i => { v := weightsVar i, lb := 0, ub := some wm, isInt := isInt })
      ++ basic.map (errCol wm isInt),
    rows := coupleBin basic k piVar weightsVar wm ++ basic.flatMap (klaeErrRows k f),
    obj := basic.map fun e => (sc e, eeVar e) }

theorem klaeRows_blockWise (k : Nat) (f : Edge → Rat) (wm : Rat) :
    BlockWise (fun l => coupleBin l k piVar weightsVar wm ++ l.flatMap (klaeErrRows k f))
      (fun e => coupleBin [e] k piVar weightsVar wm ++ klaeErrRows k f e) :=
  (coupleBin_blockWise _ _ _ _).append (.flatMap _)

theorem klaeLP_eq (inp : ErrInput) :
    klaeLP inp = (encodePaths inp.st inp.fi.cfg).append
      (klaePart inp.st inp.k inp.fi.weightInt inp.fi.f inp.scale inp.basicEdges (inp.wmax none)) := rfl

/-- what the error models read of their input besides graph, configuration and weight type: the list of
non-ignored edges, with flow and error scale on them -/
structure ErrAgreeOn (a b : ErrInput) : Prop where
  basic : a.basicEdges = b.basicEdges
  f : ∀ e ∈ a.basicEdges, a.fi.f e = b.fi.f e
  scale : ∀ e ∈ a.basicEdges, a.scale e = b.scale e

theorem ErrAgreeOn.wmax {a b : ErrInput} (h : ErrAgreeOn a b) (hcfg : a.fi.cfg = b.fi.cfg)
    (hint : a.fi.weightInt = b.fi.weightInt) : a.wmax none = b.wmax none := by
  unfold ErrInput.wmax ErrInput.cast ErrInput.k
  rw [← h.basic, List.map_congr_left h.f, hcfg, hint]

theorem klaeLP_congr_on {a b : ErrInput} (hst : a.st = b.st) (hcfg : a.fi.cfg = b.fi.cfg)
    (hint : a.fi.weightInt = b.fi.weightInt) (h : ErrAgreeOn a b) : klaeLP a = klaeLP b := by
  have hk : a.k = b.k := congrArg PathCfg.k hcfg
  have hrows : a.basicEdges.flatMap (klaeErrRows a.k a.fi.f) = a.basicEdges.flatMap (klaeErrRows a.k b.fi.f) :=
    flatMap_congr _ _ _ fun e he => by rw [klaeErrRows, klaeErrRows, h.f e he]
  have hobj : (a.basicEdges.map fun e => (a.scale e, eeVar e)) = a.basicEdges.map fun e => (b.scale e, eeVar e) :=
    List.map_congr_left fun e he => by rw [h.scale e he]
  rw [klaeLP_eq, klaeLP_eq, klaePart, klaePart, hrows, hobj, hst, hcfg, hint, hk, h.wmax hcfg hint, h.basic]

theorem klae_ignore_filter (inp : ErrInput) (e : Edge)
    (hw : (inp.ignoreMore e).wmax none = inp.wmax none) :
    klaeLP (inp.ignoreMore e) = (encodePaths inp.st inp.fi.cfg).append
      (klaePart inp.st inp.k inp.fi.weightInt inp.fi.f inp.scale
        (inp.basicEdges.filter fun e' => e' != e) (inp.wmax none)) := by
  rw [klaeLP_eq, hw, err_ignoreMore_basic]
  rfl

def ErrInput.scaleZero (inp : ErrInput) (e : Edge) : ErrInput := { inp with scaling := (e, 0) :: inp.scaling }

theorem scaleZero_basic (inp : ErrInput) (e : Edge) :
    (inp.scaleZero e).basicEdges = (inp.ignoreMore e).basicEdges := by
  refine List.filter_congr fun e' _ => congrArg (!·) ?_
  rw [err_ignoreMore_ignored]
  -- the new entry `(e, 0)` of the scaling dictionary is found exactly at `e' = e`
  show (inp.fi.ignored e' || ((e == e' && (0 : Rat) == 0) || inp.scaling.any _))
    = ((inp.fi.ignored e' || inp.scaling.any _) || e' == e)
  rw [show ((0 : Rat) == 0) = true from rfl, Bool.and_true, BEq.comm (a := e), ← Bool.or_assoc,
    Bool.or_right_comm]

theorem scaleZero_scale (inp : ErrInput) (e x : Edge) (hx : x ∈ (inp.ignoreMore e).basicEdges) :
    (inp.scaleZero e).scale x = (inp.ignoreMore e).scale x := by
  have hxe : x ≠ e := by
    rw [err_ignoreMore_basic] at hx
    simpa using (List.mem_filter.1 hx).2
  unfold ErrInput.scale ErrInput.scaleZero lookupD
  have hbeq : (x == e) = false := by simpa using hxe
  simp [List.lookup_cons, hbeq]
  rfl

theorem scaleZero_agree (inp : ErrInput) (e : Edge) : ErrAgreeOn (inp.scaleZero e) (inp.ignoreMore e) :=
  ⟨scaleZero_basic inp e, fun _ _ => rfl, fun x hx => scaleZero_scale inp e x (scaleZero_basic inp e ▸ hx)⟩

/-!
Columns and objective of `kmpeLP` do not depend on the set of non-ignored edges (given the weight
bound): `kmpeHead`. Its class rows `kmpeRows` are three per-edge blocks (product `pi`, product
`gamma`, the two error rows), so ignoring `e` deletes exactly `e`'s three blocks.
-/

def MpeInput.ignoreMore (inp : MpeInput) (e : Edge) : MpeInput := { inp with ei := inp.ei.ignoreMore e }

/-- `kMinPathError._encode_minpatherror_decomposition`, body of the edge loops for one edge -/
def kmpeEdgeRows (inp : MpeInput) (e : Edge) : List Row :=
  let k := inp.ei.k
  let wm := inp.ei.wmax none
  coupleBin [e] k piVar weightsVar wm ++ coupleBin [e] k gammaVar inp.slackFor wm
    ++ errRows (inp.ei.fi.f e) (inp.ei.scale e) (ones (List.range k) (piVar e)) (ones (List.range k) (gammaVar e))

/-- `kmpeLP` up to its class rows; `inp` is read by `factorBlock` (ranges and factors) only -/
def kmpeHead (s : STGraph) (cfg : PathCfg) (isInt : Bool) (inp : MpeInput) (k : Nat) (wm : Rat) : LP :=
  ((encodePaths s cfg).append
    { cols := ((List.range k).map fun i => { v := weightsVar i, lb := 0, ub := some wm, isInt := isInt })
        ++ ((List.range k).flatMap fun i => s.g.edges.map fun ed =>
            { v := piVar ed i, lb := 0, ub := some wm, isInt := isInt })
        ++ slackCols k wm isInt ++ gammaCols s k wm }).append (factorBlock inp k wm)

/-- the class rows of `kmpeLP` as a function of the list `basic` of non-ignored edges -/
def kmpeRows (k : Nat) (f sc : Edge → Rat) (slackFor : Nat → Var) (basic : List Edge) (wm : Rat) : List Row :=
  coupleBin basic k piVar weightsVar wm ++ coupleBin basic k gammaVar slackFor wm
    ++ basic.flatMap fun ed =>
      errRows (f ed) (sc ed) (ones (List.range k) (piVar ed)) (ones (List.range k) (gammaVar ed))

theorem kmpeLP_eq (inp : MpeInput) :
    kmpeLP inp = (kmpeHead inp.ei.st inp.ei.fi.cfg inp.ei.fi.weightInt inp inp.ei.k (inp.ei.wmax none)).append
      { rows := kmpeRows inp.ei.k inp.ei.fi.f inp.ei.scale inp.slackFor inp.ei.basicEdges (inp.ei.wmax none),
        obj := mpeObj inp.ei.k } := rfl

theorem kmpeRows_blockWise (k : Nat) (f sc : Edge → Rat) (slackFor : Nat → Var) (wm : Rat) :
    BlockWise (fun l => kmpeRows k f sc slackFor l wm)
      (fun e => coupleBin [e] k piVar weightsVar wm ++ coupleBin [e] k gammaVar slackFor wm
        ++ errRows (f e) (sc e) (ones (List.range k) (piVar e)) (ones (List.range k) (gammaVar e))) :=
  ((coupleBin_blockWise _ _ _ _).append (coupleBin_blockWise _ _ _ _)).append (.flatMap _)

theorem kmpeLP_congr_on {a b : MpeInput} (hst : a.ei.st = b.ei.st) (hcfg : a.ei.fi.cfg = b.ei.fi.cfg)
    (hint : a.ei.fi.weightInt = b.ei.fi.weightInt) (h : ErrAgreeOn a.ei b.ei)
    (hr : a.ranges = b.ranges) (hfac : a.factors = b.factors) : kmpeLP a = kmpeLP b := by
  have hk : a.ei.k = b.ei.k := congrArg PathCfg.k hcfg
  have hsl : a.slackFor = b.slackFor := by
    funext i; unfold MpeInput.slackFor; rw [hfac]
  have hrows : ∀ wm, kmpeRows a.ei.k a.ei.fi.f a.ei.scale a.slackFor a.ei.basicEdges wm
      = kmpeRows a.ei.k b.ei.fi.f b.ei.scale b.slackFor a.ei.basicEdges wm := fun wm => by
    unfold kmpeRows
    rw [hsl, flatMap_congr a.ei.basicEdges _ _ fun e he => by rw [h.f e he, h.scale e he]]
  have hhead : ∀ s cfg isInt k wm, kmpeHead s cfg isInt a k wm = kmpeHead s cfg isInt b k wm := fun _ _ _ _ _ => by
    unfold kmpeHead factorBlock
    rw [hr, hfac]
  rw [kmpeLP_eq, kmpeLP_eq, hrows, hhead, hst, hcfg, hint, hk, h.wmax hcfg hint, h.basic]

theorem kmpe_ignore_filter (inp : MpeInput) (e : Edge)
    (hw : (inp.ei.ignoreMore e).wmax none = inp.ei.wmax none) :
    kmpeLP (inp.ignoreMore e) =
      (kmpeHead inp.ei.st inp.ei.fi.cfg inp.ei.fi.weightInt inp inp.ei.k (inp.ei.wmax none)).append
        { rows := kmpeRows inp.ei.k inp.ei.fi.f inp.ei.scale inp.slackFor
            (inp.ei.basicEdges.filter fun e' => e' != e) (inp.ei.wmax none),
          obj := mpeObj inp.ei.k } := by
  rw [kmpeLP_eq, ← hw, ← err_ignoreMore_basic]
  rfl

end FP
