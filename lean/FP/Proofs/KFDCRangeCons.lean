import FP.Proofs.KFDCWalks
import FP.Proofs.C10Subset
/-!
The loop of `MinFlowDecompCycles.solve` runs over `range(lower bound, |E(G)| + len(subset_constraints) + 1)`
(fix 26b11a1). Both range theorems (integer and float weights) end the same way
(`kfdcr_feasible_add_covering`): given a satisfying assignment of some k-model and `nA` walks
within the caps that explain the flow, each through a non-ignored edge (so its weight is at most a flow value, hence
at most `w_max` of the one-layer model), add for every subset constraint one layer of the given solution that covers it, with weight `0` — it is a walk when empty layers are
excluded, and within the caps because it comes from a satisfying assignment. With the flow attribute on every
edge the caps do not depend on `k`, and `w_max` grows with `k`, so the `nA + #constraints` walks are represented
by the model with that many layers.
-/
namespace FP
open FP.Spec

/-- `w_max` of the model with one layer: the largest non-ignored flow value, floored for `weight_type = int` -/
def WalkInput.wunit (inp : WalkInput) : Rat :=
  let m := listMax ((inp.activeEdges false).map inp.f)
  if inp.weightInt then (m.floor : Rat) else m

theorem wmax_withK (inp : WalkInput) (j : Nat) : (inp.withK j).wmax false = (j : Rat) * inp.wunit := rfl

theorem intCast_le_wunit (inp : WalkInput) {e : Edge} (he : e ∈ inp.activeEdges false) {z : Int}
    (h : (z : Rat) ≤ inp.f e) : (z : Rat) ≤ inp.wunit := by
  have hM : (z : Rat) ≤ listMax ((inp.activeEdges false).map inp.f) :=
    Rat.le_trans h (le_listMax (List.mem_map.2 ⟨e, he, rfl⟩))
  unfold WalkInput.wunit
  split
  · exact Rat.intCast_le_intCast.2 (Rat.le_floor_iff.2 hM)
  · exact hM

theorem natCast_le_wunit (inp : WalkInput) {e : Edge} (he : e ∈ inp.activeEdges false) {n : Nat}
    (h : (n : Rat) ≤ inp.f e) : (n : Rat) ≤ inp.wunit := by
  rw [← Rat.intCast_natCast] at h ⊢
  exact intCast_le_wunit inp he h

theorem le_wunit_float (inp : WalkInput) (hfloat : inp.weightInt = false) {e : Edge}
    (he : e ∈ inp.activeEdges false) : inp.f e ≤ inp.wunit := by
  unfold WalkInput.wunit
  rw [hfloat]
  exact le_listMax (List.mem_map.2 ⟨e, he, rfl⟩)

theorem one_le_wunit (inp : WalkInput) (hM : ∃ e ∈ inp.activeEdges false, 1 ≤ inp.f e) : 1 ≤ inp.wunit := by
  obtain ⟨e, he, h⟩ := hM
  exact intCast_le_wunit inp he (z := 1) h

theorem le_wmax_withK (inp : WalkInput) {j : Nat} (hj : 1 ≤ j) {x : Rat} (h0 : 0 ≤ inp.wunit)
    (hx : x ≤ inp.wunit) : x ≤ (inp.withK j).wmax false := by
  rw [wmax_withK]
  have h2 := Rat.mul_le_mul_of_nonneg_right (one_le_natCast hj) h0
  rw [Rat.one_mul] at h2
  exact Rat.le_trans hx h2

theorem kfdcr_le_wmax (inp : WalkInput) (hint : inp.weightInt = true) (j : Nat) (hj : 1 ≤ j) (n : Nat)
    (e : Edge) (he : e ∈ inp.activeEdges false) (h : (n : Rat) ≤ inp.f e) :
    (n : Rat) ≤ (inp.withK j).wmax false := by
  have h1 := natCast_le_wunit inp he h
  exact le_wmax_withK inp hj (Rat.le_trans Rat.natCast_nonneg h1) h1

/-- what the range theorems ask of the subset constraints: there are none, or empty layers are excluded and every
constraint edge is an edge of the augmented graph (then a covering layer of a solution is a walk) -/
def ConsOK (inp : WalkInput) : Prop :=
  inp.cfg.constraints = [] ∨
    (inp.cfg.allowEmpty = false ∧ ∀ con ∈ inp.cfg.constraints, ∀ e ∈ con, e ∈ inp.st.g.edges)

/-- `(inp.withK k).st` is `inp.st` by definition -/
theorem kfdcr_sat_enc (inp : WalkInput) (k : Nat) (a : Asg) (ha : Sat a (kfdcLP (inp.withK k) none)) :
    Sat a (encodeWalks inp.st (inp.withK k).cfg (kfdcCap (inp.withK k))) :=
  kfdc_sat_enc_of_base (sat_kfdc_base (inp.withK k) none a ha)

section Assemble
variable (inp : WalkInput) (hb : BaseWF inp.base)
include hb

theorem kfdcr_active_le : (inp.activeEdges false).length ≤ inp.base.edges.length := by
  have hnd : (inp.activeEdges false).Nodup := hb.stwfc.edgesNodup.filter _
  exact hnd.length_le_of_subset (fun e he => (kfdcr_active_base inp hb e he).2)

theorem kfdcr_covering_layers (hcons : ConsOK inp) (k : Nat) (a : Asg)
    (ha : Sat a (kfdcLP (inp.withK k) none)) (cI : Nat) :
    ∃ i, ∀ hc : cI < inp.cfg.constraints.length, i < k ∧
      IsWalkIn inp.st.g (inp.st.source :: decodeWalkLayer inp.st a i ++ [inp.st.sink]) ∧
      coversB (fun e => traversals (inp.st.source :: decodeWalkLayer inp.st a i ++ [inp.st.sink]) e)
        inp.cfg.constraints[cI] inp.cfg.coverage = true := by
  by_cases hc : cI < inp.cfg.constraints.length
  · rcases hcons with h0 | ⟨hae, hedges⟩
    · simp [h0] at hc
    · obtain ⟨i, hi, hcv⟩ := subset_constraint_covered _ (inp.withK k).cfg _ a hb.stwfc
        (sat_append_left (sat_kfdc_base (inp.withK k) none a ha)) cI hc (hedges _ (List.getElem_mem hc))
      exact ⟨i, fun _ => ⟨hi, decoded_isWalk inp.st _ _ a hb.stwfc (kfdcr_sat_enc inp k a ha) hae i hi, hcv⟩⟩
  · exact ⟨0, fun h => absurd h hc⟩

variable (hattr : ∀ e ∈ inp.base.edges, ∃ q, inp.fOpt e = some q)
include hattr

theorem kfdcr_cap_withK (j j' : Nat) (e : Edge) (he : e ∈ inp.st.g.edges) :
    kfdcCap (inp.withK j) e = kfdcCap (inp.withK j') e := by
  rw [kfdcr_cap_attr inp hb hattr j e he, kfdcr_cap_attr inp hb hattr j' e he]

theorem kfdcr_cap_le_wunit (hM : ∃ e ∈ inp.activeEdges false, 1 ≤ inp.f e) (k : Nat) (e : Edge)
    (he : e ∈ inp.activeEdges false) : kfdcCap (inp.withK k) e ≤ inp.wunit := by
  rw [kfdcr_cap_attr inp hb hattr k e (kfdcr_active_base inp hb e he).1]
  split
  · exact intCast_le_wunit inp he (Rat.floor_le _)
  · exact one_le_wunit inp hM

theorem kfdcr_feasible_add_covering (hM : ∃ e ∈ inp.activeEdges false, 1 ≤ inp.f e) (hcons : ConsOK inp)
    (k : Nat) (a : Asg) (ha : Sat a (kfdcLP (inp.withK k) none))
    (nA : Nat) (walkA : Nat → List Node) (wA : Nat → Rat)
    (hwalk : ∀ i, i < nA → IsWalkIn inp.st.g (inp.st.source :: walkA i ++ [inp.st.sink]))
    (hcap : ∀ i, i < nA → ∀ e ∈ inp.st.g.edges,
      (traversals (inp.st.source :: walkA i ++ [inp.st.sink]) e : Rat) ≤ kfdcCap (inp.withK k) e)
    (hthru : ∀ i, i < nA → ∃ e ∈ inp.activeEdges false, e ∈ walkEdges (inp.st.source :: walkA i ++ [inp.st.sink]))
    (hw : ∀ i, i < nA → 0 ≤ wA i ∧ (inp.weightInt = true → ∃ z : Int, wA i = z))
    (hfl : ∀ e ∈ inp.activeEdges false, inp.f e ≤ inp.wunit)
    (hdec : IsWalkDecomp inp.st.source inp.st.sink (inp.activeEdges false) inp.f nA walkA wA)
    (hinj : NameInj (inp.withK (nA + inp.cfg.constraints.length))) :
    KfdcFeasible inp (nA + inp.cfg.constraints.length) := by
  obtain ⟨icov, hicov⟩ := Classical.axiomOfChoice (kfdcr_covering_layers inp hb hcons k a ha)
  have hU0 : 0 ≤ inp.wunit := Rat.le_trans (by decide) (one_le_wunit inp hM)
  -- a walk through a non-ignored edge `e` has weight at most `f e`: one term of the sum that is `f e`
  have hwle : ∀ i, i < nA → wA i ≤ inp.wunit := fun i hi => by
    obtain ⟨e, he, hmem⟩ := hthru i hi
    have h1 := Rat.mul_le_mul_of_nonneg_left (one_le_natCast (List.count_pos_iff.2 hmem)) (hw i hi).1
    rw [Rat.mul_one] at h1
    have h2 := explainedM_term_le nA (multsOf inp.st.source inp.st.sink walkA) wA e (fun j hj => (hw j hj).1) i hi
    rw [← explained_eq_explainedM, hdec e he] at h2
    exact Rat.le_trans h1 (Rat.le_trans h2 (hfl e he))
  -- no walk explains no flow value `≥ 1`
  have hJ : 1 ≤ nA + inp.cfg.constraints.length := Nat.le_trans (Nat.pos_of_ne_zero fun h0 => by
    obtain ⟨e1, he1, h1⟩ := hM
    rw [← hdec e1 he1, h0] at h1
    exact absurd (show (1 : Rat) ≤ 0 from h1) (by decide)) (Nat.le_add_right _ _)
  -- the walks for the flow first, then the covering layers
  obtain ⟨walk, hwalkL, hwalkR⟩ : ∃ walk : Nat → List Node, (∀ i, i < nA → walk i = walkA i) ∧
      ∀ i, ¬ i < nA → walk i = decodeWalkLayer inp.st a (icov (i - nA)) :=
    ⟨fun i => if i < nA then walkA i else decodeWalkLayer inp.st a (icov (i - nA)),
      fun i h => if_pos h, fun i h => if_neg h⟩
  obtain ⟨w, hwL, hwR⟩ : ∃ w : Nat → Rat, (∀ i, i < nA → w i = wA i) ∧ ∀ i, ¬ i < nA → w i = 0 :=
    ⟨fun i => if i < nA then wA i else 0, fun i h => if_pos h, fun i h => if_neg h⟩
  have hcapk : ∀ i, i < nA + inp.cfg.constraints.length → ∀ e ∈ inp.st.g.edges,
      (traversals (inp.st.source :: walk i ++ [inp.st.sink]) e : Rat) ≤ kfdcCap (inp.withK k) e := by
    intro i hi e he
    by_cases h : i < nA
    · rw [hwalkL i h]; exact hcap i h e he
    · rw [hwalkR i h]; exact decoded_withinCap inp.st _ a hb.stwfc (kfdcr_sat_enc inp k a ha) _ (hicov (i - nA) (by omega)).1 e he
  refine feasible_of_walks inp _ walk w hb hinj
    { isWalk := ?isWalk, withinCap := ?withinCap, weights := ?wts, multBits := ?multBits, flowLe := ?flowLe,
      decomposes := ?decomposes, covered := ?covered }
  case isWalk =>
    intro i hi
    have hi' : i < nA + inp.cfg.constraints.length := hi
    by_cases h : i < nA
    · rw [hwalkL i h]; exact hwalk i h
    · rw [hwalkR i h]; exact (hicov (i - nA) (by omega)).2.1
  case withinCap =>
    intro i hi e he
    rw [kfdcr_cap_withK inp hb hattr _ k e he]
    exact hcapk i hi e he
  case wts =>
    intro i hi
    by_cases h : i < nA
    · rw [hwL i h]; exact ⟨(hw i h).1, le_wmax_withK inp hJ hU0 (hwle i h), (hw i h).2⟩
    · rw [hwR i h]; exact ⟨Rat.le_refl, le_wmax_withK inp hJ hU0 hU0, fun _ => ⟨0, by simp⟩⟩
  case multBits =>
    intro i hi e he
    exact le_wmax_withK inp hJ hU0 (Rat.le_trans (hcapk i hi e (kfdcr_active_base inp hb e he).1)
      (kfdcr_cap_le_wunit inp hb hattr hM k e he))
  case flowLe =>
    intro e he
    exact le_wmax_withK inp hJ hU0 (hfl e he)
  case decomposes =>
    intro e he
    show walkExplained inp.st.source inp.st.sink (nA + inp.cfg.constraints.length) walk w e = inp.f e
    rw [← hdec e he]
    unfold walkExplained
    rw [sum_range_add_zero _ nA _]
    · refine congrArg List.sum (List.map_congr_left fun i hi => ?_)
      have h : i < nA := List.mem_range.1 hi
      rw [hwL i h, hwalkL i h]
    · intro i hi
      show w i * _ = 0
      rw [hwR i (by omega)]
      exact Rat.zero_mul _
  case covered =>
    intro cI hcI
    refine ⟨nA + cI, by show nA + cI < nA + inp.cfg.constraints.length; exact Nat.add_lt_add_left hcI _, ?_⟩
    show coversB (fun e => traversals (inp.st.source :: walk (nA + cI) ++ [inp.st.sink]) e)
      inp.cfg.constraints[cI] inp.cfg.coverage = true
    rw [hwalkR (nA + cI) (by omega), Nat.add_sub_cancel_left]
    exact (hicov cI hcI).2.2

end Assemble

end FP
