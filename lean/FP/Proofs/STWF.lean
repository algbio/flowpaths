import FP.Spec.Cover
import FP.Proofs.WalkLemmas
/-!
# FP.Proofs.STWF — well-formed s-t graphs

`STWF` is what `stDAG` guarantees about an augmented graph, `STWFc` what `stDiGraph` guarantees (cycles allowed);
the shape of source-to-sink walks in either. Nothing here mentions an LP: the flow and walk modules (`FlowPeel`,
`FlowCover`, ...) rest on this module and not on an encoder.
-/
namespace FP
open FP.Spec

/-- well-formed s-t DAG: what `stDAG` guarantees about the augmented graph -/
structure STWF (s : STGraph) : Prop where
  acyclic : Acyclic s.g
  edgesNodup : s.g.edges.Nodup
  nodesNodup : s.g.nodes.Nodup
  closed : ∀ e ∈ s.g.edges, e.1 ∈ s.g.nodes ∧ e.2 ∈ s.g.nodes
  srcNoIn : ∀ e ∈ s.g.edges, e.2 ≠ s.source
  snkNoOut : ∀ e ∈ s.g.edges, e.1 ≠ s.sink
  ne : s.source ≠ s.sink
  noDirect : (s.source, s.sink) ∉ s.g.edges
  /-- every node other than the synthetic ones has an in-edge and an out-edge -/
  inner : ∀ v ∈ s.g.nodes, v ≠ s.source → v ≠ s.sink → s.g.pred v ≠ [] ∧ s.g.succ v ≠ []

/-- well-formed s-t digraph (cycles allowed): what `stDiGraph` guarantees about the augmented graph -/
structure STWFc (s : STGraph) : Prop where
  edgesNodup : s.g.edges.Nodup
  nodesNodup : s.g.nodes.Nodup
  closed : ∀ e ∈ s.g.edges, e.1 ∈ s.g.nodes ∧ e.2 ∈ s.g.nodes
  srcNoIn : ∀ e ∈ s.g.edges, e.2 ≠ s.source
  snkNoOut : ∀ e ∈ s.g.edges, e.1 ≠ s.sink
  ne : s.source ≠ s.sink
  noDirect : (s.source, s.sink) ∉ s.g.edges

theorem STWFc.tails {s : STGraph} (hwf : STWFc s) : ∀ e ∈ s.g.edges, e.1 ∈ s.g.nodes :=
  fun e he => (hwf.closed e he).1

theorem STWF.toC {s : STGraph} (hwf : STWF s) : STWFc s :=
  ⟨hwf.edgesNodup, hwf.nodesNodup, hwf.closed, hwf.srcNoIn, hwf.snkNoOut, hwf.ne, hwf.noDirect⟩

/-- the zero-flow lemma on a well-formed s-t DAG, with conservation stated at the inner nodes -/
theorem STWF.flow_zero {s : STGraph} (hwf : STWF s) (y : Edge → Rat) (hy : ∀ e ∈ s.g.edges, 0 ≤ y e)
    (hcons : ∀ v ∈ s.g.nodes, v ≠ s.source → v ≠ s.sink → inflow s.g y v = outflow s.g y v)
    (hsrc : outflow s.g y s.source = 0) : ∀ e ∈ s.g.edges, y e = 0 := by
  obtain ⟨rank, hr⟩ := hwf.acyclic
  exact FP.flow_zero s.g rank hr s.source y hy
    (fun e he hs => hcons e.1 (hwf.closed e he).1 hs (hwf.snkNoOut e he)) hsrc

theorem stwalk_nodup {s : STGraph} (hwf : STWF s) {l : List Node} (hw : IsWalkIn s.g l) : l.Nodup := by
  obtain ⟨rank, hr⟩ := hwf.acyclic
  exact nodup_of_walk rank l (fun e he => hr e (hw e he))

/-- in a duplicate-free vertex sequence consecutive pairs with the same first vertex coincide: on a DAG
two different edges out of one node lie on no common walk -/
theorem walkEdges_fst_inj (l : List Node) (hnd : l.Nodup) (e1 e2 : Edge)
    (h1 : e1 ∈ walkEdges l) (h2 : e2 ∈ walkEdges l) (h : e1.1 = e2.1) : e1 = e2 := by
  have hmap : ((walkEdges l).map (·.1)).Nodup := by
    rw [walkEdges_map_fst]; exact hnd.sublist (List.dropLast_sublist l)
  have hp := List.pairwise_map.1 hmap
  -- `hp` speaks of pairs in list order; `e1`, `e2` may occur in either order, hence both `imp`s
  exact List.Pairwise.forall_of_forall_of_flip (R := fun a b : Edge => a.1 = b.1 → a = b)
    (fun _ _ _ => rfl) (hp.imp fun hne h => absurd h hne) (hp.imp fun hne h => absurd h.symm hne) h1 h2 h

theorem stwalk_shape {s : STGraph} (hne : s.source ≠ s.sink) {l : List Node} (h : IsSTWalk s l) :
    ∃ p, l = s.source :: p ++ [s.sink] :=
  ⟨_, (strip_ends l _ _ hne h.first h.last).2.symm⟩

theorem isSTWalk_of_isWalkIn {s : STGraph} {p : List Node}
    (hw : IsWalkIn s.g (s.source :: p ++ [s.sink])) : IsSTWalk s (s.source :: p ++ [s.sink]) :=
  ⟨by simp, by rw [show s.source :: p ++ [s.sink] = (s.source :: p) ++ [s.sink] from rfl, List.getLast?_concat], hw⟩

theorem source_mem_of_walk (s : STGraph) (hwf : STWFc s) (p : List Node)
    (hW : IsWalkIn s.g (s.source :: p ++ [s.sink])) : s.source ∈ s.g.nodes := by
  obtain ⟨y, hy⟩ := exists_walkEdge_from (s.source :: p ++ [s.sink]) s.source
    (by rw [List.dropLast_concat]; exact List.mem_cons_self)
  exact (hwf.closed _ (hW _ hy)).1

section
variable {s : STGraph} (hwf : STWF s) {p : List Node}
  (hw : IsWalkIn s.g (s.source :: p ++ [s.sink]))
include hwf hw

theorem stwalk_ne_nil : p ≠ [] := by
  intro h
  subst h
  exact hwf.noDirect (hw (s.source, s.sink) (by simp [walkEdges]))

end

theorem fst_or_snd_of_mem_sourceSinkEdges {s : STGraph} {e : Edge} (h : e ∈ s.sourceSinkEdges) :
    e.1 = s.source ∨ e.2 = s.sink := by
  rcases List.mem_append.1 h with h | h
  · exact Or.inl (of_decide_eq_true (List.mem_filter.1 h).2)
  · exact Or.inr (of_decide_eq_true (List.mem_filter.1 h).2)

end FP
