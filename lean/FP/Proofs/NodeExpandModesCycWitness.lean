import FP.Proofs.NodeExpandModesCyc
import FP.Proofs.KFDC
import FP.Proofs.SatCheck
/-!
Concrete cyclic node-weighted inputs.

* `CycExample`: `s → a ⇄ b → t` with the self-loop `a → a` (its expansion is `a.1 → a.0`); the inputs of the
  non-vacuity examples of `FP.Props.C11` and the facts their hypotheses need;
* `LoopCap`: `s → a → t` with the self-loop `a → a`, node values `1, 2, 1`, and the edge attribute `flow = 0` on the
  self-loop: the node branch of `kFlowDecompCycles` caps the copy `(a.1, a.0)` at `0` where the explicit expansion
  caps it at `w_max = 2`; the LP of the node branch has no satisfying assignment, the LP on the explicit expansion has
  one (the walk `s, a, a, t` with weight `1`). Replayed on the real classes by the check
  (finding `C11-cyclic-node-mode-cap-from-edge-attribute`);
* `LoopCapErr`: the same graph for the two error classes, with a copied attribute larger than every node value, so that
  the node branch allows more repetitions than the explicit expansion.

The finite facts about one input are the components of one theorem (`exKfdc_table`, `exErrc_table`, `LoopCap.table`,
`LoopCapErr.table`): a single kernel evaluation builds the expansion, its augmented graph, the reach table and the caps
once, where one evaluation per fact builds them each time.
-/
namespace FP
namespace NX

namespace CycExample

/-- `s → a`, `a → a`, `a → b`, `b → a`, `b → t` -/
def g : Graph :=
  { nodes := ["s", "a", "b", "t"], edges := [("s", "a"), ("a", "a"), ("a", "b"), ("b", "a"), ("b", "t")] }

theorem g_closed : Closed g := by unfold Closed; decide +kernel

/-- node values `s:1, a:3, b:1`, `t` without the attribute; the original edges `(s, a)` and `(a, a)` carry an attribute
of the same name: `7` on `(s, a)` (its copy is not inside an SCC) and `6 = w_max` on the self-loop; `b` is ignored; the
constraint is the self-loop given as an edge; additional start `a`, additional end `b`; `k = 2` -/
def exKfdc : NodeModeInput :=
  { nf := { ng := { g := g, nodeFlow := [("s", 1), ("a", 3), ("b", 1)],
                    edgeFlow := [(("s", "a"), 7), (("a", "a"), 6)] },
            ignoreNodes := ["b"], constraints := .edges [[("a", "a")]], k := 2, coverage := 3/4 },
    starts := ["a"], ends := ["b"] }

theorem exKfdc_hef : ∀ p ∈ exKfdc.nf.ng.edgeFlow, p.1 ∈ exKfdc.nf.ng.g.edges := by decide +kernel

theorem exKfdc_table :
    (expandWalkInput exKfdc).wmax false = 6 ∧
    isSccEdge (expandWalkInput exKfdc).st.g (edgeEdge ("s", "a")) = false ∧
    (kfdcNodeLP exKfdc (some [1])).toBool = true ∧
    (edgeEdge ("a", "a") = ("a.1", "a.0") ∧ ("a.1", "a.0") ∈ (expandGraph g).edges ∧
      isSccEdge (expandWalkInput exKfdc).st.g ("a.1", "a.0") = true) := by decide +kernel

theorem exKfdc_wmax : (expandWalkInput exKfdc).wmax false = 6 := exKfdc_table.1

/-- of the two edges with the attribute, `(s, a)` is copied outside every SCC and the self-loop carries `w_max` -/
theorem exKfdc_hcap : ∀ x q, exKfdc.nf.ng.edgeFlow.lookup x = some q →
    isSccEdge (expandWalkInput exKfdc).st.g (edgeEdge x) = true →
      q.floor = ((expandWalkInput exKfdc).wmax false).floor := by
  intro x q hl hscc
  have hmem : (x, q) ∈ [((("s", "a") : Edge), (7 : Rat)), (("a", "a"), 6)] := mem_of_lookup_eq_some hl
  simp only [List.mem_cons, Prod.mk.injEq, List.not_mem_nil, or_false] at hmem
  rcases hmem with ⟨rfl, rfl⟩ | ⟨rfl, rfl⟩
  · exact absurd (exKfdc_table.2.1.symm.trans hscc) nofun
  · rw [exKfdc_wmax]

theorem exKfdc_accepted : (kfdcNodeLP exKfdc (some [1])).toBool = true := exKfdc_table.2.2.1

/-- the input of the two error classes: the self-loop carries the attribute with value `0`; error scaling on `a` and on
`s` (factor `0`: ignored); the constraint is the node list `a, b` -/
def exErrc : NodeModeInput :=
  { nf := { ng := { g := g, nodeFlow := [("s", 1), ("a", 3), ("b", 1)], edgeFlow := [(("a", "a"), 0)] },
            ignoreNodes := ["b"], constraints := .nodes [["a", "b"]], k := 2, weightInt := true },
    starts := ["a"], ends := ["b"], scaling := [("a", 1/2), ("s", 0)] }

theorem exErrc_hef : ∀ p ∈ exErrc.nf.ng.edgeFlow, p.1 ∈ exErrc.nf.ng.g.edges := by decide +kernel

theorem exErrc_hzero : ∀ x q, exErrc.nf.ng.edgeFlow.lookup x = some q → q = 0 := by
  intro x q hl
  have hall : ∀ p ∈ exErrc.nf.ng.edgeFlow, p.2 = 0 := by decide
  exact hall (x, q) (mem_of_lookup_eq_some hl)

theorem exErrc_table : (errcNodeInternal exErrc).toBool = true ∧ (kcovercNodeLP exErrc).toBool = true := by
  decide +kernel

theorem exErrc_internal_accepted : (errcNodeInternal exErrc).toBool = true := exErrc_table.1
theorem exErrc_klaec_accepted : (klaecNodeLP exErrc).toBool = true :=
  (toBool_map _ klaecLP).trans exErrc_internal_accepted
theorem exErrc_kmpec_accepted : (kmpecNodeLP exErrc).toBool = true :=
  (toBool_map _ kmpecLP).trans exErrc_internal_accepted
theorem exErrc_kcoverc_accepted : (kcovercNodeLP exErrc).toBool = true := exErrc_table.2

/-- the self-loop `a → a` expands to `a.1 → a.0`, an SCC edge of the augmented expansion -/
theorem selfloop_copy : edgeEdge ("a", "a") = ("a.1", "a.0") ∧
    ("a.1", "a.0") ∈ (expandGraph g).edges ∧
    isSccEdge (expandWalkInput exKfdc).st.g ("a.1", "a.0") = true := exKfdc_table.2.2.2

end CycExample

namespace LoopCap
open FP.Spec

/-- `s → a → t` with the self-loop `a → a` -/
def g : Graph := { nodes := ["s", "a", "t"], edges := [("s", "a"), ("a", "a"), ("a", "t")] }

theorem g_closed : Closed g := by unfold Closed; decide +kernel

/-- node values `1, 2, 1` (the walk `s, a, a, t` with weight `1`); the self-loop carries the edge attribute
`flow = 0`; `k = 1`, integer weights -/
def inp : NodeModeInput :=
  { nf := { ng := { g := g, nodeFlow := [("s", 1), ("a", 2), ("t", 1)], edgeFlow := [(("a", "a"), 0)] },
            weightInt := true, k := 1 } }

/-- what the node branch hands to the edge-level constructor -/
def inpN : WalkInput := nxcTranslated inp inp.nf.ng
/-- the explicit expansion of the property text -/
def inpX : WalkInput := expandWalkInput inp

/-- the walk `source, s.0, s.1, a.0, a.1, a.0, a.1, t.0, t.1, sink` with weight `1` -/
def asgX : Asg := fun v =>
  if v ∈ [edgeVar ("source", "s.0") 0, edgeVar ("s.0", "s.1") 0, edgeVar ("s.1", "a.0") 0, edgeVar ("a.1", "a.0") 0,
      edgeVar ("a.1", "t.0") 0, edgeVar ("t.0", "t.1") 0, edgeVar ("t.1", "sink") 0,
      selVar ("source", "s.0") 0, selVar ("s.0", "s.1") 0, selVar ("s.1", "a.0") 0, selVar ("a.0", "a.1") 0,
      selVar ("a.1", "t.0") 0, selVar ("t.0", "t.1") 0, selVar ("t.1", "sink") 0,
      distVar "source" 0, weightsVar 0, piVar ("s.0", "s.1") 0, piVar ("t.0", "t.1") 0,
      bitVar (kfdcProdName ("s.0", "s.1") 0) 0, compVar (kfdcProdName ("s.0", "s.1") 0) 0,
      bitVar (kfdcProdName ("t.0", "t.1") 0) 0, compVar (kfdcProdName ("t.0", "t.1") 0) 0,
      bitVar (kfdcProdName ("a.0", "a.1") 0) 1, compVar (kfdcProdName ("a.0", "a.1") 0) 1] then 1
  else if v = edgeVar ("a.0", "a.1") 0 then 2
  else if v = piVar ("a.0", "a.1") 0 then 2
  else if v = distVar "s.0" 0 then 2
  else if v = distVar "s.1" 0 then 3
  else if v = distVar "a.0" 0 then 4
  else if v = distVar "a.1" 0 then 5
  else if v = distVar "t.0" 0 then 6
  else if v = distVar "t.1" 0 then 7
  else if v = distVar "sink" 0 then 8
  else 0

/-- the node branch accepts; the edges of the augmented expansion; the caps of `(a.1, a.0)` on both sides (`0`, the copied
edge attribute, against `w_max = 2`); the caps and values `node_infeasible` uses; `asgX` passes the check of the LP on
the explicit expansion -/
theorem table :
    (kfdcNodeInternal inp).toBool = true ∧
    inpN.st.g.edges =
      [("s.0", "s.1"), ("s.1", "a.0"), ("a.0", "a.1"), ("a.1", "a.0"), ("a.1", "t.0"), ("t.0", "t.1"),
       ("t.1", "sink"), ("source", "s.0")] ∧
    (nxcCapOf (kfdcLP inpN none) ("a.1", "a.0") = some (some 0) ∧
      nxcCapOf (kfdcLP inpX none) ("a.1", "a.0") = some (some 2) ∧
      inpN.wmax false = 2 ∧ inpX.wmax false = 2) ∧
    ("a.0" ∈ inpN.st.g.nodes ∧ kfdcCap inpN ("s.1", "a.0") = 1 ∧ kfdcCap inpN ("a.1", "a.0") = 0 ∧
      kfdcCap inpN ("s.0", "s.1") = 1 ∧
      ("s.0", "s.1") ∈ inpN.activeEdges false ∧ inpN.f ("s.0", "s.1") = 1 ∧
      ("a.0", "a.1") ∈ inpN.activeEdges false ∧ inpN.f ("a.0", "a.1") = 2) ∧
    satCheck asgX (kfdcLP inpX none) = true := by decide +kernel

theorem node_lp : kfdcNodeLP inp none = .ok (kfdcLP inpN none) := by
  obtain ⟨wi, hi⟩ := exists_ok_of_toBool table.1
  unfold kfdcNodeLP
  rw [hi, nxc_kfdcNodeInternal_ok hi]; rfl

theorem st_eq : inpN.st = inpX.st := rfl

theorem expansion_feasible : Sat asgX (kfdcLP inpX none) := satCheck_sound _ _ table.2.2.2.2

/-- at most one unit enters `a.0` (`mIn ≤ 1`, `mLoop ≤ 0`), so `(a.0, a.1)` is used `mA ≤ 1` times and its value `2`
forces the weight `2`, which the value `1` of `(s.0, s.1)`, used `mS ≤ 1` times, excludes -/
theorem no_weight (w : Rat) (mIn mLoop mA mS : Nat) (hcons : mIn + mLoop = mA) (hIn : (mIn : Rat) ≤ 1)
    (hLoop : (mLoop : Rat) ≤ 0) (hS : (mS : Rat) ≤ 1) (heS : w * mS = 1) (heA : w * mA = 2) : False := by
  have h1 : mIn ≤ 1 := Rat.natCast_le_natCast.1 (by simpa using hIn)
  have h2 : mLoop ≤ 0 := Rat.natCast_le_natCast.1 (by simpa using hLoop)
  have h3 : mS ≤ 1 := Rat.natCast_le_natCast.1 (by simpa using hS)
  have hA : mA = 0 ∨ mA = 1 := by omega
  have hS' : mS = 0 ∨ mS = 1 := by omega
  rcases hA with rfl | rfl
  · simp at heA
  · rcases hS' with rfl | rfl
    · simp at heS
    · exact absurd (heA.symm.trans heS) (by decide)

/-- the copy `(a.1, a.0)` of the self-loop is capped at `0` and `(s.1, a.0)` (outside every SCC) at `1`, so flow conservation at `a.0`
lets `(a.0, a.1)` be used at most once; its value `2` then forces the weight `2`, which the value `1` of `(s.0, s.1)` excludes -/
theorem node_infeasible (a : Asg) : ¬ Sat a (kfdcLP inpN none) := by
  intro hsat
  have hwfb : BaseWF inpN.base := expansion_wf g g_closed
  obtain ⟨_, hlayer, hdec⟩ := kfdc_exact inpN none a hwfb hsat
  have hfacts := walkFacts_of_sat hwfb.stwfc.closed
    (kfdc_sat_enc_of_base (sat_kfdc_base inpN none a hsat)) 0 (Nat.zero_lt_one)
  clear hsat
  obtain ⟨_, st_edges, _, ⟨hn, c1, c2, cS, actS, fS, actA, fA⟩, _⟩ := table
  have hmem : ∀ e ∈ [("s.0", "s.1"), ("s.1", "a.0"), ("a.0", "a.1"), ("a.1", "a.0")], e ∈ inpN.st.g.edges := by
    rw [st_edges]; decide
  have hin : inN inpN.st.g (multOf a 0) "a.0" = multOf a 0 ("s.1", "a.0") + multOf a 0 ("a.1", "a.0") := by
    unfold inN; rw [st_edges]; rfl
  have hout : outN inpN.st.g (multOf a 0) "a.0" = multOf a 0 ("a.0", "a.1") := by
    unfold outN; rw [st_edges]; rfl
  have hcons := hin.symm.trans ((hfacts.cons "a.0" hn (by decide) (by decide)).trans hout)
  obtain ⟨_, _, hc1⟩ := hlayer 0 Nat.zero_lt_one ("s.1", "a.0") (hmem _ (by decide))
  obtain ⟨_, _, hc2⟩ := hlayer 0 Nat.zero_lt_one ("a.1", "a.0") (hmem _ (by decide))
  obtain ⟨htS, _, hcS⟩ := hlayer 0 Nat.zero_lt_one ("s.0", "s.1") (hmem _ (by decide))
  obtain ⟨htA, _, _⟩ := hlayer 0 Nat.zero_lt_one ("a.0", "a.1") (hmem _ (by decide))
  have heS := hdec _ actS
  have heA := hdec _ actA
  rw [fS] at heS; rw [fA] at heA
  rw [c1] at hc1; rw [c2] at hc2; rw [cS] at hcS
  have hsum : ∀ e, walkExplained inpN.st.source inpN.st.sink inpN.k (decodeWalkLayer inpN.st a)
      (fun i => a (weightsVar i)) e
      = a (weightsVar 0) * (traversals (inpN.st.source :: decodeWalkLayer inpN.st a 0 ++ [inpN.st.sink]) e : Rat) :=
    fun e => Rat.add_zero _
  rw [hsum, htS] at heS
  rw [hsum, htA] at heA
  exact no_weight _ _ _ _ _ hcons hc1 hc2 hcS heS heA

end LoopCap

namespace LoopCapErr

/-- the graph of `LoopCap` with node values `1/2, 3/2, 1/2` (the walk `s, a, a, a, t` with weight `1/2`), float weights,
and the edge attribute `flow = 9` on the self-loop -/
def inp : NodeModeInput :=
  { nf := { ng := { g := LoopCap.g, nodeFlow := [("s", 1/2), ("a", 3/2), ("t", 1/2)], edgeFlow := [(("a", "a"), 9)] },
            weightInt := false, k := 1 } }

def inpN : WalkInput := nxcTranslated inp inp.nf.ng
def inpX : WalkInput := expandWalkInput inp

/-- `compute_edge_max_reachable_value` reads the copied attribute `9`: every SCC edge of the node branch is capped at
`9`, where the explicit expansion caps it at the floor `1` of the largest node value `3/2` — the bound `1` lets the node
`a` be visited once only, the bound `9` allows the three visits of the exact solution -/
theorem table : (errcNodeInternal inp).toBool = true ∧
    nxcCapOf (klaecLP inpN) ("a.0", "a.1") = some (some 9) ∧
    nxcCapOf (klaecLP inpX) ("a.0", "a.1") = some (some 1) ∧
    nxcCapOf (kmpecLP inpN) ("a.0", "a.1") = some (some 9) ∧
    nxcCapOf (kmpecLP inpX) ("a.0", "a.1") = some (some 1) := by decide +kernel

theorem node_internal : errcNodeInternal inp = .ok inpN := by
  obtain ⟨wi, hi⟩ := exists_ok_of_toBool table.1
  rw [hi, nxc_errcNodeInternal_ok hi]; rfl

end LoopCapErr

end NX
end FP
