import FP.Proofs.GenSetSpec
/-! The gaps between consecutive points of a non-decreasing list `0 ≤ s₁ ≤ … ≤ sₙ ≤ total` (no encoding involved) form a
multiset of `n + 1` non-negative elements that sums to `total` and has every `sᵢ` as a prefix sum (`gaps_spec`).
A multiset with the total of a partition constraint in which every inner prefix sum of the constraint is a prefix sum
respects it, by consecutive blocks (`respectsPartition_of_prefix`). Last, an assignment that meets the sums of the parts of a constraint
but sends some elements to parts beyond `len(con)` can be repaired (`respectsPartition_reassign`). -/
namespace FP.Spec

/-- consecutive differences `a₁ − p, a₂ − a₁, …` -/
def diffs : Rat → List Rat → List Rat
  | _, [] => []
  | p, a :: rest => (a - p) :: diffs a rest

def lastD : Rat → List Rat → Rat
  | p, [] => p
  | _, a :: rest => lastD a rest

end FP.Spec

namespace FP.GS
open FP FP.Spec

def IsPrefixSum (g : List Rat) (x : Rat) : Prop := ∃ n, (g.take n).sum = x

theorem generates_of_isPrefixSum (g : List Rat) (x : Rat) (h : IsPrefixSum g x) : Generates g 1 x := by
  obtain ⟨n, rfl⟩ := h
  exact generates_take g n

theorem diffs_length (l : List Rat) : ∀ p, (diffs p l).length = l.length := by
  induction l with
  | nil => intro p; rfl
  | cons a rest ih => intro p; simp [diffs, ih]

theorem diffs_sum (l : List Rat) : ∀ p, (diffs p l).sum = lastD p l - p := by
  induction l with
  | nil => intro p; simp [diffs, lastD]; grind
  | cons a rest ih => intro p; simp only [diffs, lastD, List.sum_cons, ih]; grind

theorem diffs_take (l : List Rat) : ∀ p n, (diffs p l).take n = diffs p (l.take n) := by
  induction l with
  | nil => intro p n; simp [diffs]
  | cons a rest ih =>
    intro p n
    cases n with
    | zero => simp [diffs]
    | succ n => simp [diffs, ih]

theorem lastD_concat (l : List Rat) (t : Rat) : ∀ p, lastD p (l ++ [t]) = t := by
  induction l with
  | nil => intro p; rfl
  | cons a rest ih => intro p; exact ih a

theorem lastD_take_of_mem (l : List Rat) : ∀ p b, b ∈ l → ∃ n, lastD p (l.take n) = b := by
  induction l with
  | nil => intro p b hb; cases hb
  | cons a rest ih =>
    intro p b hb
    rcases List.mem_cons.1 hb with rfl | hb
    · exact ⟨1, rfl⟩
    · obtain ⟨n, hn⟩ := ih a b hb
      exact ⟨n + 1, hn⟩

theorem diffs_prefix (l : List Rat) (b : Rat) (hb : b ∈ l) : IsPrefixSum (diffs 0 l) b := by
  obtain ⟨n, hn⟩ := lastD_take_of_mem l 0 b hb
  exact ⟨n, by rw [diffs_take, diffs_sum, hn]; grind⟩

/-- what passes from `x ≤ a` to `a - x` (non-negativity, integrality) holds of the gaps of a non-decreasing list -/
theorem diffs_forall (P : Rat → Prop) (hsub : ∀ a x, P a → P x → x ≤ a → P (a - x)) (l : List Rat) :
    ∀ p, P p → (∀ y ∈ l, P y) → (p :: l).Pairwise (· ≤ ·) → ∀ y ∈ diffs p l, P y := by
  induction l with
  | nil => intro p _ _ _ y hy; cases hy
  | cons a rest ih =>
    intro p hp hl hs y hy
    have ha := hl a (List.mem_cons_self ..)
    obtain ⟨hpa, hs'⟩ := List.pairwise_cons.1 hs
    rcases List.mem_cons.1 hy with rfl | hy
    · exact hsub a p ha hp (hpa a (List.mem_cons_self ..))
    · exact ih a ha (fun z hz => hl z (List.mem_cons_of_mem _ hz)) hs' y hy

theorem gaps_spec (total : Rat) (s : List Rat) (hs : (0 :: (s ++ [total])).Pairwise (· ≤ ·)) :
    (diffs 0 (s ++ [total])).length = s.length + 1 ∧ (diffs 0 (s ++ [total])).sum = total ∧
      (∀ y ∈ diffs 0 (s ++ [total]), 0 ≤ y) ∧ (∀ b ∈ s, IsPrefixSum (diffs 0 (s ++ [total])) b) ∧
      ((∃ z : Int, total = z) → AllInt s → AllInt (diffs 0 (s ++ [total]))) := by
  have hnn : ∀ y ∈ s ++ [total], 0 ≤ y := (List.pairwise_cons.1 hs).1
  refine ⟨by rw [diffs_length]; simp,
    by rw [diffs_sum, lastD_concat, Rat.sub_eq_add_neg, Rat.neg_zero, Rat.add_zero], ?_,
    fun b hb => diffs_prefix _ b (List.mem_append_left _ hb), fun hz hi => ?_⟩
  · exact diffs_forall (0 ≤ ·) (fun a x _ _ h => (Rat.le_iff_sub_nonneg x a).1 h) _ 0 Rat.le_refl hnn hs
  · refine diffs_forall (fun y => ∃ z : Int, y = z) (fun _ _ ha hx _ => sub_isInt ha hx) _ 0 ⟨0, rfl⟩ ?_ hs
    intro y hy
    rcases List.mem_append.1 hy with h | h
    · exact hi y h
    · rw [List.mem_singleton.1 h]; exact hz

theorem isPrefixSum_drop (g : List Rat) (hg : ∀ y ∈ g, 0 ≤ y) (n : Nat) (y : Rat) (hy : 0 ≤ y)
    (h : IsPrefixSum g ((g.take n).sum + y)) : IsPrefixSum (g.drop n) y := by
  obtain ⟨n', hn'⟩ := h
  by_cases hle : n ≤ n'
  · refine ⟨n' - n, ?_⟩
    have e : g.take n' = g.take n ++ (g.drop n).take (n' - n) := by
      have := List.take_add (l := g) (i := n) (j := n' - n)
      rwa [show n + (n' - n) = n' by omega] at this
    rw [e, List.sum_append] at hn'
    exact Rat.add_left_cancel _ hn'
  · -- a shorter prefix: then `y = 0`
    have := (sum_take_le (g.take n) (fun x hx => hg x (List.mem_of_mem_take hx)) n').2
    rw [List.take_take, Nat.min_eq_left (by omega)] at this
    exact ⟨0, by rw [List.take_zero, List.sum_nil]; grind⟩

theorem respectsPartition_of_prefix (con : List Rat) : ∀ g : List Rat, con ≠ [] → (∀ y ∈ g, 0 ≤ y) →
    (∀ x ∈ con, 0 ≤ x) → g.sum = con.sum → (∀ m, m + 1 < con.length → IsPrefixSum g (con.take (m + 1)).sum) →
    RespectsPartition g con := by
  induction con with
  | nil => intro g h; exact absurd rfl h
  | cons c rest ih =>
    intro g _ hg hcon hsum hpre
    cases rest with
    | nil =>
      refine ⟨List.replicate g.length 0, by simp, ?_, ?_⟩
      · intro p hp; rw [(List.mem_replicate.1 hp).2]; simp
      · intro j hj
        have : j = 0 := by simpa using hj
        subst this
        rw [partSum_replicate, if_pos rfl, hsum, List.sum_cons, List.sum_nil, Rat.add_zero, List.getD_cons_zero]
    | cons c' rest' =>
      -- the first block: the prefix of `g` that adds up to `c`; the rest of `g` serves `c' :: rest'`
      obtain ⟨n, hn⟩ := hpre 0 (Nat.succ_lt_succ (Nat.succ_pos _))
      have hn' : (g.take n).sum = c := by
        rw [hn, List.take_succ_cons, List.take_zero, List.sum_cons, List.sum_nil, Rat.add_zero]
      have hcon' : ∀ x ∈ c' :: rest', 0 ≤ x := fun x hx => hcon x (List.mem_cons_of_mem _ hx)
      have hsplit : (g.take n).sum + (g.drop n).sum = g.sum := by
        rw [← List.sum_append, List.take_append_drop]
      obtain ⟨a2, ha1, ha2, ha3⟩ := ih (g.drop n) (List.cons_ne_nil _ _)
        (fun y hy => hg y (List.mem_of_mem_drop hy)) hcon'
        (Rat.add_left_cancel c (by rw [← hn', hsplit, hsum, List.sum_cons, hn']))
        (fun m hm => isPrefixSum_drop g hg n _ (sum_take_le _ hcon' (m + 1)).1 (by
          have := hpre (m + 1) (Nat.succ_lt_succ hm)
          rwa [List.take_succ_cons, List.sum_cons, ← hn'] at this))
      have hgeq : g = g.take n ++ g.drop n := (List.take_append_drop n g).symm
      refine ⟨List.replicate (g.take n).length 0 ++ a2.map (· + 1), ?_, ?_, ?_⟩
      · rw [List.length_append, List.length_replicate, List.length_map, ha1, ← List.length_append,
          List.take_append_drop]
      · intro p hp
        rcases List.mem_append.1 hp with h | h
        · rw [(List.mem_replicate.1 h).2]; simp
        · obtain ⟨q, hq, rfl⟩ := List.mem_map.1 h
          have := ha2 q hq
          simp only [List.length_cons] at this ⊢
          omega
      · intro j hj
        rw [hgeq, partSum_append _ _ _ _ (by simp)]
        rw [← hgeq]
        cases j with
        | zero =>
          rw [partSum_replicate, if_pos rfl, partSum_succ_zero, hn', Rat.add_zero, List.getD_cons_zero]
        | succ j =>
          rw [partSum_replicate, if_neg (by omega), partSum_succ_succ,
            ha3 j (by simpa using hj), Rat.zero_add, List.getD_cons_succ]

/-- the parts `< len(con)` already add up to `Σ g`, so the elements sent beyond carry the value `0` and go to part `0`
instead -/
theorem respectsPartition_reassign (g con : List Rat) (assign : List Nat) (hne : con ≠ []) (hg : ∀ y ∈ g, 0 ≤ y)
    (hsum : g.sum = con.sum) (hlen : assign.length = g.length)
    (hp : ∀ j, j < con.length → partSum assign g j = con.getD j 0) : RespectsPartition g con := by
  have hpos : 0 < con.length := List.length_pos_iff.2 hne
  have htot := partSum_total assign g hlen con.length
  rw [List.map_congr_left (f := fun j => partSum assign g j) (g := fun j => con.getD j 0)
    (fun j hj => hp j (List.mem_range.1 hj)), range_map_getD, hsum] at htot
  have hrest : ((assign.zip g).map fun p => if p.1 < con.length then 0 else p.2).sum = 0 := by grind
  have hzero := all_zero_of_sum_zero (by
    intro p hp'
    split
    · exact Rat.le_refl
    · exact hg _ (List.of_mem_zip hp').2) hrest
  have hz : ∀ p ∈ assign.zip g, ¬ p.1 < con.length → p.2 = 0 := by
    intro p hp' hnl
    have := hzero p hp'
    rwa [if_neg hnl] at this
  refine ⟨assign.map fun p => if p < con.length then p else 0, by simp [hlen], ?_, ?_⟩
  · intro p hp'
    obtain ⟨q, _, rfl⟩ := List.mem_map.1 hp'
    split
    · assumption
    · exact hpos
  · intro j hj
    rw [← hp j hj, partSum_map]
    refine congrArg List.sum (List.map_congr_left fun p hp' => ?_)
    by_cases hl : p.1 < con.length
    · simp [hl]
    · rw [hz p hp' hl]; simp

end FP.GS
