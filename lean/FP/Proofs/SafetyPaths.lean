import FP.Model.SafetyDag
import FP.Spec.Safety
import FP.Proofs.Reach
/-!
# FP.Proofs.SafetyPaths — the univocal extension computed by `safe_paths` is forced; before that, the two pieces of a
source-to-sink walk cut at one of its edges (`prefix_walk`, `suffix_walk`), two walks glued at an edge (`glue_walk`)
and what a walk says about `Reach`
-/
namespace FP.Safety
open FP FP.Spec

theorem prefix_walk {g : Graph} {s x : Node} {w1 w2 : List Node} {a b : Node}
    (hw : IsSTWalkG g s x (w1 ++ a :: b :: w2)) : IsSTWalkG g s a (w1 ++ [a]) :=
  have h := (split_walk hw.walk hw.first hw.last).1
  ⟨h.1, h.2, by simp⟩

theorem suffix_walk {g : Graph} {s x : Node} {w1 w2 : List Node} {a b : Node}
    (hw : IsSTWalkG g s x (w1 ++ a :: b :: w2)) : IsSTWalkG g b x (b :: w2) :=
  have h := (split_walk hw.walk hw.first hw.last).2
  ⟨h.1, rfl, h.2⟩

theorem reach_of_stwalk (g : Graph) {a b : Node} {w : List Node} (hw : IsSTWalkG g a b w) :
    Reach g.edges a b := by
  obtain ⟨l, rfl⟩ := List.head?_eq_some_iff.1 hw.first
  rcases List.mem_cons.1 (List.mem_of_getLast? hw.last) with rfl | hb
  · exact Reach.refl _
  · obtain ⟨u, hu⟩ := exists_we_into (w := a :: l) hb
    exact (reach_tail_of_walk g l a hw.walk _ hu).step (hw.walk _ hu)

theorem reach_last_of_stwalk (g : Graph) {a b : Node} {w : List Node} (hw : IsSTWalkG g a b w) :
    ∀ d ∈ walkEdges w, Reach g.edges d.2 b := by
  intro d hd
  obtain ⟨w1, w2, rfl⟩ := mem_we_split hd
  exact reach_of_stwalk g (suffix_walk hw)

theorem glue_walk (g : Graph) {s t a b : Node} {w1 w2 : List Node} (h1 : IsSTWalkG g s a w1)
    (hab : (a, b) ∈ g.edges) (h2 : IsSTWalkG g b t w2) :
    IsSTWalkG g s t (w1 ++ w2) ∧ (a, b) ∈ walkEdges (w1 ++ w2) := by
  obtain ⟨u1, rfl⟩ := List.getLast?_eq_some_iff.1 h1.last
  obtain ⟨u2, rfl⟩ := List.head?_eq_some_iff.1 h2.first
  have hsplit : walkEdges (u1 ++ [a] ++ b :: u2) = walkEdges (u1 ++ [a]) ++ (a, b) :: walkEdges (b :: u2) := by
    rw [List.append_assoc]; exact we_mid u1 u2 a b
  refine ⟨⟨?_, ?_, ?_⟩, ?_⟩
  · intro d hd
    rw [hsplit] at hd
    rcases List.mem_append.1 hd with hd | hd
    · exact h1.walk d hd
    · rcases List.mem_cons.1 hd with rfl | hd
      · exact hab
      · exact h2.walk d hd
  · have := h1.first
    cases u1 <;> simpa using this
  · rw [List.getLast?_append, h2.last]; rfl
  · rw [hsplit]; simp

/-- every walk from `v` to the sink begins with the extension -/
theorem extendRight_spec (g : Graph) (t : Node) (ht : g.succ t = []) (n : Nat) (v : Node) (acc l : List Edge) :
    extendRight g n v acc = some l →
      ∃ ext, l = acc ++ ext ∧ ∀ w2 : List Node, IsWalkIn g (v :: w2) → (v :: w2).getLast? = some t →
        ∃ ys w3, w2 = ys ++ w3 ∧ walkEdges (v :: ys) = ext := by
  fun_induction extendRight g n v acc with
  | case1 => exact fun h => nomatch h
  | case2 n v acc x hx ih =>
    intro h
    obtain ⟨ext', hl, hp⟩ := ih h
    refine ⟨(v, x) :: ext', by rw [hl]; simp, ?_⟩
    intro w2 hw hh
    cases w2 with
    | nil => simp at hh; subst hh; rw [ht] at hx; simp at hx
    | cons y w2 =>
      obtain ⟨hvy, hw'⟩ := isWalkIn_cons_cons.1 hw
      have : y ∈ g.succ v := mem_succ.2 hvy
      rw [hx] at this
      have hyx : y = x := by simpa using this
      subst hyx
      have hh' : (y :: w2).getLast? = some t := by simpa [List.getLast?_cons_cons] using hh
      obtain ⟨ys, w3, h1, h2⟩ := hp w2 hw' hh'
      exact ⟨y :: ys, w3, by rw [h1]; simp, by rw [we_cons_cons, h2]⟩
  | case3 n v acc hx =>
    intro h
    injection h with h
    exact ⟨[], by simp [h], fun w2 _ _ => ⟨[], w2, by simp, by simp [we_single]⟩⟩

theorem succ_swap (g : Graph) (u : Node) : (⟨g.nodes, swapEdges g.edges⟩ : Graph).succ u = g.pred u := by
  rw [Graph.succ, swapEdges, List.filter_map, List.map_map]; rfl

/-- `extendLeft` is `extendRight` in the reversed graph, edge by edge -/
theorem extendLeft_eq (g : Graph) : ∀ n u acc, extendLeft g n u acc =
    (extendRight ⟨g.nodes, swapEdges g.edges⟩ n u (swapEdges acc)).map swapEdges := by
  intro n
  induction n with
  | zero => intro u acc; rfl
  | succ n ih =>
    intro u acc
    unfold extendLeft extendRight
    rw [succ_swap]
    split
    · rw [ih]; exact congrArg (fun a => (extendRight _ n _ a).map swapEdges) List.map_append
    · rw [Option.map_some, swapEdges_swapEdges]

/-- every walk from the source into `u` ends with the extension: the last edges of `w1 ++ [u]` are `ext` read
backwards (`extendLeft` appends the unique in-edge, so `ext` runs from `u` towards the source) -/
theorem extendLeft_spec (g : Graph) (s : Node) (hs : g.pred s = []) :
    ∀ n u acc l, extendLeft g n u acc = some l →
      ∃ ext, l = acc ++ ext ∧ ∀ w1 : List Node, IsWalkIn g (w1 ++ [u]) → (w1 ++ [u]).head? = some s →
        ∃ w0 xs, w1 = w0 ++ xs ∧ walkEdges (xs ++ [u]) = ext.reverse := by
  intro n u acc l h
  rw [extendLeft_eq, Option.map_eq_some_iff] at h
  obtain ⟨l', h, rfl⟩ := h
  obtain ⟨ext, rfl, hp⟩ := extendRight_spec ⟨g.nodes, swapEdges g.edges⟩ s ((succ_swap g s).trans hs) n u _ l' h
  refine ⟨swapEdges ext, List.map_append.trans (congrArg (· ++ _) (swapEdges_swapEdges acc)), fun w1 hw hh => ?_⟩
  -- the walk into `u`, read backwards, is a walk from `u` in the reversed graph
  have hr : (w1 ++ [u]).reverse = u :: w1.reverse := by simp
  obtain ⟨ys, w3, h1, h2⟩ := hp w1.reverse
    (hr ▸ fun e he => mem_swapEdges.2 (hw _ (mem_we_reverse.1 he))) (hr ▸ List.getLast?_reverse.trans hh)
  refine ⟨w3.reverse, ys.reverse, by rw [← List.reverse_append, ← h1, List.reverse_reverse], ?_⟩
  rw [← h2, ← List.reverse_cons, we_reverse]; rfl

/-- every source-to-sink walk through `e` contains the whole output of `process_edge(e)` as a contiguous piece -/
theorem safePathOf_forced (g : Graph) (s t : Node) (hs : g.pred s = []) (ht : g.succ t = [])
    (e : Edge) (p : List Edge) (h : safePathOf g e = .ok p) :
    ∀ w, IsSTWalkG g s t w → e ∈ walkEdges w → p <:+: walkEdges w := by
  intro w hw he
  unfold safePathOf at h
  split at h
  · cases h
  · rename_i l hl
    split at h
    · cases h
    · rename_i p' hr
      injection h with h; subst h
      obtain ⟨extL, hlL, hpL⟩ := extendLeft_spec g s hs _ _ _ _ hl
      obtain ⟨extR, hlR, hpR⟩ := extendRight_spec g t ht _ _ _ _ hr
      obtain ⟨w1, w2, rfl⟩ := mem_we_split he
      have hwL := prefix_walk hw
      have hwR := suffix_walk hw
      obtain ⟨w0, xs, h1, h2⟩ := hpL w1 hwL.walk hwL.first
      obtain ⟨ys, w3, h3, h4⟩ := hpR w2 hwR.walk hwR.last
      have hp : p' = walkEdges (xs ++ e.1 :: e.2 :: ys) := by
        rw [hlR, hlL, we_mid, h2, h4]; simp
      have hwd : w1 ++ e.1 :: e.2 :: w2 = w0 ++ (xs ++ e.1 :: e.2 :: ys) ++ w3 := by
        rw [h1, h3]; simp
      rw [hp, hwd]
      exact we_infix _ _ _

end FP.Safety
