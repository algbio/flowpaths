import FP.Model.Antichain
import FP.Spec.Substrate
import FP.Proofs.ReachLemmas
import FP.Proofs.FlowLemmas
/-!
The edges collected by the two DFS phases form an antichain, and the fuel `2·|E| + 2` given to the
phases always suffices.
-/
namespace FP
open FP.Spec

/-- the nodes phase 1 owes a visit: the source and the predecessors of marked nodes -/
def Owed (a : ACInput) (vis : Node → Nat) (v : Node) : Prop :=
  v = a.source ∨ ∃ u, vis u ≠ 0 ∧ (v, u) ∈ a.g.edges

theorem acPhase1_nil (a : ACInput) (n : Nat) (vis : Node → Nat) : acPhase1 a n [] vis = .ok (some vis) := by
  cases n <;> rfl

/-- invariant of phase 1: every owed node is marked or waits on the stack; at the end the marked set
contains the source and is closed under predecessors -/
theorem acPhase1_closed (a : ACInput) (n : Nat) (stack : List Node) (vis vis' : Node → Nat) :
    acPhase1 a n stack vis = .ok (some vis') →
      (∀ v, Owed a vis v → vis v ≠ 0 ∨ v ∈ stack) →
      (∀ v, Owed a vis' v → vis' v ≠ 0) ∧ vis' a.sink = vis a.sink := by
  fun_induction acPhase1 a n stack vis with
  | case1 =>
    intro h hinv
    cases h
    exact ⟨fun v hv => (hinv v hv).resolve_right List.not_mem_nil, rfl⟩
  | case2 => exact fun h => nomatch h
  | case3 n u rest vis hvu ih =>
    refine fun h hinv => ih h fun v hv => ?_
    rcases hinv v hv with h' | h'
    · exact Or.inl h'
    · rcases List.mem_cons.1 h' with rfl | h'
      · exact Or.inl hvu
      · exact Or.inr h'
  | case4 => exact fun h => nomatch h
  | case5 n u rest vis hvu hsink vis1 p1 p2 ih =>
    intro h hinv
    have hstep : vis1 a.sink = vis a.sink := upd_ne _ _ (Ne.symm hsink)
    rw [← hstep]
    refine ih h fun v hv => ?_
    by_cases hvz : upd vis u 1 v = 0
    · right
      have hvu' : v ≠ u := fun h' => by rw [h', upd_same] at hvz; cases hvz
      rw [upd_ne _ _ hvu'] at hvz
      -- `v` was owed before `u` was marked, or it is a predecessor of `u`
      have hcase : Owed a vis v ∨ (v, u) ∈ a.g.edges := by
        rcases hv with h' | ⟨x, hx, hvx⟩
        · exact Or.inl (Or.inl h')
        · by_cases hxu : x = u
          · exact Or.inr (hxu ▸ hvx)
          · exact Or.inl (Or.inr ⟨x, fun h0 => hx ((upd_ne vis 1 hxu).trans h0), hvx⟩)
      rcases hcase with h' | h'
      · rcases hinv v h' with h'' | h''
        · exact absurd hvz h''
        · rcases List.mem_cons.1 h'' with h3 | h3
          · exact absurd h3 hvu'
          · exact List.mem_append_right _ h3
      · refine List.mem_append_left _ (List.mem_reverse.2 (List.mem_append_right _ ?_))
        exact List.mem_filter.2 ⟨mem_pred.2 h', beq_iff_eq.2 ((upd_ne vis 1 hvu').trans hvz)⟩
    · exact Or.inl hvz

/-- what phase 2 may append, relative to the marking `vis1` left by phase 1 -/
def ACGood (a : ACInput) (vis1 : Node → Nat) (e : Edge) : Prop :=
  e ∈ a.g.edges ∧ vis1 e.1 ≠ 0 ∧ vis1 e.2 = 0 ∧ a.flow e = a.demand e ∧ 1 ≤ a.demand e

theorem acPhase2_nil (a : ACInput) (n : Nat) (vis : Node → Nat) (acc : List Edge) :
    acPhase2 a n [] vis acc = some acc := by
  cases n <;> rfl

theorem acPhase2_good (a : ACInput) (vis1 : Node → Nat) (n : Nat) (stack : List Node) (vis : Node → Nat)
    (acc A : List Edge) : acPhase2 a n stack vis acc = some A →
      (∀ x, vis x = 0 ↔ vis1 x = 0) → (∀ e ∈ acc, ACGood a vis1 e) → ∀ e ∈ A, ACGood a vis1 e := by
  fun_induction acPhase2 a n stack vis acc with
  | case1 => intro h _ hacc; cases h; exact hacc
  | case2 => exact fun h => nomatch h
  | case3 n u rest vis acc hvu ih => exact ih
  | case4 n u rest vis acc hvu vis' p1 new p2 ih =>
    intro h hrel hacc
    have hvu1 : vis u = 1 := Classical.not_not.1 hvu
    -- `u` carries mark 1, so phase 1 marked it
    have hu1 : vis1 u ≠ 0 := fun h0 => by have := (hrel u).2 h0; omega
    apply ih h
    · intro x
      show upd vis u 2 x = 0 ↔ _
      by_cases hx : x = u
      · rw [hx, upd_same]; exact ⟨fun h => absurd h (by decide), fun h => absurd h hu1⟩
      · rw [upd_ne _ _ hx]; exact hrel x
    · intro e he
      rcases List.mem_append.1 he with he | he
      · exact hacc e he
      · obtain ⟨v, hv, rfl⟩ := List.mem_map.1 he
        obtain ⟨hv1, hv2⟩ := List.mem_filter.1 hv
        simp only [Bool.and_eq_true, decide_eq_true_eq, beq_iff_eq] at hv2
        obtain ⟨⟨⟨_, hfd⟩, hd⟩, (hz : upd vis u 2 v = 0)⟩ := hv2
        have hvne : v ≠ u := fun h' => by rw [h', upd_same] at hz; cases hz
        rw [upd_ne _ _ hvne] at hz
        exact ⟨mem_succ.1 hv1, hu1, (hrel v).1 hz, hfd, hd⟩

theorem acExtract_sound (a : ACInput) (A : List Edge) (h : acExtract a = .ok (some A)) :
    ∃ vis1 : Node → Nat, acVisited a = .ok (some vis1) ∧
      (∀ u, vis1 u ≠ 0 → ∀ v, (v, u) ∈ a.g.edges → vis1 v ≠ 0) ∧ vis1 a.source ≠ 0 ∧ vis1 a.sink = 0 ∧
      (∀ e ∈ A, ACGood a vis1 e) ∧ IsEdgeAntichain a.g A := by
  unfold acExtract at h
  cases hv : acVisited a with
  | error e => rw [hv] at h; simp at h
  | ok o =>
    cases o with
    | none => rw [hv] at h; simp at h
    | some vis1 =>
      rw [hv] at h
      simp only [Except.ok.injEq] at h
      have hv' := hv
      unfold acVisited at hv'
      obtain ⟨hcl', hsnk⟩ := acPhase1_closed a _ _ _ vis1 hv' fun v hv => Or.inr (by
        rcases hv with rfl | ⟨u, hu, -⟩
        · exact List.mem_singleton.2 rfl
        · exact absurd rfl hu)
      have hgood := acPhase2_good a vis1 _ _ _ _ A h (fun x => Iff.rfl) (by simp)
      have hcl : ∀ u, vis1 u ≠ 0 → ∀ v, (v, u) ∈ a.g.edges → vis1 v ≠ 0 :=
        fun u hu v hv => hcl' v (Or.inr ⟨u, hu, hv⟩)
      refine ⟨vis1, rfl, hcl, hcl' _ (Or.inl rfl), hsnk, hgood, fun e he => (hgood e he).1, ?_⟩
      apply List.pairwise_of_forall_mem_list
      intro e he e' he'
      have g1 := hgood e he
      have g2 := hgood e' he'
      -- a head that reached a tail would, the marked set being closed under predecessors, be marked itself
      rintro (hr | hr)
      · exact closed_reach (S := fun x => vis1 x ≠ 0) hcl hr g2.2.1 g1.2.2.1
      · exact closed_reach (S := fun x => vis1 x ≠ 0) hcl hr g1.2.1 g2.2.2.1

/-- marking `u` (which had mark `c`) with another mark removes exactly the items keyed by `u` from
those carrying mark `c` -/
theorem count_mark {α} (l : List α) (k : α → Node) (vis : Node → Nat) (u : Node) (c new : Nat)
    (hu : vis u = c) (hnew : new ≠ c) :
    (l.filter (fun e => decide (upd vis u new (k e) = c))).length + (l.filter (fun e => decide (k e = u))).length =
      (l.filter (fun e => decide (vis (k e) = c))).length := by
  induction l with
  | nil => rfl
  | cons e l ih =>
    have step : (if upd vis u new (k e) = c then 1 else 0) + (if k e = u then 1 else 0) =
        (if vis (k e) = c then 1 else 0) := by
      by_cases hk : k e = u
      · rw [hk, upd_same, if_neg hnew, if_pos rfl, if_pos hu]
      · rw [upd_ne _ _ hk, if_neg hk, Nat.add_zero]
    simp only [← List.countP_eq_length_filter, List.countP_cons, decide_eq_true_eq] at ih ⊢
    omega

/-- The potential that bounds the fuel: stack length + number of (edge, endpoint) incidences whose
endpoint still carries the mark `c` the phase consumes (`0` in phase 1, `1` in phase 2). Every pop
lowers it by at least one. -/
def acPhi (a : ACInput) (c : Nat) (stack : List Node) (vis : Node → Nat) : Nat :=
  stack.length + (a.g.edges.filter (fun e => decide (vis e.1 = c))).length
    + (a.g.edges.filter (fun e => decide (vis e.2 = c))).length

theorem acPhi_cons (a : ACInput) (c : Nat) (u : Node) (rest : List Node) (vis : Node → Nat) :
    acPhi a c (u :: rest) vis = acPhi a c rest vis + 1 := by
  unfold acPhi
  rw [List.length_cons]
  omega

theorem acPhi_push (a : ACInput) (c new : Nat) (hnew : new ≠ c) (u : Node) (rest : List Node) (vis : Node → Nat)
    (hu : vis u = c) (p1 p2 : Node → Bool) :
    acPhi a c (((a.g.succ u).filter p1 ++ (a.g.pred u).filter p2).reverse ++ rest) (upd vis u new) + 1 ≤
      acPhi a c (u :: rest) vis := by
  unfold acPhi
  have h1 := count_mark a.g.edges (fun e => e.1) vis u c new hu hnew
  have h2 := count_mark a.g.edges (fun e => e.2) vis u c new hu hnew
  have hs : ((a.g.succ u).filter p1).length ≤ (a.g.edges.filter (fun e => decide (e.1 = u))).length := by
    refine Nat.le_trans (List.length_filter_le _ _) ?_
    unfold Graph.succ; simp
  have hp : ((a.g.pred u).filter p2).length ≤ (a.g.edges.filter (fun e => decide (e.2 = u))).length := by
    refine Nat.le_trans (List.length_filter_le _ _) ?_
    unfold Graph.pred; simp
  simp only [List.length_append, List.length_cons, List.length_reverse]
  omega

theorem acPhase1_fuel (a : ACInput) (n : Nat) (stack : List Node) (vis : Node → Nat) :
    acPhi a 0 stack vis ≤ n → acPhase1 a n stack vis ≠ .ok none := by
  fun_induction acPhase1 a n stack vis with
  | case1 => exact fun _ h' => nomatch h'
  | case2 => intro h; rw [acPhi_cons] at h; omega
  | case3 n u rest vis hvu ih => exact fun h => ih (by rw [acPhi_cons] at h; omega)
  | case4 => exact fun _ h' => nomatch h'
  | case5 n u rest vis hvu hsink vis' p1 p2 ih =>
    exact fun h => ih (Nat.le_of_succ_le_succ
      (Nat.le_trans (acPhi_push a 0 1 (by decide) u rest vis (Decidable.not_not.1 hvu) _ _) h))

theorem acPhase2_fuel (a : ACInput) (n : Nat) (stack : List Node) (vis : Node → Nat) (acc : List Edge) :
    acPhi a 1 stack vis ≤ n → acPhase2 a n stack vis acc ≠ none := by
  fun_induction acPhase2 a n stack vis acc with
  | case1 => exact fun _ h' => nomatch h'
  | case2 => intro h; rw [acPhi_cons] at h; omega
  | case3 n u rest vis acc hvu ih => exact fun h => ih (by rw [acPhi_cons] at h; omega)
  | case4 n u rest vis acc hvu vis' p1 new p2 ih =>
    exact fun h => ih (Nat.le_of_succ_le_succ
      (Nat.le_trans (acPhi_push a 1 2 (by decide) u rest vis (Decidable.not_not.1 hvu) _ _) h))

theorem acPhi_init (a : ACInput) (c : Nat) (vis : Node → Nat) : acPhi a c [a.source] vis ≤ acFuel a := by
  unfold acPhi acFuel
  have h1 := List.length_filter_le (fun e => decide (vis e.1 = c)) a.g.edges
  have h2 := List.length_filter_le (fun e => decide (vis e.2 = c)) a.g.edges
  simp only [List.length_cons, List.length_nil]
  omega

end FP
