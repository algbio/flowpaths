import FP.Model.Enc.MSC
import FP.Spec.GenSet
import FP.Proofs.LP
/-! `mscLP` read in values: binary columns and one `≥ 1` row per entry of the universe (`msc_sat_iff`); its objective is the
weight of the subsets an assignment agrees with (`msc_obj_eq`). That these are the covers and their weights is
`msc_sound`, `msc_complete`, `msc_objective` of `Props/C15`. -/
namespace FP.GS
open FP.Spec

/-- value of the objective (without the constant) -/
def objVal (a : Asg) (lp : LP) : Rat := evalTerms a lp.obj

/-- the chosen subsets of an assignment: python `[i for i in range(n) if sol[i] == 1]` -/
def mscChosen (a : Asg) : Nat → Bool := fun i => decide (a (subsetVar i) = 1)

/-- the assignment that selects the subsets `ch` -/
def mscAsg (ch : Nat → Bool) : Asg := fun v =>
  match v with
  | .ix p i => if p = "subset" then (if ch i then 1 else 0) else 0
  | _ => 0

theorem mscAsg_val (ch : Nat → Bool) (i : Nat) : mscAsg ch (subsetVar i) = if ch i then 1 else 0 := by
  simp [mscAsg, subsetVar]

/-- `subset_weights[i]` -/
def mscW (inp : MSCInput) : Nat → Rat := fun i => inp.weights.getD i 0

theorem msc_sat_iff (inp : MSCInput) (a : Asg) :
    Sat a (mscLP inp) ↔
      (∀ i, i < inp.subsets.length → a (subsetVar i) = 0 ∨ a (subsetVar i) = 1) ∧
      ∀ el ∈ inp.univ, 1 ≤ ((((List.range inp.subsets.length).zip inp.subsets).filter
        fun x => x.2.contains el).map fun x => a (subsetVar x.1)).sum := by
  simp only [Sat, mscLP, List.forall_mem_map, forall_mem_zip_range, col01_holds_iff, rowGe_holds,
    evalTerms_map, Rat.one_mul]

theorem msc_obj_eq (inp : MSCInput) (a : Asg) (ch : Nat → Bool)
    (hv : ∀ i, i < inp.subsets.length → a (subsetVar i) = if ch i then 1 else 0) :
    objVal a (mscLP inp) = coverWeight (mscW inp) inp.subsets.length ch := by
  have hfst : ((List.range inp.subsets.length).zip inp.subsets).map Prod.fst = List.range inp.subsets.length :=
    List.map_fst_zip (by simp)
  simp only [objVal, mscLP, evalTerms_map, coverWeight]
  conv => rhs; rw [← hfst, List.map_map]
  refine congrArg List.sum (List.map_congr_left fun x hx => ?_)
  obtain ⟨hi, _⟩ := (mem_zip_range _ x.1 x.2).1 hx
  simp only [Function.comp, mscW, hv x.1 hi]
  cases ch x.1 <;> simp

end FP.GS
