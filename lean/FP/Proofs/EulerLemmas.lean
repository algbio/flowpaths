import FP.Model.Euler
import FP.Proofs.WalkEdges
import FP.Proofs.Lib
/-! Hierholzer, first phase: balance bookkeeping, the effect of one `popOut` on the edge multiset,
and the invariant of `trail`. -/
namespace FP.Euler
open FP.Spec
variable {V : Type} [DecidableEq V]

/-- Iverson bracket in `Int`; the balance of a walk is a difference of two of these -/
def ind' (p : Prop) [Decidable p] : Int := if p then 1 else 0

omit [DecidableEq V] in
theorem ind'_pos {p : Prop} [Decidable p] (h : p) : ind' p = 1 := if_pos h

omit [DecidableEq V] in
theorem ind'_neg {p : Prop} [Decidable p] (h : ¬ p) : ind' p = 0 := if_neg h

theorem bal_append (a b : List (V × V)) (x : V) : bal (a ++ b) x = bal a x + bal b x := by
  simp [bal, outdeg, indeg, List.countP_append]; omega

theorem bal_perm {a b : List (V × V)} (h : a.Perm b) (x : V) : bal a x = bal b x := by
  simp [bal, outdeg, indeg, h.countP_eq]

theorem outdeg_eq_zero {es : List (V × V)} {x : V} (h : ∀ e ∈ es, e.1 ≠ x) : outdeg es x = 0 :=
  congrArg Nat.cast (List.countP_eq_zero.2 fun e he => by simpa using h e he)

theorem indeg_eq_zero {es : List (V × V)} {x : V} (h : ∀ e ∈ es, e.2 ≠ x) : indeg es x = 0 :=
  congrArg Nat.cast (List.countP_eq_zero.2 fun e he => by simpa using h e he)

theorem bal_eq_zero_of_not_endpoint {es : List (V × V)} {l : List V} (h : ∀ e ∈ es, e.1 ∈ l ∧ e.2 ∈ l)
    {x : V} (hx : x ∉ l) : bal es x = 0 := by
  unfold bal
  rw [outdeg_eq_zero fun e he (hc : e.1 = x) => hx (hc ▸ (h e he).1),
    indeg_eq_zero fun e he (hc : e.2 = x) => hx (hc ▸ (h e he).2)]
  rfl

theorem bal_cons (e : V × V) (es : List (V × V)) (x : V) :
    bal (e :: es) x = ind' (e.1 = x) - ind' (e.2 = x) + bal es x := by
  simp only [bal, outdeg, indeg, List.countP_cons, ind', decide_eq_true_eq]
  split <;> split <;> omega

theorem bal_walkEdges (a : V) (l : List V) (x : V) :
    bal (walkEdges (a :: l)) x = ind' (a = x) - ind' ((a :: l).getLast (by simp) = x) := by
  induction l generalizing a with
  | nil => exact (Int.sub_self _).symm
  | cons b l ih =>
    rw [we_cons_cons, bal_cons, ih b]
    exact (by omega : ∀ p q r : Int, p - q + (q - r) = p - r) _ _ _

theorem bal_walkEdges' {l : List V} {a z : V} (hh : l.head? = some a) (hl : l.getLast? = some z) (x : V) :
    bal (walkEdges l) x = ind' (a = x) - ind' (z = x) := by
  cases l with
  | nil => cases hh
  | cons b l =>
    cases hh
    rw [List.getLast?_eq_some_getLast (List.cons_ne_nil _ _)] at hl
    rw [bal_walkEdges, Option.some.inj hl]

/-- the balances of an `s`-`t` trail (`0` inside, `1` at `s`, `-1` at `t`) in one formula -/
theorem bal_st_iff {f : V → Int} {s t : V} (st : s ≠ t) :
    (∀ x, f x = ind' (s = x) - ind' (t = x)) ↔
      (∀ x, x ≠ s → x ≠ t → f x = 0) ∧ f s = 1 ∧ f t = -1 := by
  constructor
  · intro h
    refine ⟨fun x h1 h2 => ?_, ?_, ?_⟩
    · rw [h x, ind'_neg (Ne.symm h1), ind'_neg (Ne.symm h2)]; rfl
    · rw [h s, ind'_pos rfl, ind'_neg (Ne.symm st)]; rfl
    · rw [h t, ind'_neg st, ind'_pos rfl]; rfl
  · rintro ⟨inner, src, snk⟩ x
    by_cases h1 : x = s
    · subst h1; rw [src, ind'_pos rfl, ind'_neg (Ne.symm st)]; rfl
    · by_cases h2 : x = t
      · subst h2; rw [snk, ind'_neg (Ne.symm h1), ind'_pos rfl]; rfl
      · rw [inner x h1 h2, ind'_neg (Ne.symm h1), ind'_neg (Ne.symm h2)]; rfl

theorem keys_popOut (g : Adj V) (v : V) : (popOut g v).map (·.1) = g.map (·.1) := by
  unfold popOut
  rw [List.map_map]
  exact List.map_congr_left fun kl _ => by
    show (if kl.1 = v then (kl.1, kl.2.dropLast) else kl).1 = kl.1
    split <;> rfl

theorem out_cons_self (k : V) (l : List V) (g : Adj V) : out ((k, l) :: g) k = l := by
  simp [out, List.lookup]

theorem out_cons_ne (k v : V) (l : List V) (g : Adj V) (h : k ≠ v) : out ((k, l) :: g) v = out g v := by
  have : (v == k) = false := by simp [Ne.symm h]
  simp [out, List.lookup, this]

theorem popOut_cons (k : V) (l : List V) (g : Adj V) (v : V) :
    popOut ((k, l) :: g) v = (if k = v then (k, l.dropLast) else (k, l)) :: popOut g v := rfl

theorem popOut_of_notMem (g : Adj V) (v : V) (h : v ∉ g.map (·.1)) : popOut g v = g := by
  induction g with
  | nil => rfl
  | cons kl g ih =>
    simp only [List.map_cons, List.mem_cons, not_or] at h
    rw [popOut_cons, ih h.2, if_neg (Ne.symm h.1)]

theorem edges_popOut_perm (g : Adj V) (v w : V) (hk : (g.map (·.1)).Nodup)
    (h : (out g v).getLast? = some w) :
    List.Perm (edges g) ((v, w) :: edges (popOut g v)) := by
  induction g with
  | nil => simp [out] at h
  | cons kl g ih =>
    obtain ⟨k, l⟩ := kl
    simp only [List.map_cons, List.nodup_cons] at hk
    rw [popOut_cons]
    by_cases hkv : k = v
    · subst hkv
      rw [out_cons_self] at h
      rw [if_pos rfl, popOut_of_notMem g k hk.1]
      simp only [edges, List.flatMap_cons]
      conv => lhs; rw [getLast?_eq_some_split h]
      simp only [List.map_append, List.map_cons, List.map_nil, List.append_assoc, List.singleton_append]
      exact List.perm_middle
    · rw [out_cons_ne k v l g hkv] at h
      rw [if_neg hkv]
      exact (List.Perm.append_left _ (ih hk.2 h)).trans List.perm_middle

structure TrailInv (g0 : Adj V) (start : V) (g : Adj V) (cur : V) (walk : List V) : Prop where
  keys : (g.map (·.1)).Nodup
  head : walk.head? = some start
  last : walk.getLast? = some cur
  perm : (edges g0).Perm (walkEdges walk ++ edges g)

omit [DecidableEq V] in
theorem TrailInv.init (g : Adj V) (v : V) (keys : (g.map (·.1)).Nodup) : TrailInv g v g v [v] :=
  ⟨keys, rfl, rfl, by simp [walkEdges]⟩

/-- the step both phases take: follow the last unused out-edge of `cur` -/
theorem TrailInv.step {g0 g : Adj V} {start cur nxt : V} {walk : List V} (h : TrailInv g0 start g cur walk)
    (hn : (out g cur).getLast? = some nxt) : TrailInv g0 start (popOut g cur) nxt (walk ++ [nxt]) := by
  refine ⟨by rw [keys_popOut]; exact h.keys, ?_, by simp, ?_⟩
  · cases walk with
    | nil => have := h.head; simp at this
    | cons x xs => simpa using h.head
  · rw [we_concat walk cur nxt h.last]
    have := edges_popOut_perm g cur nxt h.keys hn
    refine h.perm.trans ?_
    rw [List.append_assoc]
    exact List.Perm.append_left _ (this.trans (by simp))

theorem trail_inv (g0 : Adj V) (start : V) :
    ∀ (n : Nat) (g : Adj V) (cur : V) (walk stack : List V), TrailInv g0 start g cur walk →
      let r := trail n g cur walk stack
      TrailInv g0 start r.1 r.2.1 r.2.2.1 := by
  intro n g cur walk stack h
  fun_induction trail n g cur walk stack with
  | case1 => exact h
  | case2 => exact h
  | case3 _ _ _ _ _ nxt hn ih => exact ih (h.step hn)

omit [DecidableEq V] in
theorem edges_length (g : Adj V) : (edges g).length = edgeCount g := by
  induction g with
  | nil => rfl
  | cons kl g ih => simp [edges, edgeCount, List.flatMap_cons] at ih ⊢

theorem edgeCount_popOut (g : Adj V) (v w : V) (hk : (g.map (·.1)).Nodup)
    (h : (out g v).getLast? = some w) : edgeCount (popOut g v) + 1 = edgeCount g := by
  have := (edges_popOut_perm g v w hk h).length_eq
  simp [edges_length] at this; omega

theorem trail_stuck :
    ∀ (n : Nat) (g : Adj V) (cur : V) (walk stack : List V), (g.map (·.1)).Nodup → edgeCount g < n →
      out (trail n g cur walk stack).1 (trail n g cur walk stack).2.1 = [] := by
  intro n g cur walk stack hk hlt
  fun_induction trail n g cur walk stack with
  | case1 => omega
  | case2 _ _ _ _ _ hnone => exact List.getLast?_eq_none_iff.1 hnone
  | case3 _ g cur _ _ nxt hn ih =>
    apply ih
    · rw [keys_popOut]; exact hk
    · have := edgeCount_popOut g cur nxt hk hn; omega

theorem trail_stack :
    ∀ (n : Nat) (g : Adj V) (cur : V) (walk stack : List V), walk = stack ++ [cur] →
      (trail n g cur walk stack).2.2.1 = (trail n g cur walk stack).2.2.2 ++ [(trail n g cur walk stack).2.1] := by
  intro n g cur walk stack h
  fun_induction trail n g cur walk stack with
  | case1 => exact h
  | case2 => exact h
  | case3 _ _ _ _ _ _ _ ih => apply ih; rw [h]

theorem out_of_mem (g : Adj V) (kl : V × List V) (hk : (g.map (·.1)).Nodup) (hm : kl ∈ g) :
    out g kl.1 = kl.2 := by
  induction g with
  | nil => simp at hm
  | cons a g ih =>
    simp only [List.map_cons, List.nodup_cons] at hk
    rcases List.mem_cons.1 hm with rfl | hmem
    · exact out_cons_self _ _ _
    · have hne : a.1 ≠ kl.1 := by
        intro ha; apply hk.1; rw [ha]; exact List.mem_map.2 ⟨kl, hmem, rfl⟩
      rw [show a = (a.1, a.2) from rfl, out_cons_ne _ _ _ _ hne]; exact ih hk.2 hmem

theorem mem_edges_of_mem_out (g : Adj V) (v w : V) (h : w ∈ out g v) : (v, w) ∈ edges g := by
  unfold out at h
  cases hl : g.lookup v with
  | none => rw [hl] at h; cases h
  | some l =>
    rw [hl] at h
    exact List.mem_flatMap.2 ⟨(v, l), mem_of_lookup_eq_some hl, List.mem_map.2 ⟨w, h, rfl⟩⟩

theorem mem_out_of_mem_edges {g : Adj V} {v w : V} (hk : (g.map (·.1)).Nodup)
    (h : (v, w) ∈ edges g) : w ∈ out g v := by
  simp only [edges, List.mem_flatMap, List.mem_map] at h
  obtain ⟨kl, hkl, w', hw', heq⟩ := h
  have h1 : kl.1 = v := congrArg Prod.fst heq
  have h2 : w' = w := congrArg Prod.snd heq
  rw [← h1, out_of_mem g kl hk hkl, ← h2]; exact hw'

theorem trail_balance (g0 g : Adj V) (start cur : V) (walk : List V)
    (h : TrailInv g0 start g cur walk) (x : V) :
    bal (edges g0) x = ind' (start = x) - ind' (cur = x) + bal (edges g) x := by
  have hp := bal_perm h.perm x
  rwa [bal_append, bal_walkEdges' h.head h.last] at hp

/-- the degree argument: a trail from `start` gets stuck only at a vertex whose balance in `g0`
    is at most `[start = cur] - 1` -/
theorem stuck_balance (g0 g : Adj V) (start cur : V) (walk : List V)
    (h : TrailInv g0 start g cur walk) (hs : out g cur = []) :
    bal (edges g0) cur ≤ ind' (start = cur) - 1 := by
  have hp := trail_balance g0 g start cur walk h cur
  have hout : outdeg (edges g) cur = 0 := outdeg_eq_zero fun e he hc => by
    have : e.2 ∈ out g cur := mem_out_of_mem_edges h.keys (by rw [← hc]; exact he)
    rw [hs] at this; cases this
  have hin : 0 ≤ indeg (edges g) cur := by simp [indeg]
  rw [ind'_pos rfl, show bal (edges g) cur = outdeg (edges g) cur - indeg (edges g) cur from rfl, hout] at hp
  omega
end FP.Euler
