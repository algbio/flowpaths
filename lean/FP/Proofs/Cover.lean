import FP.Model.Enc.KCover
import FP.Proofs.PathCoreComplete
import FP.Proofs.Reach
import FP.Proofs.Search
import FP.Proofs.KFD
/-!
# FP.Proofs.Cover — `kPathCover` and the search for the minimum path cover

The `kPathCover` LP is feasible for `k` exactly when `k` source-to-sink paths cover the active
edges and contain the constraints; the stop-search over `k`, started at the size of an antichain,
returns the minimum cover. `antichain_of_unreachable` (any digraph) is the reachability fact behind the antichain check.
-/
namespace FP
open FP.Spec

theorem kcover_rows (inp : FlowInput) (a : Asg) (hsat : Sat a (kcoverLP inp)) (e : Edge)
    (he : e ∈ inp.activeEdges) :
    1 ≤ ((List.range inp.cfg.k).map fun i => a (edgeVar e i)).sum := by
  obtain ⟨_, hrows⟩ := sat_append_right hsat
  simp only at hrows
  have hr := hrows (rowGe (ones (List.range inp.cfg.k) (edgeVar e)) 1)
    (List.mem_map.2 ⟨e, List.mem_filter.2 ⟨he, by simp [coverSkipped]⟩, rfl⟩)
  rwa [rowGe_holds, evalTerms_ones] at hr

/-- the cover row of an edge that is not ignored puts the edge on some layer -/
theorem kcover_uses (inp : FlowInput) (a : Asg) (hsat : Sat a (kcoverLP inp)) :
    ∀ e ∈ inp.activeEdges, ∃ i, i < inp.cfg.k ∧ a (edgeVar e i) = 1 := by
  intro e he
  obtain ⟨i, hi, h1⟩ := exists_one_of_sum_ge_one
    (fun i hi => (layerFacts_of_sat (sat_append_left hsat) (List.mem_range.1 hi)).bin e
      (active_mem he).1) (kcover_rows inp a hsat e he)
  exact ⟨i, List.mem_range.1 hi, h1⟩

/-- the cover rows, read on the routes the assignment represents: an edge that is not ignored lies on one of them -/
theorem cover_route_mem (inp : FlowInput) (a : Asg) (hsat : Sat a (kcoverLP inp)) (P : Nat → List Node)
    (htrav : ∀ i, i < inp.cfg.k → ∀ e ∈ inp.st.g.edges, a (edgeVar e i) = trav inp.st (P i) e) {e : Edge}
    (he : e ∈ inp.activeEdges) : ∃ i, i < inp.cfg.k ∧ e ∈ walkEdges (full inp.st (P i)) := by
  obtain ⟨i, hi, h1⟩ := kcover_uses inp a hsat e he
  exact ⟨i, hi, mem_of_trav_ne_zero (by rw [← htrav i hi e (active_mem he).1, h1]; decide)⟩

/-- every satisfying assignment of the `kPathCover` LP decodes to `k` routes of the user's
graph which together contain every edge that is neither ignored nor synthetic -/
theorem kcover_sound (inp : FlowInput) (a : Asg) (h : BaseWF inp.base) (hac : Acyclic inp.base)
    (hsat : Sat a (kcoverLP inp)) :
    ∃ ps : List (List Node), decodePaths inp.st (fun e i => a (edgeVar e i)) inp.cfg.k = some ps ∧
      ps.length = inp.cfg.k ∧
      (∀ p ∈ ps, p ≠ [] → ValidRoute inp.base inp.starts inp.ends p ∧ p.Nodup) ∧
      (∀ p ∈ ps, p = [] → inp.cfg.allowEmpty = true) ∧
      ∀ e ∈ inp.activeEdges, ∃ p ∈ ps, e ∈ walkEdges p := by
  have henc : Sat a (encodePaths inp.st inp.cfg) := sat_append_left hsat
  obtain ⟨ps, hps, hlen, hr, htrav⟩ := decode_routes a (h.stwf hac) henc
  have hroute : ∀ p ∈ ps, (p = [] → inp.cfg.allowEmpty = true) ∧
      (p ≠ [] → ValidRoute inp.base inp.starts inp.ends p ∧ p.Nodup) := by
    intro p hp
    obtain ⟨i, hi, rfl⟩ := List.mem_iff_getElem.1 hp
    have hri := hr i (hlen ▸ hi)
    rw [getD_eq_getElem ps [] hi] at hri
    exact ⟨fun h0 => hri.elim (·.2) (absurd h0 ·.1), validRoute_of_route h hri⟩
  refine ⟨ps, hps, hlen, fun p hp => (hroute p hp).2, fun p hp => (hroute p hp).1, ?_⟩
  intro e he
  obtain ⟨_, h1, h2, _⟩ := active_mem he
  obtain ⟨i, hik, hmem⟩ := cover_route_mem inp a hsat _ htrav he
  -- `e` touches neither synthetic endpoint, so it lies on the decoded path without them
  exact ⟨ps.getD i [], getD_mem [] (hlen ▸ hik), (we_mem_strip _ h1 h2).1 hmem⟩

/-- the assignment read off `k` routes: `edge(u,v,i)` = multiplicity of `(u,v)` on route `i`,
`r(i,j)` = "route `i` contains every edge of constraint `j`" -/
def coverAsg (routes : List (List Node)) (cons : List (List Edge)) : Asg := fun v =>
  match v with
  | .uvi p u w i => if p = "edge" then cntR (walkEdges (routes.getD i [])) (u, w) else 0
  | .ij p i j =>
    if p = "r" ∧ (cons.getD j []).all (fun e => (walkEdges (routes.getD i [])).contains e) = true
    then 1 else 0
  | _ => 0

theorem coverAsg_edge (routes : List (List Node)) (cons : List (List Edge)) (e : Edge) (i : Nat) :
    coverAsg routes cons (edgeVar e i) = cntR (walkEdges (routes.getD i [])) e := by
  simp [coverAsg, edgeVar]

theorem coverAsg_r (routes : List (List Node)) (cons : List (List Edge)) (i j : Nat) :
    coverAsg routes cons (rVar i j) =
      if (∀ e ∈ cons.getD j [], e ∈ walkEdges (routes.getD i [])) then 1 else 0 := by
  have : (((cons.getD j []).all fun e => (walkEdges (routes.getD i [])).contains e) = true) ↔
      (∀ e ∈ cons.getD j [], e ∈ walkEdges (routes.getD i [])) := by
    simp only [List.all_eq_true, List.contains_iff_mem]
  simp only [coverAsg, rVar, true_and, this]

/-- `k` source-to-sink paths of the augmented DAG which cover every active edge and contain
every subpath constraint give a satisfying assignment of the `kPathCover` LP (subpath constraints at
coverage fraction 1, no `length_attr` coverage, no position variables) -/
theorem kcover_complete (inp : FlowInput) (hwf : STWF inp.st) (routes : List (List Node))
    (hk : routes.length = inp.cfg.k) (hcl : inp.cfg.coverageLength = none)
    (hcov : inp.cfg.coverage = 1) (hpos : inp.cfg.encodePosition = false)
    (hr : ∀ r ∈ routes, IsSTWalk inp.st r) (hc : Covers routes inp.activeEdges)
    (hs : Satisfies routes inp.cfg.constraints) :
    Sat (coverAsg routes inp.cfg.constraints) (kcoverLP inp) := by
  have hnd : ∀ r ∈ routes, (walkEdges r).Nodup :=
    fun r hm => walkEdges_nodup (stwalk_nodup hwf (hr r hm).walk)
  refine sat_append (sat_encodePaths_of_stwalks inp.st inp.cfg _ hwf hpos hcl hcov
    (fun i => routes.getD i []) (fun i hi => hr _ (getD_mem [] (hk ▸ hi)))
    (fun i _ e => coverAsg_edge routes inp.cfg.constraints e i)
    (fun i _ j hj => by rw [coverAsg_r, getD_eq_getElem _ [] hj]) fun con hcon => ?_) ?_
  · obtain ⟨r, hr, hall⟩ := hs con hcon
    obtain ⟨i, hi, rfl⟩ := List.mem_iff_getElem.1 hr
    exact ⟨i, hk ▸ hi, by rwa [getD_eq_getElem routes [] hi]⟩
  · refine (sat_rows_only _ _).2 fun r hr' => ?_
    obtain ⟨e, he, rfl⟩ := List.mem_map.1 hr'
    obtain ⟨r0, hr0, hmem⟩ := hc e (List.mem_filter.1 he).1
    obtain ⟨i0, hi0, rfl⟩ := List.mem_iff_getElem.1 hr0
    rw [rowGe_holds, evalTerms_ones]
    have hle := le_sum_of_mem
      (fun i => coverAsg routes inp.cfg.constraints (edgeVar e i))
      (fun i _ => by rw [coverAsg_edge]; exact cntR_nonneg _ _) (List.mem_range.2 (hk ▸ hi0))
    rwa [coverAsg_edge, getD_eq_getElem routes [] hi0,
      cntR_mem _ (hnd _ hr0) e hmem] at hle

/-- a satisfying assignment of the `kPathCover` LP (no empty paths) yields a cover by `k`
source-to-sink paths of the augmented DAG that contains every subpath constraint -/
theorem kcover_hasCover_of_sat (inp : FlowInput) (a : Asg) (hwf : STWF inp.st)
    (hae : inp.cfg.allowEmpty = false) (hcl : inp.cfg.coverageLength = none)
    (hcov : inp.cfg.coverage = 1)
    (hce : ∀ c ∈ inp.cfg.constraints, ∀ e ∈ c, e ∈ inp.st.g.edges)
    (hsat : Sat a (kcoverLP inp)) :
    HasCover inp.st inp.activeEdges inp.cfg.constraints inp.cfg.k := by
  have henc : Sat a (encodePaths inp.st inp.cfg) := sat_append_left hsat
  obtain ⟨ps, _, _, hroute, htrav⟩ := decode_routes a hwf henc
  refine ⟨(List.range inp.cfg.k).map fun i => full inp.st (ps.getD i []), by simp, fun r hr => ?_,
    fun e he => ?_, fun con hcon => ?_⟩
  · obtain ⟨i, hi, rfl⟩ := List.mem_map.1 hr
    exact isSTWalk_of_isWalkIn (Route.walk (hae ▸ hroute i (List.mem_range.1 hi)))
  · obtain ⟨i, hi, hmem⟩ := cover_route_mem inp a hsat _ htrav he
    exact ⟨_, List.mem_map_of_mem (List.mem_range.2 hi), hmem⟩
  · obtain ⟨i, hi, hall⟩ := route_contains inp.st inp.cfg a henc _ htrav hcl hcov hce con hcon
    exact ⟨_, List.mem_map_of_mem (List.mem_range.2 hi), hall⟩

theorem kcover_feasible_iff (inp : FlowInput) (hwf : STWF inp.st)
    (hae : inp.cfg.allowEmpty = false) (hcl : inp.cfg.coverageLength = none)
    (hcov : inp.cfg.coverage = 1) (hpos : inp.cfg.encodePosition = false)
    (hce : ∀ c ∈ inp.cfg.constraints, ∀ e ∈ c, e ∈ inp.st.g.edges) :
    (∃ a, Sat a (kcoverLP inp)) ↔ HasCover inp.st inp.activeEdges inp.cfg.constraints inp.cfg.k := by
  constructor
  · rintro ⟨a, hsat⟩
    exact kcover_hasCover_of_sat inp a hwf hae hcl hcov hce hsat
  · rintro ⟨routes, hk, hr, hc, hs⟩
    exact ⟨_, kcover_complete inp hwf routes hk hcl hcov hpos hr hc hs⟩

/-- without routes nothing is covered -/
theorem hasCover_zero {s : STGraph} {active : List Edge} {cons : List (List Edge)}
    (h : HasCover s active cons 0) : active = [] ∧ cons = [] := by
  obtain ⟨routes, hlen, _, hc, hs⟩ := h
  cases List.eq_nil_of_length_eq_zero hlen
  exact ⟨List.eq_nil_iff_forall_not_mem.2 fun e he => let ⟨_, hr, _⟩ := hc e he; absurd hr List.not_mem_nil,
    List.eq_nil_iff_forall_not_mem.2 fun c hcm => let ⟨_, hr, _⟩ := hs c hcm; absurd hr List.not_mem_nil⟩

theorem cover_monotone (s : STGraph) (active : List Edge) (cons : List (List Edge)) (k : Nat)
    (hk : 1 ≤ k) (h : HasCover s active cons k) : HasCover s active cons (k + 1) := by
  obtain ⟨routes, hlen, hr, hc, hs⟩ := h
  cases routes with
  | nil => simp at hlen; omega
  | cons r rs =>
    refine ⟨r :: r :: rs, by simp at hlen ⊢; omega, ?_, ?_, ?_⟩
    · intro x hx
      apply hr
      rcases List.mem_cons.1 hx with rfl | hx
      · simp
      · exact hx
    · intro e he
      obtain ⟨x, hx, hm⟩ := hc e he
      exact ⟨x, List.mem_cons_of_mem _ hx, hm⟩
    · intro c hcm
      obtain ⟨x, hx, hm⟩ := hs c hcm
      exact ⟨x, List.mem_cons_of_mem _ hx, hm⟩

theorem cover_monotone_le (s : STGraph) (active : List Edge) (cons : List (List Edge)) (k j : Nat)
    (hk : 1 ≤ k) (hkj : k ≤ j) (h : HasCover s active cons k) : HasCover s active cons j := by
  induction hkj with
  | refl => exact h
  | step hle ih => exact cover_monotone s active cons _ (Nat.le_trans hk hle) ih

theorem antichain_weak_duality (s : STGraph) (active : List Edge) (cons : List (List Edge))
    (A : List Edge) (hA : Antichain s A) (hact : ∀ e ∈ A, e ∈ active) (k : Nat)
    (h : HasCover s active cons k) : A.length ≤ k := by
  obtain ⟨routes, hlen, hr, hc, _⟩ := h
  rw [← hlen]
  exact pigeon_boxes (fun e r => e ∈ walkEdges r) routes A hA.nodup (fun e he => hc e (hact e he))
    (fun r hrm e1 he1 e2 he2 => hA.incomparable r (hr r hrm) e1 he1 e2 he2)

/-- the form in which `IsMinCover` and the search ask for the lower bound -/
theorem no_cover_below_antichain {s : STGraph} {active : List Edge} {cons : List (List Edge)} {A : List Edge}
    (hA : Antichain s A) (hact : ∀ e ∈ A, e ∈ active) : ∀ j, j < A.length → ¬ HasCover s active cons j :=
  fun j hj hc => Nat.not_le.2 hj (antichain_weak_duality s active cons A hA hact j hc)

/-- distinct edges none of whose heads reaches the tail of another form an antichain (any digraph,
cycles allowed): this is the check a breadth-first search performs on a reported antichain -/
theorem antichain_of_unreachable (s : STGraph) (A : List Edge) (hnd : A.Nodup)
    (h : ∀ e1 ∈ A, ∀ e2 ∈ A, e1 ≠ e2 → ¬ Reach s.g.edges e1.2 e2.1) : Antichain s A := by
  refine ⟨hnd, fun r hr e1 he1 e2 he2 hm1 hm2 => ?_⟩
  apply Classical.byContradiction
  intro hne
  rcases reach_of_common_walk s.g r hr.walk e1 e2 hm1 hm2 hne with hx | hx
  · exact h e1 he1 e2 he2 hne hx
  · exact h e2 he2 e1 he1 (fun h' => hne h'.symm) hx

def withK (inp : FlowInput) (k : Nat) : FlowInput := { inp with cfg := { inp.cfg with k := k } }

/-- the upward search started at the size of an antichain, for any family of `k`-models whose feasibility is the
existence of a cover with `k` routes: the antichain is the lower bound `stopSearch_minimal` asks for -/
theorem cover_search_of_iff (s : STGraph) (active : List Edge) (cons : List (List Edge)) (F : Nat → Prop)
    (hiff : ∀ k, F k ↔ HasCover s active cons k) (σ : Nat → Search.Status)
    (hopt : ∀ k, σ k = .optimal → F k) (hinf : ∀ k, σ k = .infeasible → ¬ F k)
    (A : List Edge) (hA : Antichain s A) (hAact : ∀ e ∈ A, e ∈ active)
    (hi m : Nat) (hs : (Search.stopSearch σ A.length hi).solved = some m) : IsMinCover s active cons m :=
  have hmin := Search.stopSearch_minimal _ σ A.length hi m
    (fun k hk => (hiff k).1 (hopt k hk)) (fun k hk hc => hinf k hk ((hiff k).2 hc))
    (no_cover_below_antichain hA hAact) hs
  ⟨hmin.1, hmin.2.1⟩

theorem mincover_search (inp : FlowInput) (h : BaseWF inp.base) (hac : Acyclic inp.base)
    (hae : inp.cfg.allowEmpty = false) (hcl : inp.cfg.coverageLength = none)
    (hcov : inp.cfg.coverage = 1) (hpos : inp.cfg.encodePosition = false)
    (hce : ∀ c ∈ inp.cfg.constraints, ∀ e ∈ c, e ∈ inp.st.g.edges)
    (σ : Nat → Search.Status)
    (hopt : ∀ k, σ k = .optimal → ∃ a, Sat a (kcoverLP (withK inp k)))
    (hinf : ∀ k, σ k = .infeasible → ¬ ∃ a, Sat a (kcoverLP (withK inp k)))
    (A : List Edge) (hA : Antichain inp.st A) (hAact : ∀ e ∈ A, e ∈ inp.activeEdges)
    (hi m : Nat) (hs : (Search.stopSearch σ A.length hi).solved = some m) :
    IsMinCover inp.st inp.activeEdges inp.cfg.constraints m :=
  cover_search_of_iff _ _ _ _
    (fun k => kcover_feasible_iff (withK inp k) (h.stwf hac) hae hcl hcov hpos hce)
    σ hopt hinf A hA hAact hi m hs

end FP
