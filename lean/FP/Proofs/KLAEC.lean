import FP.Spec.ErrWalks
import FP.Proofs.ErrAsg
import FP.Proofs.WalkChan
import FP.Proofs.WalkCore
/-!
Soundness of the `kLeastAbsErrorsCycles` LP (`klaecLP`). The LP is the walk core with the repetition caps `klaecCap`
(inside an SCC the floor of the largest flow value reachable from / reaching the edge, `1` outside), the weight channel
(`pi`, weight columns, product blocks: `WalkChan`), the `ee` columns, two error rows per non-ignored edge and the
objective. `sat_klaecLP_iff` reads the LP as a whole and gives `klaec_pi`: `pi = w · multiplicity`; with the layer facts of
the walk core (`walkcore_layer_mults`: the multiplicities are the traversal counts of the decoded walks) it gives
`klaec_err_le`: `ee(e) ≥ |f(e) − Σ_i w_i · traversals_i(e)|`.
-/
namespace FP
open FP.Spec

/-- `edge_upper_bounds[e]` of the two cyclic error models -/
def klaecCap (inp : WalkInput) (e : Edge) : Rat := lookupD (reachBounds inp) e 1

/-- `create_solver_and_walks` of the two cyclic error models -/
def klaecCore (inp : WalkInput) : LP := walkCore inp.st inp.cfg (klaecCap inp)

theorem klaecLP_obj (inp : WalkInput) (a : Asg) :
    evalTerms a (klaecLP inp).obj = ((inp.activeEdges true).map fun e => inp.scale e * a (eeVar e)).sum := by
  show evalTerms a ((inp.activeEdges true).map fun e => (inp.scale e, eeVar e)) = _
  rw [evalTerms_map]

theorem sat_klaecLP_iff (inp : WalkInput) (a : Asg) :
    Sat a (klaecLP inp) ↔
      Sat a (klaecCore inp) ∧
      WalkChan a inp.st.g.edges (inp.activeEdges true) inp.k weightsVar piVar (inp.wmax true) klaecProdName
        inp.weightInt inp.weightInt ∧
      (∀ e ∈ inp.activeEdges true, 0 ≤ a (eeVar e) ∧ a (eeVar e) ≤ inp.wmax true ∧
        (inp.weightInt = true → ∃ z : Int, a (eeVar e) = z)) ∧
      ∀ e ∈ inp.activeEdges true,
        (inp.f e - ((List.range inp.k).map fun i => a (piVar e i)).sum).abs ≤ a (eeVar e) := by
  have hP := sat_walkProducts_iff a (inp.activeEdges true) inp.k weightsVar piVar (inp.wmax true) klaecProdName
  simp only [Sat] at hP
  unfold klaecLP
  rw [sat_append_iff]
  refine and_congr Iff.rfl ?_
  simp only [Sat, List.forall_mem_append, List.forall_mem_flatMap, List.forall_mem_map,
    List.mem_range, col_holds_iff, List.forall_mem_cons, List.not_mem_nil, false_imp_iff, implies_true,
    and_true, laeRows_iff, evalTerms_ones]
  -- `h1` `pi` boxes, `h2` weight boxes, `h3` `ee` boxes, `h4`/`h5` columns/rows of the product blocks, `h6` error rows
  exact ⟨fun ⟨⟨⟨⟨h1, h2⟩, h3⟩, h4⟩, h5, h6⟩ => ⟨⟨h2, h1, hP.1 ⟨h4, h5⟩⟩, h3, h6⟩,
    fun ⟨hc, h3, h6⟩ => ⟨⟨⟨⟨hc.prodBox, hc.contBox⟩, h3⟩, (hP.2 hc.block).1⟩, (hP.2 hc.block).2, h6⟩⟩

theorem klaec_sat_enc {inp : WalkInput} {a : Asg} (h : Sat a (klaecLP inp)) :
    Sat a (encodeWalks inp.st inp.cfg (klaecCap inp)) :=
  sat_append_left ((sat_klaecLP_iff inp a).1 h).1

section Read
variable {inp : WalkInput} {a : Asg} (h : BaseWF inp.base) (hsat : Sat a (klaecLP inp))
include hsat

theorem klaec_pi {e : Edge} (he : e ∈ inp.activeEdges true) {i : Nat} (hi : i < inp.k) :
    a (piVar e i) = a (weightsVar i) * (multOf a i e : Rat) :=
  ((sat_klaecLP_iff inp a).1 hsat).2.1.value he hi (edge_col (klaec_sat_enc hsat) hi (List.mem_filter.1 he).1)

include h

theorem klaec_err_le {e : Edge} (he : e ∈ inp.activeEdges true) :
    LAEC.absErr inp (decodeWalkLayer inp.st a) (fun i => a (weightsVar i)) e ≤ a (eeVar e) := by
  obtain ⟨_, hc, _, hrows⟩ := (sat_klaecLP_iff inp a).1 hsat
  have hl := fun i hi => walkcore_layer_mults inp.st _ a h.stwfc (klaec_sat_enc hsat) i hi e (List.mem_filter.1 he).1
  unfold LAEC.absErr
  rw [← hc.sum he fun i hi => ⟨(hl i hi).1, (hl i hi).2.1⟩]
  exact hrows e he

end Read

end FP
