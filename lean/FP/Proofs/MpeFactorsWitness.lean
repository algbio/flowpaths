import FP.Proofs.ErrExample
import FP.Proofs.KMPE
/-!
The path-length-factor block of k-Min-Path-Error is sound (`KMPE`) but not complete. `factors_gt1_infeasible`: the
code falsifies feasibility with a factor above 1 — the LP of `a → b → c`, `f = (1, 3)`, `k = 1`,
`path_length_factors = [4]` has no satisfying assignment although weight 2, slack 1 (scaled slack 4) is a
solution of the problem.
-/
namespace FP
open FP.Spec

namespace MpeFactors
open FP.ErrExample

def fi3 : FlowInput :=
  { base := base, flow := [(("a", "b"), 1), (("b", "c"), 3)], weightInt := true,
    cfg := { k := 1, encodePosition := true } }
/-- `a → b → c`, `f = (1, 3)`, `k = 1`, `path_length_ranges = [[0, 1000]]`, `path_length_factors = [4]` -/
def inp3 : MpeInput := { ei := { fi := fi3 }, ranges := [(0, 1000)], factors := [4] }

theorem basic3 : inp3.ei.basicEdges = [("a", "b"), ("b", "c")] := by decide +kernel
theorem wmax3 : inp3.ei.wmax none = 3 := by decide +kernel
theorem range_k3 : List.range inp3.ei.k = [0] := by decide
theorem f3_ab : inp3.ei.fi.f ("a", "b") = 1 := by decide
theorem f3_bc : inp3.ei.fi.f ("b", "c") = 3 := by decide
theorem sc3_ab : inp3.ei.scale ("a", "b") = 1 := by decide
theorem sc3_bc : inp3.ei.scale ("b", "c") = 1 := by decide

/-- weight 2 with scaled slack 4 (slack 1 · factor 4) solves the instance in the sense of the
property: `|1 − 2| ≤ 4` and `|3 − 2| ≤ 4` -/
theorem problem_has_solution :
    ∀ e ∈ inp3.ei.basicEdges, MPE.SlackOK inp3.ei P (fun _ => 2) (fun _ => (1 : Rat) * 4) e := by
  unfold MPE.SlackOK; decide +kernel

theorem ones3 (a : Asg) (v : Nat → Var) : evalTerms a (ones (List.range inp3.ei.k) v) = a (v 0) := by
  rw [evalTerms_ones, range_k3]; exact Rat.add_zero _

theorem no_weight (w g : Rat) (hg : g = 0) (h1 : -(1 - w) * 1 ≤ g) (h2 : (3 - w) * 1 ≤ g) : False := by
  subst hg; grind

/-- the LP built by the constructor is infeasible: `gamma ≤ w_max = 3` forces
`scaled_slack = 4·slack ≤ 3`, hence `slack = 0`, and no weight explains both `1` and `3` exactly. -/
theorem factors_gt1_infeasible : ¬ ∃ a : Asg, Sat a (kmpeLP inp3) := by
  rintro ⟨a, hsat⟩
  have hne : inp3.factors ≠ [] := by decide
  obtain ⟨henc, ⟨_, _, hsc, hgc⟩, hFB, hbinw, hbins, herr⟩ := (kmpe_sat_iff inp3 a).1 hsat
  simp only [slackFor_cons inp3 hne] at hbins
  obtain ⟨hxab, hxbc⟩ := path_forced (layerFacts_of_sat henc (i := 0) (by decide))
  have hab : ("a", "b") ∈ inp3.ei.basicEdges := by rw [basic3]; simp
  have hbc : ("b", "c") ∈ inp3.ei.basicEdges := by rw [basic3]; simp
  have h0 : (0 : Nat) < inp3.ei.k := by decide
  have hpab := binProd_sound _ _ (Or.inr hxab) (hbinw _ hab 0 h0)
  have hpbc := binProd_sound _ _ (Or.inr hxbc) (hbinw _ hbc 0 h0)
  have hgab := binProd_sound _ _ (Or.inr hxab) (hbins _ hab 0 h0)
  have hgbc := binProd_sound _ _ (Or.inr hxbc) (hbins _ hbc 0 h0)
  rw [hxab, Rat.one_mul] at hpab hgab
  rw [hxbc, Rat.one_mul] at hpbc hgbc
  -- scaled slack = 4 · slack
  obtain ⟨j, hj, _, _, hss⟩ := factorBlock_sound a hne rfl (by decide) hFB 0 h0
  obtain rfl : j = 0 := Nat.lt_one_iff.1 hj
  have hss : a (scaledSlackVar 0) = a (slackVar 0) * 4 := hss
  -- gamma ≤ w_max = 3 leaves only slack 0
  have hgle := (hgc 0 h0 ("a", "b") (mem_basicEdges hab)).2
  rw [wmax3, hgab, hss] at hgle
  have hz0 : a (slackVar 0) = 0 := by
    rcases int01 _ (hsc 0 h0).1 (by grind) ((hsc 0 h0).2.2 rfl) with h | h
    · exact h
    · rw [h] at hgle; exact absurd hgle (by decide +kernel)
  have r1 := ((errRows_iff _ _ _ _ _).1 (herr _ hab)).2
  have r2 := ((errRows_iff _ _ _ _ _).1 (herr _ hbc)).1
  rw [ones3, ones3, hpab, hgab, hss, hz0, f3_ab, sc3_ab] at r1
  rw [ones3, ones3, hpbc, hgbc, hss, hz0, f3_bc, sc3_bc] at r2
  exact no_weight _ _ (Rat.zero_mul 4) r1 r2

end MpeFactors

/-- number of edges of a route in the augmented graph (the value of its `path_length` column) -/
def pathLenN (s : STGraph) (p : List Node) : Nat := (s.g.edges.map fun e => traversals (full s p) e).sum

/-- the completeness intended with path-length factors (what "feasible for k ≥ width" needs): every
choice of `k` routes, weights and slacks of the requested type within `w_max`, with a range `j i`
containing the length of route `i`, whose *scaled* slacks `slack_i · factors[j i]` satisfy the slack
inequality, is represented by a satisfying assignment. -/
def kmpe_factors_complete_FullStatement : Prop :=
  ∀ (inp : MpeInput), BaseWF inp.ei.fi.base → Acyclic inp.ei.fi.base → inp.factors ≠ [] →
    inp.ranges.length = inp.factors.length →
    inp.ei.fi.cfg.constraints = [] → inp.ei.fi.cfg.lengths = none →
    ∀ (P : Nat → List Node) (w sl : Nat → Rat) (j : Nat → Nat),
      (∀ i, i < inp.ei.k → Route inp.ei.st inp.ei.fi.cfg.allowEmpty (P i)) →
      (∀ i, i < inp.ei.k → 0 ≤ w i ∧ w i ≤ inp.ei.wmax none ∧ 0 ≤ sl i ∧ sl i ≤ inp.ei.wmax none ∧
        IsInt (w i) ∧ IsInt (sl i)) →
      (∀ i, i < inp.ei.k → ∃ r ∈ inp.ranges[j i]?, r.1 ≤ (pathLenN inp.ei.st (P i) : Rat) ∧
        (pathLenN inp.ei.st (P i) : Rat) ≤ r.2) →
      (∀ e ∈ inp.ei.basicEdges,
        MPE.SlackOK inp.ei P w (fun i => sl i * inp.factors.getD (j i) 0) e) →
      ∃ a : Asg, Sat a (kmpeLP inp)

/-- the code falsifies it (finding C08-factors-gt1-gamma-ub) -/
theorem kmpe_factors_complete_false : ¬ kmpe_factors_complete_FullStatement := by
  intro hfull
  apply MpeFactors.factors_gt1_infeasible
  refine hfull MpeFactors.inp3 ErrExample.base_wf ErrExample.base_acyclic (by decide) rfl rfl rfl
    ErrExample.P (fun _ => 2) (fun _ => 1) (fun _ => 0) (fun _ _ => ErrExample.route _) ?_ ?_ ?_
  · intro i _
    rw [MpeFactors.wmax3]
    exact ⟨by decide, by decide, by decide, by decide, ⟨2, by simp⟩, ⟨1, by simp⟩⟩
  · intro i _
    have : pathLenN MpeFactors.inp3.ei.st (ErrExample.P i) = 4 := by
      show pathLenN MpeFactors.inp3.ei.st ["a", "b", "c"] = 4
      decide
    rw [this]
    exact ⟨(0, 1000), rfl, by decide, by decide⟩
  · have : (fun i : Nat => (1 : Rat) * MpeFactors.inp3.factors.getD ((fun _ => 0) i) 0) = fun _ => (1 : Rat) * 4 := by
      funext i; rfl
    rw [this]
    exact MpeFactors.problem_has_solution

end FP
