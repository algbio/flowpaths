import FP.Proofs.KCoverC
import FP.Proofs.C10Subset
import FP.Spec.Safety
import FP.Proofs.KLAECAsg
import FP.Proofs.WalkWitness
/-!
`WalkCoverWithin`: the families of walks the `kPathCoverCycles` model can represent. The decoded layers of a
solution are one (`c09w_within_of_sat`), and `kcovercWalkAsg` is the assignment of such a family: it satisfies the LP
(`kcovercWalkAsg_sat`, any `k`; the cover rows are `c09k_cover_sat`). The caps cut off nothing: a walk compressed by
`c09c_compress` uses no edge more than `2|E| + 1 ≤ |E|·|V|` times
(`c09k_size`, with `c09k_cap_scc`), which is what `Props.C09.walkcover_caps_suffice` needs: whatever `k` walks cover,
`k` walks within the repetition cap `|E|·|V|` that `kPathCoverCycles` passes to the walk model cover as well.

The compression: along the walk, with the set `R` of edges still to be visited, go along a *simple* path to the
tail of the next edge that is still required, take the edge, continue with one required edge less. A simple
path uses an edge at most once, so every required edge adds at most two traversals to any edge.
-/
namespace FP
open FP.Spec

section Compress
open FP.Safety

theorem c09c_simple (g : Graph) {u v : Node} (h : Reach g.edges u v) :
    ∃ p, IsSTWalkG g u v p ∧ ∀ e, (walkEdges p).count e ≤ 1 := by
  obtain ⟨p, hh, hl, hnd, hw⟩ := simple_path_of_reach g.edges u v h
  exact ⟨p, ⟨hw, hh, hl⟩, List.nodup_iff_count.1 (walkEdges_nodup hnd)⟩

/-- The induction along `a :: l`. `R` holds the edges still to be visited; `u` is where the result
walk starts (not `a`): the node after the last required edge taken, from which `a` is reachable. -/
theorem c09c_compress_aux (g : Graph) (v : Node) : ∀ (l : List Node) (a : Node),
    IsSTWalkG g a v (a :: l) → ∀ (R : List Edge) (u : Node), Reach g.edges u a →
    ∃ l', IsSTWalkG g u v l' ∧ (∀ e ∈ R, e ∈ walkEdges (a :: l) → e ∈ walkEdges l') ∧
      ∀ e, (walkEdges l').count e ≤ 2 * R.length + 1 := by
  intro l
  induction l with
  | nil =>
    intro a h R u hu
    have hav : a = v := by simpa using h.last
    subst hav
    obtain ⟨p, hp, hone⟩ := c09c_simple g hu
    exact ⟨p, hp, fun e _ he => by simp [we_single] at he,
      fun e => Nat.le_trans (hone e) (by omega)⟩
  | cons b l ih =>
    intro a h R u hu
    have hab : (a, b) ∈ g.edges := h.walk _ List.mem_cons_self
    have hrest : IsSTWalkG g b v (b :: l) :=
      ⟨fun e he => h.walk e (List.mem_cons_of_mem _ he), rfl, by
        have := h.last; rwa [List.getLast?_cons_cons] at this⟩
    by_cases hR : (a, b) ∈ R
    · -- a simple path to `a`, the edge, and on from `b` with one edge less to visit
      obtain ⟨p, hp, hone⟩ := c09c_simple g hu
      obtain ⟨l2, hl2, hcov2, hcnt2⟩ := ih b hrest (R.erase (a, b)) b (Reach.refl b)
      obtain ⟨A, rfl⟩ := List.getLast?_eq_some_iff.1 hp.last
      obtain ⟨B, rfl⟩ : ∃ B, l2 = b :: B := by
        cases l2 with
        | nil => exact absurd hl2.first (by simp)
        | cons c B => exact ⟨B, by rw [Option.some.inj hl2.first]⟩
      have hwe : walkEdges (A ++ [a] ++ b :: B)
          = walkEdges (A ++ [a]) ++ (a, b) :: walkEdges (b :: B) := by
        rw [List.append_assoc]; exact we_append_cons A a (b :: B)
      have hlen := List.length_erase_of_mem hR
      have hpos := List.length_pos_of_mem hR
      refine ⟨A ++ [a] ++ b :: B, ⟨fun e he => ?_, ?_, ?_⟩, fun e heR he => ?_, fun e => ?_⟩
      · rw [hwe] at he
        rcases List.mem_append.1 he with h1 | h1
        · exact hp.walk e h1
        · rcases List.mem_cons.1 h1 with rfl | h1
          · exact hab
          · exact hl2.walk e h1
      · cases A with
        | nil => exact hp.first
        | cons c A' => exact hp.first
      · rw [List.getLast?_append, hl2.last]; rfl
      · rw [hwe]
        apply List.mem_append_right
        by_cases hexy : e = (a, b)
        · rw [hexy]; exact List.mem_cons_self
        · rcases List.mem_cons.1 he with h1 | h1
          · exact absurd h1 hexy
          · exact List.mem_cons_of_mem _ (hcov2 e ((List.mem_erase_of_ne hexy).2 heR) h1)
      · rw [hwe, List.count_append, List.count_cons]
        have h1 := hone e
        have h2 := hcnt2 e
        have h3 : (if ((a, b) == e) = true then 1 else 0) ≤ 1 := by split <;> decide
        omega
    · -- nothing to visit here: move on, still coming from `u`
      obtain ⟨l', hl', hcov, hcnt⟩ := ih b hrest R u (Reach.step hu hab)
      refine ⟨l', hl', fun e heR he => hcov e heR ?_, hcnt⟩
      rcases List.mem_cons.1 he with rfl | h1
      · exact absurd heR hR
      · exact h1

theorem c09c_compress (g : Graph) (l : List Node) (u v : Node) (h : IsSTWalkG g u v l) :
    ∃ l', IsSTWalkG g u v l' ∧ (∀ e ∈ walkEdges l, e ∈ walkEdges l') ∧
      ∀ e, (walkEdges l').count e ≤ 2 * g.edges.length + 1 := by
  cases l with
  | nil => exact absurd h.first (by simp)
  | cons a l =>
    have ha : a = u := by simpa using h.first
    subst ha
    obtain ⟨l', hl', hcov, hcnt⟩ := c09c_compress_aux g v l a h g.edges a (Reach.refl a)
    exact ⟨l', hl', fun e he => hcov e (h.walk e he) he, hcnt⟩

end Compress

/-- a graph with a source-to-sink walk has at least three nodes and an edge: `2|E| + 1 ≤ |E|·|V|` -/
theorem c09k_size (s : STGraph) (hwf : STWFc s) (p : List Node)
    (hW : IsWalkIn s.g (s.source :: p ++ [s.sink])) :
    2 * s.g.edges.length + 1 ≤ s.g.edges.length * s.g.nodes.length := by
  cases p with
  | nil =>
    exact absurd (hW (s.source, s.sink) (by simp [walkEdges])) hwf.noDirect
  | cons x p' =>
    have hsx : (s.source, x) ∈ s.g.edges := hW _ List.mem_cons_self
    obtain ⟨u, hu⟩ := exists_we_into (w := s.source :: (x :: p') ++ [s.sink]) (v := s.sink) (by simp)
    have hus := hW _ hu
    have h1 : x ≠ s.source := hwf.srcNoIn _ hsx
    have h2 : x ≠ s.sink := fun h => hwf.noDirect (h ▸ hsx)
    have h3 : [s.source, x, s.sink].length ≤ s.g.nodes.length :=
      List.Nodup.length_le_of_subset
        (by
          simp only [List.nodup_cons, List.mem_cons, List.not_mem_nil, or_false, not_or,
            List.nodup_nil, and_true, not_false_eq_true]
          exact ⟨⟨fun h => h1 h.symm, hwf.ne⟩, h2⟩)
        (by
          intro y hy
          simp only [List.mem_cons, List.not_mem_nil, or_false] at hy
          rcases hy with rfl | rfl | rfl
          · exact (hwf.closed _ hsx).1
          · exact (hwf.closed _ hsx).2
          · exact (hwf.closed _ hus).2)
    have h4 : 0 < s.g.edges.length := List.length_pos_of_mem hsx
    have h5 : s.g.edges.length * 3 ≤ s.g.edges.length * s.g.nodes.length := Nat.mul_le_mul_left _ h3
    omega

/-- a family of `inp.k` source-to-sink walks that the `kPathCoverCycles` model can represent -/
structure WalkCoverWithin (inp : WalkInput) (walk : Nat → List Node) : Prop where
  isWalk : ∀ i, i < inp.k → IsWalkIn inp.st.g (inp.st.source :: walk i ++ [inp.st.sink])
  /-- every walk respects the repetition caps (`|E|·|V|` inside an SCC, 1 outside) -/
  withinCap : ∀ i, i < inp.k → ∀ e ∈ inp.st.g.edges,
    (traversals (inp.st.source :: walk i ++ [inp.st.sink]) e : Rat) ≤ kcovercCap inp e
  covers : ∀ e ∈ inp.activeEdges false, ∃ i, i < inp.k ∧
    e ∈ walkEdges (inp.st.source :: walk i ++ [inp.st.sink])
  covered : ∀ j (hj : j < inp.cfg.constraints.length), ∃ i, i < inp.k ∧
    coversB (multsOf inp.st.source inp.st.sink walk i) inp.cfg.constraints[j] inp.cfg.coverage = true

/-- the assignment of a family of walks: edge columns = traversal counts, selected edges = first-entry
edges, distances = first-visit ranks, `used_edge` = indicator of a positive count, `r(i, j)` = "walk `i`
covers constraint `j`". These are the walk columns of `klaecBaseAsg`, the assignment of the cyclic error
models, whose walk part is the same `walkCore`; its weights, slacks and errors, columns that `kcovercLP`
does not have, are set to 0. -/
def kcovercWalkAsg (inp : WalkInput) (walk : Nat → List Node) : Asg :=
  klaecBaseAsg inp (multsOf inp.st.source inp.st.sink walk) (fun _ => 0) (fun _ => 0) (fun _ => 0)
    (fun i => walkSel (inp.st.source :: walk i ++ [inp.st.sink]))
    (fun i => walkDist inp.st.g.nodes (inp.st.source :: walk i ++ [inp.st.sink]))

theorem kcovercWalkAsg_edge (inp : WalkInput) (walk : Nat → List Node) (e : Edge) (i : Nat) :
    kcovercWalkAsg inp walk (edgeVar e i)
      = (traversals (inp.st.source :: walk i ++ [inp.st.sink]) e : Rat) :=
  (klaecBaseAsg_core inp _ _ _ _ _ _).edge i e

theorem c09k_cover_sat (inp : WalkInput) (a : Asg) (m : Nat → Edge → Nat)
    (hx : ∀ i e, a (edgeVar e i) = (m i e : Rat))
    (hcov : ∀ e ∈ inp.activeEdges false, ∃ i, i < inp.k ∧ m i e ≠ 0) :
    Sat a (kcovercCover inp) := by
  refine (sat_kcovercCover_iff inp a).2 fun e he => ?_
  obtain ⟨i, hi, hm⟩ := hcov e he
  have h1 : (1 : Rat) ≤ a (edgeVar e i) := by
    rw [hx i e]
    exact Rat.natCast_le_natCast.2 (Nat.pos_of_ne_zero hm)
  exact Rat.le_trans h1 (le_sum_of_mem (fun i => a (edgeVar e i))
    (fun j _ => by rw [hx j e]; exact Rat.natCast_nonneg) (List.mem_range.2 hi))

theorem kcovercWalkAsg_sat (inp : WalkInput) (walk : Nat → List Node) (hb : BaseWF inp.base)
    (hw : WalkCoverWithin inp walk) : Sat (kcovercWalkAsg inp walk) (kcovercLP inp) := by
  -- every walk is a layer witness: first-entry edges and first-visit ranks certify connectivity
  have hlayer := fun i hi => walk_layer_witness inp.st hb.stwfc inp.cfg.allowEmpty (kcovercCap inp)
    (hw.isWalk i hi) (hw.withinCap i hi)
  rw [kcovercLP_eq]
  refine sat_append
    (walkCore_sat inp (kcovercCap inp) _ _ _ _ hb.stwfc hlayer hw.covered (klaecBaseAsg_core inp _ _ _ _ _ _))
    (c09k_cover_sat inp _ _ (fun i e => kcovercWalkAsg_edge inp walk e i) fun e he => ?_)
  obtain ⟨i, hi, hmem⟩ := hw.covers e he
  exact ⟨i, hi, Nat.ne_of_gt (List.count_pos_iff.2 hmem)⟩

theorem c09w_within_of_sat (inp : WalkInput) (a : Asg) (hb : BaseWF inp.base) (hae : inp.cfg.allowEmpty = false)
    (hsat : Sat a (kcovercLP inp)) (hce : ∀ c ∈ inp.cfg.constraints, ∀ e ∈ c, e ∈ inp.st.g.edges) :
    WalkCoverWithin inp (decodeWalkLayer inp.st a) := by
  have henc := kcoverc_sat_enc inp a hsat
  refine ⟨fun i hi => (kcoverc_layer inp a hb hae hsat i hi).1.walk,
    decoded_withinCap inp.st (kcovercCap inp) a hb.stwfc henc,
    fun e he => kcoverc_cover_mem inp a hb hsat he,
    fun j hj => subset_constraint_covered inp.st inp.cfg (kcovercCap inp) a hb.stwfc
      (sat_append_left (kcovercLP_eq inp ▸ hsat)) j hj (hce _ (List.getElem_mem hj))⟩

end FP
