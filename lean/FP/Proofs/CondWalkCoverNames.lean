import FP.Model.Width
import FP.Proofs.Lib
/-!
The node names of the expanded condensation: `cwcName` maps a component and a flag to `str(k)` resp. `str(k) + "_expanded"`; it is
injective and never `"source"` or `"sink"`. `dictOfWrites` returns the last value written to a key.
-/
namespace FP

theorem cwc_cname_toList (k : Nat) : (CondInput.cname k).toList = Nat.toDigits 10 k := by
  simp [CondInput.cname, Nat.toString_eq_repr, Nat.toList_repr]

theorem cwc_cexp_toList (k : Nat) :
    (CondInput.cexp k).toList = Nat.toDigits 10 k ++ "_expanded".toList := by
  simp [CondInput.cexp, Nat.toString_eq_repr, Nat.toList_repr, String.toList_append]

theorem cwc_cname_inj {i j : Nat} (h : CondInput.cname i = CondInput.cname j) : i = j := by
  have := congrArg String.toList h
  rw [cwc_cname_toList, cwc_cname_toList] at this
  exact toDigits_inj this

theorem cwc_cexp_inj {i j : Nat} (h : CondInput.cexp i = CondInput.cexp j) : i = j := by
  have := congrArg String.toList h
  rw [cwc_cexp_toList, cwc_cexp_toList] at this
  exact toDigits_inj (List.append_cancel_right this)

theorem cwc_cname_ne_cexp (i j : Nat) : CondInput.cname i ≠ CondInput.cexp j := by
  intro h
  -- the right side contains an underscore, decimal digits do not
  have h1 : '_' ∈ (CondInput.cexp j).toList := by
    rw [cwc_cexp_toList]
    exact List.mem_append_right _ (by decide)
  rw [← h, cwc_cname_toList] at h1
  exact Nat.underscore_not_in_toDigits h1

def cwcName : Nat × Bool → Node
  | (k, false) => CondInput.cname k
  | (k, true) => CondInput.cexp k

theorem cwcName_inj {x y : Nat × Bool} (h : cwcName x = cwcName y) : x = y := by
  obtain ⟨i, _ | _⟩ := x <;> obtain ⟨j, _ | _⟩ := y
  · rw [cwc_cname_inj h]
  · exact absurd h (cwc_cname_ne_cexp _ _)
  · exact absurd h.symm (cwc_cname_ne_cexp _ _)
  · rw [cwc_cexp_inj h]

/-- `"source"` and `"sink"` contain an `s`; decimal digits and `"_expanded"` do not -/
theorem cwcName_inner (x : Nat × Bool) : cwcName x ≠ srcName ∧ cwcName x ≠ snkName := by
  have hs : 's' ∉ (cwcName x).toList := by
    obtain ⟨k, _ | _⟩ := x <;> simp only [cwcName, cwc_cname_toList, cwc_cexp_toList, List.mem_append, not_or]
    · exact fun h => absurd (Nat.isDigit_of_mem_toDigits (by decide) (by decide) h) (by decide)
    · exact ⟨fun h => absurd (Nat.isDigit_of_mem_toDigits (by decide) (by decide) h) (by decide), by decide⟩
  exact ⟨fun h => hs (h ▸ by decide), fun h => hs (h ▸ by decide)⟩

section Dict
variable {α β : Type} [BEq α] [LawfulBEq α]

theorem cwc_lookup_map_set (d : List (α × β)) (k k' : α) (v : β) :
    (d.map fun p => if p.1 == k' then (k', v) else p).lookup k
      = if k == k' then (d.lookup k).map fun _ => v else d.lookup k := by
  induction d with
  | nil => simp
  | cons p d ih =>
    obtain ⟨pk, pv⟩ := p
    rw [List.map_cons]
    by_cases hp : pk = k'
    · subst hp
      rw [if_pos BEq.rfl, List.lookup_cons, List.lookup_cons, ih]
      cases hk : k == pk <;> rfl
    · rw [if_neg (by simpa using hp), List.lookup_cons, List.lookup_cons, ih]
      cases hk : k == pk
      · rfl
      · have : ¬ (k == k') = true := by rw [eq_of_beq hk]; simpa using hp
        exact (if_neg this).symm

theorem cwc_lookup_eq_none_iff_any (d : List (α × β)) (k : α) :
    d.lookup k = none ↔ ¬ d.any (fun p => p.1 == k) = true := by
  rw [List.lookup_eq_none_iff, List.any_eq_true]
  exact ⟨fun h ⟨p, hp, hk⟩ => by simpa [eq_of_beq hk] using h p hp,
    fun h p hp => by simpa using fun hk : k = p.1 => h ⟨p, hp, by simp [hk]⟩⟩

/-- the dictionary after `d[k'] = v` (a key that is present keeps its place, a new one goes to the end) -/
theorem cwc_lookup_dictSet (d : List (α × β)) (k k' : α) (v : β) :
    (dictSet d k' v).lookup k = if k == k' then some v else d.lookup k := by
  unfold dictSet
  cases hk : k == k'
  · split
    · rw [cwc_lookup_map_set, hk]; rfl
    · rw [List.lookup_append, List.lookup_cons, hk]; exact Option.or_none
  · have hkk := eq_of_beq hk
    subst hkk
    split
    · rename_i h
      rw [cwc_lookup_map_set, hk]
      cases hl : d.lookup k with
      | none => exact absurd h ((cwc_lookup_eq_none_iff_any d k).1 hl)
      | some b => rfl
    · rename_i h
      rw [List.lookup_append, (cwc_lookup_eq_none_iff_any d k).2 h, List.lookup_cons, hk]; rfl

theorem cwc_lookup_foldl_ne (ws : List (α × β)) (d : List (α × β)) (k : α)
    (h : ∀ p ∈ ws, p.1 ≠ k) :
    (ws.foldl (fun d p => dictSet d p.1 p.2) d).lookup k = d.lookup k := by
  induction ws generalizing d with
  | nil => rfl
  | cons p ws ih =>
    rw [List.foldl_cons, ih _ (fun q hq => h q (List.mem_cons_of_mem _ hq)), cwc_lookup_dictSet,
      if_neg fun hk => h p List.mem_cons_self (eq_of_beq hk).symm]

theorem cwc_dict_lookup_last (pre suf : List (α × β)) (k : α) (v : β) (h : ∀ p ∈ suf, p.1 ≠ k) :
    (dictOfWrites (pre ++ (k, v) :: suf)).lookup k = some v := by
  unfold dictOfWrites
  rw [List.foldl_append, List.foldl_cons, cwc_lookup_foldl_ne _ _ _ h, cwc_lookup_dictSet, if_pos BEq.rfl]

/-- a block of writes `key y ↦ val y` with distinct keys: the dictionary holds `val x` under `key x`,
unless a later write uses that key -/
theorem cwc_dict_lookup_map {γ : Type} (pre suf : List (α × β)) (l : List γ) (key : γ → α) (val : γ → β)
    (hnd : l.Nodup) {x : γ} (hx : x ∈ l) (hinj : ∀ y ∈ l, key y = key x → y = x)
    (hsuf : ∀ p ∈ suf, p.1 ≠ key x) :
    (dictOfWrites (pre ++ l.map (fun y => (key y, val y)) ++ suf)).lookup (key x) = some (val x) := by
  obtain ⟨l1, l2, rfl⟩ := List.append_of_mem hx
  have hx2 : x ∉ l2 := (List.nodup_cons.1 (List.nodup_append.1 hnd).2.1).1
  rw [List.map_append, List.map_cons, List.append_assoc, List.append_assoc, List.cons_append,
    ← List.append_assoc]
  refine cwc_dict_lookup_last _ _ _ _ fun p hp hkey => ?_
  rcases List.mem_append.1 hp with hp | hp
  · obtain ⟨y, hy, rfl⟩ := List.mem_map.1 hp
    exact hx2 (hinj y (List.mem_append_right _ (List.mem_cons_of_mem _ hy)) hkey ▸ hy)
  · exact hsuf p hp hkey

end Dict

end FP
