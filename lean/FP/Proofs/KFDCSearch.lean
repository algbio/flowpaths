import FP.Model.Enc.KFDC
import FP.Model.Search
/-!
`MinFlowDecompCycles.solve()`: the search is the timed machine `stopSearchTimed` of `FP/Model/Search.lean`; the model it tries at `k` is
`kfdcLP (inp.withK k) none` (`KfdcFeasible`), the solver's verdicts are `FaithfulC`. What the search returns is said for any predicate in
`FP/Proofs/Search.lean` (`timedSearch_minimal`, `timedSearch_finds`, `timedSearch_of_bound`); Props/C04 puts `KfdcFeasible inp` in.
-/
namespace FP
open FP.Search

/-- the input of the k-model built in iteration `k` of the search -/
def WalkInput.withK (inp : WalkInput) (k : Nat) : WalkInput := { inp with cfg := { inp.cfg with k := k } }

def KfdcFeasible (inp : WalkInput) (k : Nat) : Prop := ∃ a : Asg, Sat a (kfdcLP (inp.withK k) none)

/-- the solver's verdicts are right: `kOptimal` only for satisfiable LPs, `kInfeasible` only for
unsatisfiable ones (nothing is assumed about any other status) -/
def FaithfulC (inp : WalkInput) (σ : Nat → Status) : Prop :=
  ∀ k, (σ k = .optimal → KfdcFeasible inp k) ∧ (σ k = .infeasible → ¬ KfdcFeasible inp k)

end FP
