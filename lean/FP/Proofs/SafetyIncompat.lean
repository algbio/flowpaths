import FP.Model.SafetyFix
import FP.Spec.Safety
import FP.Proofs.Lib
/-!
Given that the members handed over by `compute_max_edge_antichain` form an antichain (`AntichainHyp`), the sequences
assembled by `get_longest_incompatible_sequences` are pairwise not co-occurring as soon as one case is excluded: two
sequences taken from the same inter-SCC member that share a graph edge of it (`longestIncompatible_of_shared`).
`FP.Props.C06.incompatible_sound_partial` excludes it by hypothesis (`NoSharedParallel`), `c06i_incompatible_family`
(`FP/Proofs/C06Incompat.lean`) by the cores of the sequences.
-/
namespace FP.Safety
open FP.Spec

/-- no source-to-sink walk traverses two different graph edges that belong to two different members of the
antichain, or to the same inter-SCC member (parallel edges) -/
def AntichainHyp (c : Cond) (s t : Node) (anti : List (String × String)) : Prop :=
  ∀ a ∈ anti, ∀ b ∈ anti, ∀ e1 ∈ c.g.edges, ∀ e2 ∈ c.g.edges, c.expandedEdge e1 = a → c.expandedEdge e2 = b →
    e1 ≠ e2 → (Cond.isSccEdge a = false ∨ a ≠ b) →
    ¬ ∃ w, IsSTWalkG c.g s t w ∧ e1 ∈ walkEdges w ∧ e2 ∈ walkEdges w

/-- two different input sequences never share a graph edge that lies on an inter-SCC member of the antichain -/
def NoSharedParallel (c : Cond) (seqs : List (List Edge)) (anti : List (String × String)) : Prop :=
  ∀ i j, i ≠ j → ∀ e, e ∈ seqs.getD i [] → e ∈ seqs.getD j [] →
    c.expandedEdge e ∈ anti → Cond.isSccEdge (c.expandedEdge e) = true

theorem seqFn_mem (c : Cond) (seqs : List (List Edge)) (ce : String × String) (idx : Nat)
    (h : idx ∈ c.seqFn seqs ce) : ∃ e ∈ seqs.getD idx [], c.expandedEdge e = ce := by
  unfold Cond.seqFn at h
  simp only at h
  have hocc : idx ∈ ((List.range seqs.length).zip seqs).flatMap (fun (p : Nat × List Edge) =>
      (p.2.filter fun e => c.expandedEdge e = ce).map fun _ => p.1) := by
    split at h
    · exact List.mem_mergeSort.1 (List.mem_of_mem_take h)
    · exact List.mem_mergeSort.1 (List.mem_of_mem_take h)
  obtain ⟨⟨i, sq⟩, hz, hin⟩ := List.mem_flatMap.1 hocc
  obtain ⟨e, he, heq⟩ := List.mem_map.1 hin
  simp only at heq; subst heq
  obtain ⟨hes, hce⟩ := List.mem_filter.1 he
  obtain ⟨hlen, h2⟩ := (mem_zip_range seqs i sq).1 hz
  exact ⟨e, by rw [getD_eq_getElem seqs [] hlen, h2]; exact hes, by simpa using hce⟩

theorem seqFn_length_le (c : Cond) (seqs : List (List Edge)) (ce : String × String) :
    (c.seqFn seqs ce).length ≤
      if Cond.isSccEdge ce then 1 else c.g.edges.countP fun e => c.expandedEdge e = ce := by
  unfold Cond.seqFn
  split <;> exact List.length_take_le _ _

theorem longestIncompatible_ok {c : Cond} {seqs : List (List Edge)} {anti : List (String × String)}
    {chosen : List (List Edge)} (h : longestIncompatible c seqs anti = .ok chosen) :
    (∀ q ∈ seqs, ∀ e ∈ q, e ∈ c.g.edges) ∧ (anti.flatMap (c.seqFn seqs)).Nodup ∧
      chosen = (anti.flatMap (c.seqFn seqs)).map fun i => seqs.getD i [] := by
  revert h
  fun_cases longestIncompatible c seqs anti with
  | case3 hedges idxs hnd =>
    simp only [Bool.not_eq_true, List.any_eq_false] at hedges
    exact fun h => ⟨fun q hq e he => by simpa using hedges q hq e he, by simpa using hnd, (Res.ok.inj h).symm⟩
  | _ => exact fun h => nomatch h

/-- Two chosen sequences come from two different members of the antichain, or from one
inter-SCC member through two different graph edges (`AntichainHyp` in both cases), or from one SCC member (which
keeps one sequence); what is left, `hshared`, is one inter-SCC member, one graph edge `e` of it in both sequences. -/
theorem longestIncompatible_of_shared (c : Cond) (s t : Node) (seqs : List (List Edge))
    (anti : List (String × String)) (chosen : List (List Edge)) (hanti : AntichainHyp c s t anti)
    (hshared : ∀ a ∈ anti, Cond.isSccEdge a = false → ∀ i j, i ≠ j → i ∈ c.seqFn seqs a → j ∈ c.seqFn seqs a →
      ∀ e, e ∈ seqs.getD i [] → e ∈ seqs.getD j [] → c.expandedEdge e = a →
      ∀ w, IsSTWalkG c.g s t w → Occurs (seqs.getD i []) w → Occurs (seqs.getD j []) w → False)
    (h : longestIncompatible c seqs anti = .ok chosen) :
    chosen.Pairwise fun p q => ¬ CoOccur c.g s t p q := by
  obtain ⟨-, hnd', rfl⟩ := longestIncompatible_ok h
  rw [List.pairwise_map]
  refine List.Pairwise.imp_of_mem ?_ hnd'
  intro i j hi hj hij hco
  obtain ⟨a, ha, hia⟩ := List.mem_flatMap.1 hi
  obtain ⟨b, hb, hjb⟩ := List.mem_flatMap.1 hj
  obtain ⟨e1, he1, hc1⟩ := seqFn_mem c seqs a i hia
  obtain ⟨e2, he2, hc2⟩ := seqFn_mem c seqs b j hjb
  obtain ⟨w, hw, ho1, ho2⟩ := hco
  have hm1 : e1 ∈ walkEdges w := ho1.subset he1
  have hm2 : e2 ∈ walkEdges w := ho2.subset he2
  have hg1 : e1 ∈ c.g.edges := hw.walk e1 hm1
  have hg2 : e2 ∈ c.g.edges := hw.walk e2 hm2
  by_cases hab : a = b
  · subst hab
    by_cases hscc : Cond.isSccEdge a = true
    · have hlen := seqFn_length_le c seqs a
      rw [if_pos hscc] at hlen
      exact hij (eq_of_mem_of_length_le_one hlen hia hjb)
    · have hscc' : Cond.isSccEdge a = false := by simpa using hscc
      by_cases he : e1 = e2
      · subst he
        exact hshared a ha hscc' i j hij hia hjb e1 he1 he2 hc1 w hw ho1 ho2
      · exact hanti a ha a ha e1 hg1 e2 hg2 hc1 hc2 he (Or.inl hscc') ⟨w, hw, hm1, hm2⟩
  · have he : e1 ≠ e2 := by intro he; subst he; exact hab (hc1.symm.trans hc2)
    exact hanti a ha b hb e1 hg1 e2 hg2 hc1 hc2 he (Or.inr hab) ⟨w, hw, hm1, hm2⟩

end FP.Safety
