import FP.Proofs.Bottleneck
import FP.Proofs.WalkLemmas
/-!
`decompose_using_max_bottleneck`: greedy bottleneck peeling of a non-negative conserving flow on a
DAG terminates within its fuel and decomposes the flow exactly.
-/
namespace FP
open FP.Spec

/-- `Σ_i w_i · (number of traversals of e by p_i)` -/
def peeledSum (ps : List (List Node × Rat)) (e : Edge) : Rat :=
  (ps.map fun pw => pw.2 * (((walkEdges pw.1).count e : Nat) : Rat)).sum

theorem peeledSum_append (A B : List (List Node × Rat)) (e : Edge) :
    peeledSum (A ++ B) e = peeledSum A e + peeledSum B e := by
  unfold peeledSum
  rw [List.map_append, List.sum_append]

/-- A property of (remaining flow, peeled paths) that every productive iteration
preserves holds when the loop stops, and the loop stops because `max_bottleneck_path` returned
`(None, None)` on the residual. -/
theorem peelLoop_rule (g : Graph) (topo : List Node) (I : (Edge → Rat) → List (List Node × Rat) → Prop)
    (hstep : ∀ f acc b p, I f acc → maxBottleneckPath g f topo = .path b p →
      I (subtractPath f p b) (acc ++ [(p, b)])) (n : Nat) (f : Edge → Rat) (acc : List (List Node × Rat)) (r : Peeled) :
    peelLoop g topo n f acc = .done r →
      I f acc → I r.residual r.paths ∧ maxBottleneckPath g r.residual topo = .none := by
  fun_induction peelLoop g topo n f acc with
  | case1 => exact nofun
  | case2 n f acc hm =>
    intro h hI
    cases h
    exact ⟨hI, hm⟩
  | case3 n f acc b p hm ih => exact fun h hI => ih h (hstep f acc b p hI hm)
  | case4 => exact nofun

theorem decompose_invariant (g : Graph) (f : Edge → Rat) (topo : List Node) (htopo : IsTopo g.edges topo)
    (r : Peeled) (h : decompose g f topo = .done r) :
    (∀ e, f e = r.residual e + peeledSum r.paths e) ∧
    (∀ pw ∈ r.paths, IsSTPath g pw.1 ∧ pw.2 ≠ 0) ∧
    (∀ p, IsSTPath g p → ∃ e ∈ walkEdges p, r.residual e ≤ 0) := by
  obtain ⟨⟨h1, h2⟩, h3⟩ := peelLoop_rule g topo
    (fun f' acc => (∀ e, f e = f' e + peeledSum acc e) ∧ ∀ pw ∈ acc, IsSTPath g pw.1 ∧ pw.2 ≠ 0)
    (fun f' acc b p hI hm => by
      have hs := maxBottleneckPath_spec f' htopo
      rw [hm] at hs
      refine ⟨fun e => ?_, fun pw hpw => ?_⟩
      · rw [hI.1 e, peeledSum_append]
        unfold subtractPath peeledSum
        simp only [List.map_cons, List.map_nil, List.sum_cons, List.sum_nil]
        grind
      · rcases List.mem_append.1 hpw with hpw | hpw
        · exact hI.2 pw hpw
        · rw [List.mem_singleton.1 hpw]; exact ⟨hs.2.1, hs.1⟩)
    _ f [] r h ⟨fun e => (Rat.add_zero _).symm, fun _ hpw => (nomatch hpw)⟩
  have hs := maxBottleneckPath_spec r.residual htopo
  rw [h3] at hs
  exact ⟨h1, h2, hs.none_le⟩

/-- through this the lemmas on `lowerAlong` and on the indicator of a walk (`walk_cons`) apply to the model's update -/
theorem subtractPath_eq (f : Edge → Rat) (p : List Node) (b : Rat) :
    subtractPath f p b = lowerAlong f b (walkEdges p) := by
  funext e; unfold lowerAlong; rw [cntR_eq_count]; rfl

theorem conserving_subtract (g : Graph) (hnd : g.edges.Nodup) (f : Edge → Rat) (hc : Conserving g f)
    (p : List Node) (hp : IsSTPath g p) (b : Rat) : Conserving g (subtractPath f p b) := by
  intro v hpv hsv
  obtain ⟨s, w, rest, t, rfl, ht⟩ := hp.exists_ends
  -- `v` is neither end of the path: a first node has no in-edge, a last node no out-edge
  have hbal := walk_cons hnd hp.walk rfl ht v
  rw [if_neg fun (h : s = v) => hpv (h ▸ hp.first s rfl), if_neg fun (h : t = v) => hsv (h ▸ hp.last t ht),
    Rat.add_zero, Rat.add_zero] at hbal
  rw [subtractPath_eq]
  show inflow g _ v = outflow g _ v
  rw [inflow_lowerAlong, outflow_lowerAlong, hbal, show inflow g f v = outflow g f v from hc v hpv hsv]

/-- the measure that bounds the rounds of the loop: the number of edges still carrying flow -/
def nzCount (g : Graph) (f : Edge → Rat) : Nat := (g.edges.filter (fun e => decide (f e ≠ 0))).length

theorem peel_step (g : Graph) (hnd : g.edges.Nodup) (topo : List Node) (htopo : IsTopo g.edges topo)
    (f : Edge → Rat) (hnn : ∀ e ∈ g.edges, 0 ≤ f e) (hc : Conserving g f) (b : Rat) (p : List Node)
    (h : maxBottleneckPath g f topo = .path b p) :
    0 < b ∧ (∀ e ∈ g.edges, 0 ≤ subtractPath f p b e) ∧ Conserving g (subtractPath f p b) ∧
      nzCount g (subtractPath f p b) < nzCount g f := by
  have hs := maxBottleneckPath_spec f htopo
  rw [h] at hs
  obtain ⟨hb0, hst, hge, ⟨e0, he0, hfe0⟩, _⟩ := hs
  have hbpos : 0 < b := Rat.lt_of_le_of_ne (hfe0 ▸ hnn e0 (hst.walk e0 he0)) (Ne.symm hb0)
  have hnd' : (walkEdges p).Nodup := walkEdges_nodup
    (nodup_of_walk (fun v => topo.idxOf v) p fun e he => topo_rank htopo e (hst.walk e he))
  have hin : ∀ e ∈ walkEdges p, subtractPath f p b e = f e - b :=
    subtractPath_eq f p b ▸ lowerAlong_mem f b hnd'
  have hout : ∀ e, e ∉ walkEdges p → subtractPath f p b e = f e :=
    subtractPath_eq f p b ▸ lowerAlong_not_mem f b _
  refine ⟨hbpos, ?_, conserving_subtract g hnd f hc p hst b, ?_⟩
  · intro e he
    by_cases hmem : e ∈ walkEdges p
    · rw [hin e hmem]; exact (Rat.le_iff_sub_nonneg _ _).1 (hge e hmem)
    · rw [hout e hmem]; exact hnn e he
  · -- an edge that is non-zero afterwards was non-zero before; the bottleneck edge `e0` becomes zero
    refine length_filter_lt_length_filter g.edges _ _ (fun e _ hq => ?_) e0 (hst.walk e0 he0) ?_ ?_
    · rw [decide_eq_true_eq] at hq ⊢
      by_cases hmem : e ∈ walkEdges p
      · exact fun h0 => Rat.ne_of_gt (Std.lt_of_lt_of_le hbpos (hge e hmem)) h0
      · rwa [hout e hmem] at hq
    · rw [decide_eq_true_eq, hfe0]; exact hb0
    · rw [decide_eq_false_iff_not, Decidable.not_not, hin e0 he0, hfe0, Rat.sub_self]

/-- every `Q`-edge lies on a source-to-sink path all of whose edges satisfy `Q`, provided `Q`
propagates forwards and backwards through inner nodes: walk forwards from `v` along rising positions
in `topo`, backwards from `u` along falling ones, and join the reversed backward walk to the forward one -/
theorem exists_Q_stpath (g : Graph) (topo : List Node) (htopo : IsTopo g.edges topo) (Q : Edge → Prop)
    (hf : ∀ u v, (u, v) ∈ g.edges → Q (u, v) → g.succ v ≠ [] → ∃ w, (v, w) ∈ g.edges ∧ Q (v, w))
    (hb : ∀ u v, (u, v) ∈ g.edges → Q (u, v) → g.pred u ≠ [] → ∃ t, (t, u) ∈ g.edges ∧ Q (t, u))
    (u v : Node) (he : (u, v) ∈ g.edges) (hq : Q (u, v)) :
    ∃ p, IsSTPath g p ∧ ∀ e ∈ walkEdges p, Q e := by
  obtain ⟨lf, t, f1, f2, f3⟩ := exists_chain (fun a b => (a, b) ∈ g.edges ∧ Q (a, b))
    (fun b => ∃ a, (a, b) ∈ g.edges ∧ Q (a, b)) (fun b => g.succ b = []) (fun b => topo.length - topo.idxOf b)
    (fun b ⟨a, hab, hqab⟩ hs => by
      obtain ⟨w, hw, hqw⟩ := hf a b hab hqab hs
      have hlt : topo.idxOf b < topo.idxOf w := topo_rank htopo (b, w) hw
      have hwl : topo.idxOf w < topo.length := List.idxOf_lt_length_of_mem (htopo.cover _ hw).2
      exact ⟨w, ⟨hw, hqw⟩, ⟨b, hw, hqw⟩, by omega⟩)
    _ v ⟨u, he, hq⟩ (Nat.lt_succ_self _)
  obtain ⟨lb, s, b1, b2, b3⟩ := exists_chain (fun b a => (a, b) ∈ g.edges ∧ Q (a, b))
    (fun a => ∃ b, (a, b) ∈ g.edges ∧ Q (a, b)) (fun a => g.pred a = []) (fun a => topo.idxOf a)
    (fun a ⟨b, hab, hqab⟩ hp => by
      obtain ⟨w, hw, hqw⟩ := hb a b hab hqab hp
      exact ⟨w, ⟨hw, hqw⟩, ⟨a, hw, hqw⟩, topo_rank htopo (w, a) hw⟩)
    _ u ⟨v, he, hq⟩ (Nat.lt_succ_self _)
  have hp : (u :: lb).reverse ++ v :: lf = lb.reverse ++ u :: v :: lf := by
    rw [List.reverse_cons, List.append_assoc]; rfl
  have hall : ∀ e ∈ walkEdges (lb.reverse ++ u :: v :: lf), e ∈ g.edges ∧ Q e := by
    intro e hmem
    rw [we_mid, ← List.reverse_cons] at hmem
    rcases List.mem_append.1 hmem with h | h
    · exact b3 _ (mem_we_reverse.1 h)
    · rcases List.mem_cons.1 h with rfl | h
      · exact ⟨he, hq⟩
      · exact f3 e h
  refine ⟨lb.reverse ++ u :: v :: lf, ⟨?_, fun e hmem => (hall e hmem).1, fun a ha => ?_, fun a ha => ?_⟩,
    fun e hmem => (hall e hmem).2⟩
  · rw [List.length_append, List.length_cons, List.length_cons]; omega
  · rw [← hp, head?_append_ne_nil _ _ (by simp), List.head?_reverse, b1] at ha
    cases ha; exact b2
  · rw [List.getLast?_append, List.getLast?_cons_cons, f1] at ha
    cases ha; exact f2

theorem exists_stpath (g : Graph) (topo : List Node) (htopo : IsTopo g.edges topo) (hne : g.edges ≠ []) :
    ∃ p, IsSTPath g p := by
  obtain ⟨e, he⟩ := List.exists_mem_of_ne_nil _ hne
  obtain ⟨p, hp, _⟩ := exists_Q_stpath g topo htopo (fun _ => True)
    (fun u v _ _ hs => (List.exists_mem_of_ne_nil _ hs).imp fun w hw => ⟨mem_succ.1 hw, trivial⟩)
    (fun u v _ _ hp => (List.exists_mem_of_ne_nil _ hp).imp fun t ht => ⟨mem_pred.1 ht, trivial⟩)
    e.1 e.2 he trivial
  exact ⟨p, hp⟩

/-- a non-negative conserving flow on a DAG every source-to-sink path of which has an edge of value
`≤ 0` vanishes: a positive edge would, by conservation, extend forwards and backwards to a
source-to-sink path of positive edges -/
theorem residual_zero (g : Graph) (topo : List Node) (htopo : IsTopo g.edges topo) (f : Edge → Rat)
    (hnn : ∀ e ∈ g.edges, 0 ≤ f e) (hc : Conserving g f)
    (hall : ∀ p, IsSTPath g p → ∃ e ∈ walkEdges p, f e ≤ 0) : ∀ e ∈ g.edges, f e = 0 := by
  intro e he
  apply Classical.byContradiction
  intro hne
  have hpos : 0 < f e := Rat.lt_of_le_of_ne (hnn e he) (Ne.symm hne)
  obtain ⟨p, hp, hq⟩ := exists_Q_stpath g topo htopo (fun e' => 0 < f e')
    (fun u v huv hquv hs => pos_out_edge hnn v <| Std.lt_of_lt_of_le hquv <|
      (show inflow g f v = outflow g f v from hc v (List.ne_nil_of_mem (mem_pred.2 huv)) hs) ▸ le_inflow_of_mem hnn huv)
    (fun u v huv hquv hp => pos_in_edge hnn u <| Std.lt_of_lt_of_le hquv <|
      (show outflow g f u = inflow g f u from (hc u hp (List.ne_nil_of_mem (mem_succ.2 huv))).symm) ▸ le_outflow_of_mem hnn huv)
    e.1 e.2 he hpos
  obtain ⟨e', he', hle⟩ := hall p hp
  exact absurd hle (Rat.not_le.2 (hq e' he'))

theorem peel_terminates (g : Graph) (hnd : g.edges.Nodup) (topo : List Node)
    (htopo : IsTopo g.edges topo) (n : Nat) (f : Edge → Rat) (acc : List (List Node × Rat)) :
    (∀ e ∈ g.edges, 0 ≤ f e) → Conserving g f → nzCount g f < n → ∃ r, peelLoop g topo n f acc = .done r := by
  fun_induction peelLoop g topo n f acc with
  | case1 => exact fun _ _ h => nomatch h
  | case2 => exact fun _ _ _ => ⟨_, rfl⟩
  | case3 n f acc b p hm ih =>
    intro hnn hc hlt
    obtain ⟨_, h3, h4, h5⟩ := peel_step g hnd topo htopo f hnn hc b p hm
    exact ih h3 h4 (by omega)
  | case4 n f acc hm =>
    have hs := maxBottleneckPath_spec f htopo
    rw [hm] at hs
    exact hs.elim

theorem peel_keeps (g : Graph) (hnd : g.edges.Nodup) (topo : List Node) (htopo : IsTopo g.edges topo) (n : Nat)
    (f : Edge → Rat) (acc : List (List Node × Rat)) (r : Peeled) (h : peelLoop g topo n f acc = .done r)
    (hnn : ∀ e ∈ g.edges, 0 ≤ f e) (hc : Conserving g f) (hacc : ∀ pw ∈ acc, 0 < pw.2) :
    (∀ e ∈ g.edges, 0 ≤ r.residual e) ∧ Conserving g r.residual ∧ ∀ pw ∈ r.paths, 0 < pw.2 :=
  (peelLoop_rule g topo
    (fun f acc => (∀ e ∈ g.edges, 0 ≤ f e) ∧ Conserving g f ∧ ∀ pw ∈ acc, 0 < pw.2)
    (fun f acc b p ⟨hnn, hc, hacc⟩ hm => by
      obtain ⟨hb, h3, h4, _⟩ := peel_step g hnd topo htopo f hnn hc b p hm
      refine ⟨h3, h4, fun pw hpw => ?_⟩
      rcases List.mem_append.1 hpw with hpw | hpw
      · exact hacc pw hpw
      · rw [List.mem_singleton.1 hpw]; exact hb)
    n f acc r h ⟨hnn, hc, hacc⟩).1

/-- The fuel `|E| + 1` of `decompose` suffices because every round empties another edge (`peel_step`); a graph
without edges is included (no path is peeled). -/
theorem decompose_exact (g : Graph) (hnd : g.edges.Nodup) (topo : List Node)
    (htopo : IsTopo g.edges topo) (f : Edge → Rat) (hnn : ∀ e ∈ g.edges, 0 ≤ f e) (hc : Conserving g f) :
    ∃ r, decompose g f topo = .done r ∧ (∀ e ∈ g.edges, r.residual e = 0) ∧
      (∀ e ∈ g.edges, peeledSum r.paths e = f e) ∧ (∀ pw ∈ r.paths, IsSTPath g pw.1 ∧ 0 < pw.2) := by
  have hcount : nzCount g f < g.edges.length + 1 := by
    unfold nzCount
    have := List.length_filter_le (fun e => decide (f e ≠ 0)) g.edges
    omega
  obtain ⟨r, hr⟩ := peel_terminates g hnd topo htopo _ f [] hnn hc hcount
  have hr' : decompose g f topo = .done r := hr
  obtain ⟨d1, d2, d3⟩ := decompose_invariant g f topo htopo r hr'
  obtain ⟨k1, k2, k3⟩ := peel_keeps g hnd topo htopo _ f [] r hr hnn hc fun _ hpw => (nomatch hpw)
  have hz := residual_zero g topo htopo r.residual k1 k2 d3
  refine ⟨r, hr', hz, ?_, ?_⟩
  · intro e he
    have := d1 e
    rw [hz e he] at this
    grind
  · intro pw hpw
    exact ⟨(d2 pw hpw).1, k3 pw hpw⟩

end FP
