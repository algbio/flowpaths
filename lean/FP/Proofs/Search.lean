import FP.Model.Search
import FP.Proofs.Lib
/-!
The three stopping loops of the searches over `k` (`stopSearch`, the timed search of `MinFlowDecompCycles`, `givenSearch`) return the
first accepted value (`firstLoop`). From that: what each returns when the solver's statuses tell the truth about a predicate `P`
(`stopSearch_minimal`, `timedSearch_minimal`, `timedSearch_finds` ..) and the trace it records; an answer of the `NumPathsOptimization`
loop `npo` is an optimal run inside the range (`npoLoop_answer`).
-/
namespace FP.Search

/-- All three stopping loops return the first `r` of `k, k+1, …, k+n-1` that is accepted, provided every
earlier value lets the loop continue; this is that search without the trace. -/
def firstLoop (accept cont : Nat → Prop) [DecidablePred accept] [DecidablePred cont] : Nat → Nat → Option Nat
  | 0, _ => none
  | n+1, k => if accept k then some k else if cont k then firstLoop accept cont n (k+1) else none

theorem firstLoop_eq_some (accept cont : Nat → Prop) [DecidablePred accept] [DecidablePred cont] (n k r : Nat) :
    firstLoop accept cont n k = some r ↔
      k ≤ r ∧ r < k + n ∧ accept r ∧ ∀ j, k ≤ j → j < r → ¬ accept j ∧ cont j := by
  fun_induction firstLoop accept cont n k with
  | case1 k =>
    exact ⟨nofun, fun ⟨h1, h2, _⟩ => absurd (Nat.lt_of_le_of_lt h1 h2) (Nat.lt_irrefl _)⟩
  | case2 n k ha =>
    constructor
    · intro h; cases h
      exact ⟨Nat.le_refl _, Nat.lt_add_of_pos_right (Nat.succ_pos n), ha,
        fun j h1 h2 => absurd (Nat.lt_of_le_of_lt h1 h2) (Nat.lt_irrefl _)⟩
    · intro ⟨h1, _, _, h4⟩
      by_cases hkr : k = r
      · rw [hkr]
      · exact absurd ha (h4 k (Nat.le_refl _) (Nat.lt_of_le_of_ne h1 hkr)).1
  | case3 n k ha hc ih =>
    rw [ih, Nat.succ_add_eq_add_succ k n]
    constructor
    · intro ⟨h1, h2, h3, h4⟩
      refine ⟨Nat.le_of_succ_le h1, h2, h3, fun j hj1 hj2 => ?_⟩
      by_cases hjk : k = j
      · rw [← hjk]; exact ⟨ha, hc⟩
      · exact h4 j (Nat.lt_of_le_of_ne hj1 hjk) hj2
    · intro ⟨h1, h2, h3, h4⟩
      exact ⟨Nat.lt_of_le_of_ne h1 fun h => ha (h ▸ h3), h2, h3, fun j hj1 hj2 => h4 j (Nat.le_of_succ_le hj1) hj2⟩
  | case4 n k ha hc =>
    exact ⟨nofun, fun ⟨h1, _, h3, h4⟩ =>
      absurd (h4 k (Nat.le_refl _) (Nat.lt_of_le_of_ne h1 fun h => ha (h ▸ h3))).2 hc⟩

/-- a value that lets the loop continue is not accepted, in all three loops: then `cont` alone describes the values passed -/
theorem firstLoop_eq_some_of_disjoint (accept cont : Nat → Prop) [DecidablePred accept] [DecidablePred cont]
    (hdisj : ∀ j, cont j → ¬ accept j) (n k r : Nat) :
    firstLoop accept cont n k = some r ↔ k ≤ r ∧ r < k + n ∧ accept r ∧ ∀ j, k ≤ j → j < r → cont j := by
  rw [firstLoop_eq_some]
  exact ⟨fun ⟨h1, h2, h3, h4⟩ => ⟨h1, h2, h3, fun j a b => (h4 j a b).2⟩,
    fun ⟨h1, h2, h3, h4⟩ => ⟨h1, h2, h3, fun j a b => ⟨hdisj j (h4 j a b), h4 j a b⟩⟩⟩

theorem firstLoop_eq_none_of_stuck (accept cont : Nat → Prop) [DecidablePred accept] [DecidablePred cont]
    (n k j : Nat) (hkj : k ≤ j) (hacc : ¬ accept j) (hcont : ¬ cont j)
    (hbefore : ∀ i, k ≤ i → i < j → ¬ accept i) : firstLoop accept cont n k = none := by
  cases hs : firstLoop accept cont n k with
  | none => rfl
  | some r =>
    obtain ⟨h1, _, h3, h4⟩ := (firstLoop_eq_some accept cont n k r).1 hs
    rcases Nat.lt_trichotomy r j with hlt | heq | hgt
    · exact absurd h3 (hbefore r h1 hlt)
    · exact absurd (heq ▸ h3) hacc
    · exact absurd (h4 j hkj hgt).2 hcont

theorem stopLoop_solved (σ : Nat → Status) :
    ∀ (n k : Nat) (acc : List (Nat × Status)),
      (stopLoop σ n k acc).solved = firstLoop (σ · = .optimal) (σ · = .infeasible) n k := by
  intro n
  induction n with
  | zero => intro k acc; rfl
  | succ n ih =>
    intro k acc
    unfold stopLoop firstLoop
    cases h : σ k
    · rfl
    · exact ih (k+1) _
    · rfl

theorem timedLoop_solved (σ : Nat → Status) (late : Nat → Bool) :
    ∀ (n k : Nat) (acc : List (Nat × Status)),
      (timedLoop σ late n k acc).solved =
        firstLoop (fun k => late k = false ∧ σ k = .optimal) (fun k => late k = false ∧ σ k = .infeasible) n k := by
  intro n
  induction n with
  | zero => intro k acc; rfl
  | succ n ih =>
    intro k acc
    unfold timedLoop firstLoop
    cases hl : late k
    · cases h : σ k
      · rfl
      · exact ih (k+1) _
      · rfl
    · rfl

theorem givenLoop_solved (σ : Nat → Status) (given : Option Nat) :
    ∀ (n k : Nat) (acc : List (Nat × Status)),
      (givenLoop σ given n k acc).solved =
        firstLoop (fun k => given = some k ∨ σ k = .optimal) (fun k => σ k = .infeasible ∧ given ≠ some k) n k := by
  intro n
  induction n with
  | zero => intro k acc; rfl
  | succ n ih =>
    intro k acc
    unfold givenLoop firstLoop
    by_cases hg : given = some k
    · rw [if_pos hg, if_pos (Or.inl hg)]
    · simp only [hg, false_or, if_false, ne_eq, not_false_eq_true, and_true]
      cases h : σ k
      · rfl
      · exact ih (k+1) _
      · rfl

theorem stopLoop_solved_iff (σ : Nat → Status) (n k : Nat) (acc : List (Nat × Status)) (r : Nat) :
    (stopLoop σ n k acc).solved = some r ↔
      k ≤ r ∧ r < k + n ∧ σ r = .optimal ∧ ∀ j, k ≤ j → j < r → σ j = .infeasible := by
  rw [stopLoop_solved]
  exact firstLoop_eq_some_of_disjoint _ _ (fun _ h ho => Status.noConfusion (h.symm.trans ho)) n k r

/-- With a status script that says `optimal` only where `P` holds and `infeasible` only where it fails, and no
value below `lo` satisfying `P`, an answer of the search is the least `k` with `P k`. -/
theorem stopSearch_minimal (P : Nat → Prop) (σ : Nat → Status) (lo hi m : Nat)
    (hopt : ∀ k, σ k = .optimal → P k) (hinf : ∀ k, σ k = .infeasible → ¬ P k)
    (hlb : ∀ j, j < lo → ¬ P j) (h : (stopSearch σ lo hi).solved = some m) :
    P m ∧ (∀ j, j < m → ¬ P j) ∧ lo ≤ m ∧ m < hi := by
  obtain ⟨h1, h2, h3, h4⟩ := (stopLoop_solved_iff σ _ _ _ _).1 h
  refine ⟨hopt m h3, fun j hj => ?_, h1, by omega⟩
  by_cases hjl : j < lo
  · exact hlb j hjl
  · exact hinf j (h4 j (Nat.le_of_not_lt hjl) hj)

/-- Conversely a script that always tells the truth makes the search return the least `k` with `P k`, when it
lies in the range. -/
theorem stopSearch_finds_minimum (P : Nat → Prop) (σ : Nat → Status) (lo hi m : Nat)
    (hopt : ∀ k, P k → σ k = .optimal) (hinf : ∀ k, ¬ P k → σ k = .infeasible)
    (hlo : lo ≤ m) (hhi : m < hi) (hm : P m) (hmin : ∀ j, j < m → ¬ P j) :
    (stopSearch σ lo hi).solved = some m :=
  (stopLoop_solved_iff σ _ _ _ _).2 ⟨hlo, by omega, hopt m hm, fun j _ hj => hinf j (hmin j hj)⟩

theorem stopLoop_trace (σ : Nat → Status) (n k : Nat) (acc : List (Nat × Status)) :
      ∃ m, m ≤ n ∧ (stopLoop σ n k acc).tried = acc ++ (List.range m).map (fun i => (k + i, σ (k + i))) := by
  fun_induction stopLoop σ n k acc with
  | case1 => exact ⟨0, Nat.le_refl _, by simp⟩
  | case2 n k acc hk => exact ⟨1, by omega, by simp [hk]⟩
  | case3 n k acc hk ih =>
    obtain ⟨m, hm, h⟩ := ih
    refine ⟨m+1, by omega, ?_⟩
    rw [h, List.range_succ_eq_map]
    simp [hk, Function.comp_def, Nat.add_assoc, Nat.add_comm 1]
  | case4 n k acc hk => exact ⟨1, by omega, by simp [hk]⟩
theorem givenLoop_solved_iff (σ : Nat → Status) (given : Option Nat) (n k : Nat) (acc : List (Nat × Status)) (r : Nat) :
    (givenLoop σ given n k acc).solved = some r ↔
      k ≤ r ∧ r < k + n ∧ (given = some r ∨ σ r = .optimal) ∧
        ∀ j, k ≤ j → j < r → σ j = .infeasible ∧ given ≠ some j := by
  rw [givenLoop_solved]
  exact firstLoop_eq_some_of_disjoint _ _
    (fun _ h ho => ho.elim h.2 fun ho => Status.noConfusion (h.1.symm.trans ho)) n k r

theorem timedLoop_solved_iff (σ : Nat → Status) (late : Nat → Bool) (n k : Nat) (acc : List (Nat × Status)) (r : Nat) :
    (timedLoop σ late n k acc).solved = some r ↔
      k ≤ r ∧ r < k + n ∧ late r = false ∧ σ r = .optimal ∧
        ∀ j, k ≤ j → j < r → late j = false ∧ σ j = .infeasible := by
  rw [timedLoop_solved, firstLoop_eq_some_of_disjoint _ _ fun _ h ho => Status.noConfusion (h.2.symm.trans ho.2),
    and_assoc]

/-- `stopSearch_minimal` for the search with a time limit (`MinFlowDecompCycles`) -/
theorem timedSearch_minimal (P : Nat → Prop) (σ : Nat → Status) (late : Nat → Bool) (lo hi m : Nat)
    (hσ : ∀ k, (σ k = .optimal → P k) ∧ (σ k = .infeasible → ¬ P k))
    (hlb : ∀ j, j < lo → ¬ P j) (h : (stopSearchTimed σ late lo hi).solved = some m) :
    P m ∧ (∀ j, j < m → ¬ P j) ∧ lo ≤ m ∧ m < hi ∧ late m = false := by
  obtain ⟨h1, h2, hl, h3, h4⟩ := (timedLoop_solved_iff σ late _ _ _ _).1 h
  refine ⟨(hσ m).1 h3, fun j hj => ?_, h1, by omega, hl⟩
  by_cases hjl : j < lo
  · exact hlb j hjl
  · exact (hσ j).2 (h4 j (Nat.le_of_not_lt hjl) hj).2

/-- Unlike `stopSearch_finds_minimum` the script need only be right where it says `optimal` or `infeasible`, and
conclusive and in time on `lo … m`. -/
theorem timedSearch_finds (P : Nat → Prop) (σ : Nat → Status) (late : Nat → Bool) (lo hi m : Nat)
    (hσ : ∀ k, (σ k = .optimal → P k) ∧ (σ k = .infeasible → ¬ P k))
    (hlo : lo ≤ m) (hhi : m < hi) (hm : P m) (hmin : ∀ j, j < m → ¬ P j)
    (hconcl : ∀ j, lo ≤ j → j ≤ m → σ j ≠ .other ∧ late j = false) :
    (stopSearchTimed σ late lo hi).solved = some m := by
  refine (timedLoop_solved_iff σ late _ _ _ _).2 ⟨hlo, by omega, (hconcl m hlo (Nat.le_refl _)).2, ?_,
    fun j hj1 hj2 => ⟨(hconcl j hj1 (by omega)).2, ?_⟩⟩
  · cases hs : σ m with
    | optimal => rfl
    | infeasible => exact absurd hm ((hσ m).2 hs)
    | other => exact absurd hs (hconcl m hlo (Nat.le_refl _)).1
  · cases hs : σ j with
    | optimal => exact absurd ((hσ j).1 hs) (hmin j hj2)
    | infeasible => rfl
    | other => exact absurd hs (hconcl j hj1 (by omega)).1

/-- some `j ≤ B < hi` with `P j` is enough: the search returns the least one -/
theorem timedSearch_of_bound (P : Nat → Prop) (σ : Nat → Status) (late : Nat → Bool) (lo hi B : Nat)
    (hσ : ∀ k, (σ k = .optimal → P k) ∧ (σ k = .infeasible → ¬ P k))
    (hlb : ∀ i, i < lo → ¬ P i) (hB : ∃ j, j ≤ B ∧ P j) (hBhi : B < hi)
    (hconcl : ∀ i, lo ≤ i → i ≤ B → σ i ≠ .other ∧ late i = false) :
    ∃ k, (stopSearchTimed σ late lo hi).solved = some k ∧ k ≤ B ∧ P k ∧ ∀ i, i < k → ¬ P i := by
  obtain ⟨j, hj, hfj⟩ := hB
  obtain ⟨k, hkj, hk, hmin⟩ := exists_least P j hfj
  exact ⟨k, timedSearch_finds P σ late lo hi k hσ (Nat.le_of_not_lt fun h => hlb k h hk) (by omega) hk hmin
    (fun i h1 h2 => hconcl i h1 (by omega)), by omega, hk, hmin⟩

theorem answer_mk (t : List (Nat × Status)) (st : NpoStatus) (m : Option Nat) (r : Nat)
    (h : (NpoOutcome.mk t st m).answer = some r) : st = .solved ∧ m = some r := by
  unfold NpoOutcome.answer at h
  by_cases hs : st = .solved
  · exact ⟨hs, by rwa [if_pos hs] at h⟩
  · rw [if_neg hs] at h; cases h

/-- the elapsed-time check either ends the run without an answer or lets the loop go on -/
theorem answer_of_timeout (late : Bool) (t : List (Nat × Status)) (m : Option Nat) (o : NpoOutcome) (r : Nat)
    (h : (if late = true then ⟨t, .timeout, m⟩ else o).answer = some r) : o.answer = some r := by
  cases late
  · exact h
  · cases (answer_mk _ _ _ _ h).1

theorem npoLoop_answer (cfg : NpoCfg) (σ : Nat → Status) (obj : Nat → Rat) (late : Nat → Bool) :
    ∀ (n k : Nat) (prev : Option Rat) (found : Bool) (acc : List (Nat × Status)) (r : Nat),
      (npoLoop cfg σ obj late n k prev found acc).answer = some r → σ r = .optimal ∧ k ≤ r ∧ r < k + n := by
  intro n
  induction n with
  | zero =>
    intro k prev found acc r h
    have := (answer_mk _ _ _ _ h).1
    cases found <;> cases this
  | succ n ih =>
    intro k prev found acc r h
    have step : ∀ prev' found', (npoLoop cfg σ obj late n (k+1) prev' found' (acc ++ [(k, σ k)])).answer = some r →
        σ r = .optimal ∧ k ≤ r ∧ r < k + (n + 1) := fun prev' found' h =>
      have ⟨h1, h2, h3⟩ := ih _ _ _ _ _ h
      ⟨h1, Nat.le_of_succ_le h2, Nat.succ_add_eq_add_succ k n ▸ h3⟩
    -- the only outcome with status `solved` is built in the `σ k = optimal` branch with model `k`; every other exit has
    -- another status, and the two recursive calls are covered by `step`
    unfold npoLoop at h
    simp only [] at h
    split at h
    · rename_i hk
      split at h
      · cases (answer_mk _ _ _ _ h).1
      · cases (answer_mk _ _ _ _ h).2
        exact ⟨hk, Nat.le_refl _, Nat.lt_add_of_pos_right (Nat.succ_pos n)⟩
      · exact step _ _ (answer_of_timeout _ _ _ _ _ h)
    · exact step _ _ (answer_of_timeout _ _ _ _ _ h)
end FP.Search
