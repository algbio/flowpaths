import FP.Proofs.SafetyBridges
import FP.Proofs.SafetyRestore
import FP.Proofs.Lib
/-!
The path found by `find_path` is simple (`findPath_spec`). From that: the bridge returned by `find_idom` lies on every
walk from `s` to `t` (`findIdom_sound`), and `find_idom` leaves every neighbour list with the same members
(`findIdom_sameOut`).

`findIdom_sound`: after `reversePath` an edge of the graph is still there unless it is the path edge out of its tail,
and every path edge is there reversed (`reversePath_residual`), so the cut argument of `bridge_of_cut` applies. `findIdom_sameOut` is the membership form of `restore_reversePath_out`.
-/
namespace FP.Safety
open FP.Spec
variable {V : Type} [DecidableEq V]

/-- `dfsNode` and `dfsList` call each other, so one induction on the fuel treats both: the path returned is
simple, avoids `vis`, runs along edges of `g` and, for `dfsList`, starts in `xs`. -/
theorem dfs_spec (g : Adj V) (t : V) : ∀ n,
    (∀ node vis r vis', dfsNode g t n node vis = some (r, vis') →
      (∀ x ∈ vis, x ∈ vis') ∧ ∀ p, r = some p →
        (node :: p).Nodup ∧ (∀ x ∈ p, x ∉ vis) ∧ ∀ e ∈ walkEdges (node :: p), e.2 ∈ out g e.1) ∧
    (∀ xs vis r vis', dfsList g t n xs vis = some (r, vis') →
      (∀ x ∈ vis, x ∈ vis') ∧ ∀ p, r = some p →
        p.Nodup ∧ (∀ x ∈ p, x ∉ vis) ∧ (∀ e ∈ walkEdges p, e.2 ∈ out g e.1) ∧
        ∀ h, p.head? = some h → h ∈ xs) := by
  intro n
  induction n with
  | zero => exact ⟨fun _ _ _ _ h => by simp [dfsNode] at h, fun _ _ _ _ h => by simp [dfsList] at h⟩
  | succ n ih =>
    obtain ⟨ihN, ihL⟩ := ih
    refine ⟨?_, ?_⟩
    · intro node vis r vis' h
      unfold dfsNode at h
      by_cases hn : node = t
      · rw [if_pos hn] at h
        injection h with h; injection h with h1 h2; subst h1; subst h2
        refine ⟨fun x hx => hx, ?_⟩
        intro p hp; injection hp with hp; subst hp
        simp [we_single]
      · rw [if_neg hn] at h
        obtain ⟨hm, hp⟩ := ihL _ _ _ _ h
        refine ⟨fun x hx => hm x (by simp [hx]), ?_⟩
        intro p hr
        obtain ⟨hnd, hvis, hwe, hhd⟩ := hp p hr
        refine ⟨?_, fun x hx hxv => hvis x hx (by simp [hxv]), ?_⟩
        · rw [List.nodup_cons]; exact ⟨fun hx => hvis node hx (by simp), hnd⟩
        · intro e he
          cases p with
          | nil => simp [we_single] at he
          | cons y p =>
            rw [we_cons_cons] at he
            rcases List.mem_cons.1 he with rfl | he
            · exact hhd y rfl
            · exact hwe e he
    · intro xs vis r vis' h
      unfold dfsList at h
      cases xs with
      | nil =>
        simp only at h
        injection h with h; injection h with h1 h2; subst h1; subst h2
        exact ⟨fun x hx => hx, fun p hp => by cases hp⟩
      | cons x xs =>
        simp only at h
        by_cases hx : x ∈ vis
        · rw [if_pos hx] at h
          obtain ⟨hm, hp⟩ := ihL _ _ _ _ h
          refine ⟨hm, fun p hr => ?_⟩
          obtain ⟨a, b, c, d⟩ := hp p hr
          exact ⟨a, b, c, fun h hh => List.mem_cons_of_mem _ (d h hh)⟩
        · rw [if_neg hx] at h
          split at h
          · cases h
          · rename_i p' vis1 hN
            injection h with h; injection h with h1 h2; subst h1; subst h2
            obtain ⟨hm, hp⟩ := ihN _ _ _ _ hN
            refine ⟨hm, fun p hr => ?_⟩
            injection hr with hr; subst hr
            obtain ⟨a, b, c⟩ := hp p' rfl
            refine ⟨a, ?_, ?_, ?_⟩
            · intro y hy; rcases List.mem_cons.1 hy with rfl | hy
              · exact hx
              · exact b y hy
            · exact c
            · intro h hh; simp at hh; subst hh; simp
          · rename_i vis1 hN
            obtain ⟨hm1, _⟩ := ihN _ _ _ _ hN
            obtain ⟨hm, hp⟩ := ihL _ _ _ _ h
            refine ⟨fun y hy => hm y (hm1 y hy), fun p hr => ?_⟩
            obtain ⟨a, b, c, d⟩ := hp p hr
            exact ⟨a, fun y hy hyv => b y hy (hm1 y hyv), c, fun h hh => List.mem_cons_of_mem _ (d h hh)⟩

theorem findPath_spec (g : Adj V) (s t : V) (p : List V) (h : findPath g s t = some p) :
    p.Nodup ∧ p.head? = some s ∧ ∀ e ∈ walkEdges p, e.2 ∈ out g e.1 := by
  unfold findPath at h
  split at h
  · cases h
  · rename_i p' vis' hd
    injection h with h; subst h
    obtain ⟨_, hp⟩ := (dfs_spec g t _).1 _ _ _ _ hd
    obtain ⟨a, _, c⟩ := hp p' rfl
    exact ⟨a, rfl, c⟩
  · injection h with h; subst h
    simp [we_single]

theorem findPath_mem_keys {g : Adj V} {s t : V} (hwf : wfAdj g s t = true) {p : List V}
    (hfp : findPath g s t = some p) : ∀ x ∈ p, x ∈ keys g := by
  obtain ⟨hsk, _, hkeys⟩ := wfAdj_out g s t hwf
  obtain ⟨_, hhd, hedges⟩ := findPath_spec g s t p hfp
  intro x hx
  cases p with
  | nil => cases hx
  | cons a l =>
    rcases List.mem_cons.1 hx with rfl | hx
    · cases hhd; exact hsk
    · obtain ⟨z, hz⟩ := exists_we_into (w := a :: l) hx
      exact hkeys _ _ (hedges _ hz)

theorem findIdom_ok {g : Adj V} {s t : V} {b : Option (V × V)} {g' : Adj V}
    (h : findIdom g s t = .ok (b, g')) :
    wfAdj g s t = true ∧ ∃ R p, idomCore g s t = .ok (b, R, p) ∧ g' = restore R p := by
  unfold findIdom at h
  split at h
  · cases h
  · rename_i hwf
    split at h
    · rename_i b' R p hc
      cases h
      exact ⟨by simpa using hwf, R, p, hc, rfl⟩
    · cases h
    · cases h

/-- a reported bridge is the first path edge that leaves the set `C` labelled from `s` in the residual graph -/
theorem idomCore_ok {g : Adj V} {s t : V} {b : Option (V × V)} {R : Adj V} {p : List V}
    (h : idomCore g s t = .ok (b, R, p)) : findPath g s t = some p ∧ R = reversePath g p ∧
      ∀ e, b = some e → ∃ C rest', bfs R ((keys g).length + 1) [s] [s] = some C ∧ t ∉ C ∧
        advance C (p.getLast?.getD s) p = some (e.1, e.2, rest') := by
  unfold idomCore at h
  split at h
  · cases h
  · rename_i p' hfp
    simp only at h
    split at h
    · cases h
    · rename_i C hbfs
      split at h
      · cases h; exact ⟨hfp, rfl, fun e he => nomatch he⟩
      · rename_i ht
        split at h
        · cases h
        · rename_i y z rest' hadv
          cases h
          exact ⟨hfp, rfl, fun e he => by cases he; exact ⟨C, rest', hbfs, ht, hadv⟩⟩

theorem findIdom_sound (g : Adj V) (s t : V) (b : V × V) (g' : Adj V)
    (h : findIdom g s t = .ok (some b, g')) : Thru (fun e => e.2 ∈ out g e.1) s t [b] := by
  obtain ⟨hwf, R, p, hc, _⟩ := findIdom_ok h
  obtain ⟨hfp, rfl, hb⟩ := idomCore_ok hc
  obtain ⟨C, rest', hbfs, ht, hadv⟩ := hb b rfl
  obtain ⟨hnd, hhd, hedges⟩ := findPath_spec g s t p hfp
  obtain ⟨h1, h2⟩ := reversePath_residual g p hnd (findPath_mem_keys hwf hfp) hedges
  have hinv := loopInv_start (reversePath g p) p hhd hbfs
  obtain ⟨pre, hp, hpre, hz, _⟩ := advance_split _ p s _ p C hinv b.1 b.2 rest' hadv
  exact bridge_of_cut g (reversePath g p) p h1 h2 C hinv.closed pre rest' b.1 b.2 hp hpre hz s t hinv.sC ht

theorem findIdom_sameOut (g : Adj V) (s t : V) (b : Option (V × V)) (g' : Adj V)
    (h : findIdom g s t = .ok (b, g')) : ∀ u v, v ∈ out g' u ↔ v ∈ out g u := by
  obtain ⟨hwf, R, p, hc, rfl⟩ := findIdom_ok h
  obtain ⟨hfp, rfl, _⟩ := idomCore_ok hc
  obtain ⟨hnd, _, hedges⟩ := findPath_spec g s t p hfp
  intro u v
  rw [restore_reversePath_out p g hnd (findPath_mem_keys hwf hfp) hedges]
  cases hn : nxt p u with
  | none => exact Iff.rfl
  | some n =>
    exact (List.mem_append.trans (or_congr Iff.rfl List.mem_singleton)).trans
      (mem_erase_or_eq (hedges (u, n) (nxt_edge _ _ _ hn)))

end FP.Safety
