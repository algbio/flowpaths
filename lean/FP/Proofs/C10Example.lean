import FP.Proofs.PathCoreExample
import FP.Proofs.C10Ignore
import FP.Proofs.WalkCoreExample
import FP.Proofs.C10Constraints
import FP.Proofs.C10Subset
/-!
Instances of the theorems on constraints, ignored edges, additional starts and `min1` rows, on the user
DAG `a → b → c`, `a → c` of `PathCoreExample`:
* the constraint `[(a,b),(b,c)]` with coverage 1: `constraint_complete` turns the satisfying
  assignment of the unconstrained LP (path `a,b,c`) into one of the constrained LP;
* a kFlowDecomp input in which ignoring `(a,b)` keeps `w_max = 3`;
* the route `b,c` is admissible exactly when `b` is an additional start;
* an assignment of the two `min1` rows with multiplicity 2.

`C10SubsetExample`, on the graph of `WalkCoreExample`: for the walk `source, s, a, a, a, t, sink` and the subset
constraint `{(a,a), (a,t)}` the hypotheses of `Props.C10.subset_constraint_complete` hold, and the extension
takes the expected values.
-/
namespace FP.C10Example
open FP FP.Spec FP.PathCoreExample

def cfgC : PathCfg := { k := 1, constraints := [[("a", "b"), ("b", "c")]], coverage := 1 }

def P : Nat → List Edge := fun _ => walkEdges ["source", "a", "b", "c", "sink"]

theorem sat_with_constraint : Sat (withR asg (fun _ => 0)) (encodePaths st cfgC) := by
  have h0 : ∀ j, j < cfgC.constraints.length → j = 0 := fun j hj => Nat.lt_one_iff.1 hj
  refine (constraint_complete st cfgC asg P (fun _ => 0) sat_example ?_
    (fun _ _ _ _ => show (0 : Rat) ≤ 1 by decide) ?_).1
  · intro i hi j hj
    obtain rfl : i = 0 := Nat.lt_one_iff.1 hi
    obtain rfl := h0 j hj
    show ∀ e ∈ ([("a", "b"), ("b", "c")] : List Edge), asg (edgeVar e 0) = if e ∈ P 0 then 1 else 0
    decide
  · intro j hj
    obtain rfl := h0 j hj
    refine ⟨by decide, ?_⟩
    show (([("a", "b"), ("b", "c")] : List Edge).length : Rat) * 1
      ≤ (([("a", "b"), ("b", "c")] : List Edge).countP (fun e => decide (e ∈ P 0)) : Nat)
    decide +kernel

def inp : FlowInput :=
  { base := base, flow := [(("a", "b"), 2), (("b", "c"), 2), (("a", "c"), 3)], cfg := { k := 2 } }

theorem inp_activeEdges : inp.activeEdges = [("a", "b"), ("a", "c"), ("b", "c")] := by decide

theorem ignore_example :
    (kfdLP inp).rows.Perm ((kfdLP (inp.ignoreMore ("a", "b"))).rows ++ kfdEdgeRows inp ("a", "b")) :=
  (kfd_ignore_is_row_deletion inp ("a", "b") st_wf.edgesNodup (by rw [inp_activeEdges]; decide)
    (by unfold FlowInput.wmax; rw [ignoreMore_active, inp_activeEdges]; decide)).2.2

theorem route_example :
    ValidRoute base ["b"] [] ["b", "c"] ∧ ¬ ValidRoute base [] [] ["b", "c"] ∧
    IsWalkIn (augment base ["b"] []).g (srcName :: ["b", "c"] ++ [snkName]) := by
  have hv : ValidRoute base ["b"] [] ["b", "c"] := by
    refine ⟨by decide, by decide, by unfold IsWalkIn; decide, ?_, ?_⟩
    · intro v hv
      have : v = "b" := by simpa using hv.symm
      subst this; right; simp
    · intro v hv
      have : v = "c" := by simpa using hv.symm
      subst this; left; decide
  refine ⟨hv, ?_, (augment_starts_ends base ["b"] [] base_wf _).2 hv⟩
  intro h
  rcases h.first "b" rfl with h1 | h1
  · exact absurd h1 (by decide)
  · simp at h1

def e0 : Edge := ("a", "b")
def asgU : Asg := fun v => if v = usedVar e0 0 then 1 else if v = edgeVar e0 0 then 2 else 0

theorem min1_example : asgU (usedVar e0 0) = 1 ↔ 1 ≤ asgU (edgeVar e0 0) :=
  (used_indicator_exact asgU e0 0 3 (Or.inr (by decide)) (by decide)
    (used_indicator_complete asgU e0 0 3 ⟨2, by decide⟩ (by decide) (by decide) (by decide))).1

end FP.C10Example

namespace FP.C10SubsetExample
open FP.WalkCoreExample

def cfgS : WalkCfg := { k := 1, constraints := [[("a", "a"), ("a", "t"), ("a", "a")]] }

/-- `encodeWalks` does not read the constraints -/
theorem sat_enc : Sat asg (encodeWalks st cfgS ub) := sat_example

theorem resp_ok : ∀ j (hj : j < cfgS.constraints.length), (fun _ : Nat => 0) j < cfgS.k ∧
    (∀ e ∈ cfgS.constraints[j], e ∈ st.g.edges) ∧
    (cfgS.constraints[j].eraseDups.length : Rat) * cfgS.coverage ≤
      ((cfgS.constraints[j].eraseDups.countP
        (fun e => decide (1 ≤ asg (edgeVar e ((fun _ : Nat => 0) j)))) : Nat) : Rat) := by
  intro j hj
  have : j = 0 := by simp [cfgS] at hj; omega
  subst this
  have h0 : cfgS.constraints[0]'hj = [("a", "a"), ("a", "t"), ("a", "a")] := rfl
  rw [h0]
  exact ⟨by decide, by decide, by decide +kernel⟩

theorem ext_values : subsetAsg asg cfgS.constraints cfgS.coverage (rVar 0 0) = 1 ∧
    subsetAsg asg cfgS.constraints cfgS.coverage (usedVar ("a", "a") 0) = 1 ∧
    subsetAsg asg cfgS.constraints cfgS.coverage (edgeVar ("a", "a") 0) = 2 := by
  refine ⟨?_, ?_, ?_⟩ <;> decide +kernel

end FP.C10SubsetExample
