import FP.Proofs.FlowLemmas
import FP.Proofs.WalkEdges
/-!
# FP.Proofs.WalkLemmas — `walkEdges` of node sequences (projections, duplicate-freeness, counting against a duplicate-free edge
list), the rational multiplicities `cntR` and `occR`, the indicator of a walk as a flow (`walk_cons`, `path_cons`, `path_src`),
and `lowerAlong`: an edge function lowered along an edge list
-/
namespace FP
open FP.Spec

theorem walkEdges_length (l : List Node) : (walkEdges l).length = l.length - 1 := by
  unfold walkEdges
  rw [List.length_zip, List.length_tail]; omega

theorem walkEdges_map_snd (l : List Node) : (walkEdges l).map (·.2) = l.tail :=
  List.map_snd_zip (by simp)

theorem walkEdges_map_fst (l : List Node) : (walkEdges l).map (·.1) = l.dropLast := by
  induction l with
  | nil => rfl
  | cons a l ih =>
    cases l with
    | nil => rfl
    | cons b l => rw [we_cons_cons, List.map_cons, ih, List.dropLast_cons_cons]

theorem exists_walkEdge_from (l : List Node) (v : Node) (hv : v ∈ l.dropLast) :
    ∃ w, (v, w) ∈ walkEdges l := by
  rw [← walkEdges_map_fst] at hv
  obtain ⟨e, he, rfl⟩ := List.mem_map.1 hv
  exact ⟨e.2, he⟩

theorem walkEdges_nodup {l : List Node} (h : l.Nodup) : (walkEdges l).Nodup := by
  apply nodup_of_map (·.2)
  rw [walkEdges_map_snd]
  exact h.sublist (List.tail_sublist l)

theorem nodup_of_walk (rank : Node → Nat) (l : List Node)
    (h : ∀ e ∈ walkEdges l, rank e.1 < rank e.2) : l.Nodup := by
  -- consecutive pairs increase in rank, so the whole sequence is strictly increasing in rank
  have hpw : l.Pairwise (fun a b => rank a < rank b) := by
    induction l with
    | nil => simp
    | cons a l ih =>
      cases l with
      | nil => simp
      | cons b l =>
        have hab : rank a < rank b := h (a, b) List.mem_cons_self
        have ih' := ih (fun e he => h e (List.mem_cons_of_mem _ he))
        refine List.pairwise_cons.2 ⟨fun c hc => ?_, ih'⟩
        rcases List.mem_cons.1 hc with rfl | hc
        · exact hab
        · exact Nat.lt_trans hab ((List.pairwise_cons.1 ih').1 c hc)
  exact hpw.imp (fun hab heq => by rw [heq] at hab; omega)

theorem sum_count_filter (l : List Edge) (hnd : l.Nodup) (q : Edge → Bool) (W : List Edge) :
    ((l.filter q).map fun e => W.count e).sum = (W.filter (· ∈ l)).countP q := by
  induction W with
  | nil =>
    simp only [List.count_nil, List.filter_nil, List.countP_nil]
    exact sum_map_zero (fun _ _ => rfl)
  | cons x xs ih =>
    have hfun : ((l.filter q).map fun e => (x :: xs).count e)
        = (l.filter q).map fun e => xs.count e + (if x = e then 1 else 0) :=
      List.map_congr_left fun e _ => by rw [List.count_cons]; simp only [beq_iff_eq]
    rw [hfun, sum_map_add, ih, sum_ite_eq_mem _ (hnd.filter q) x fun _ => 1, List.filter_cons]
    by_cases hx : x ∈ l <;> by_cases hq : q x = true <;> simp [hx, hq, List.mem_filter]

theorem sum_count_le_length (l : List Edge) (hnd : l.Nodup) (P : List Edge) :
    (l.map fun e => P.count e).sum ≤ P.length := by
  have := sum_count_filter l hnd (fun _ => true) P
  rw [List.filter_eq_self.2 fun _ _ => rfl] at this
  exact this ▸ Nat.le_trans List.countP_le_length (List.length_filter_le _ _)

/-- multiplicity of an edge in an edge list, as a rational -/
def cntR (P : List Edge) (e : Edge) : Rat := (P.map (fun p => if e = p then (1 : Rat) else 0)).sum

theorem cntR_mem (P : List Edge) (h : P.Nodup) (e : Edge) (he : e ∈ P) : cntR P e = 1 :=
  sum_ite_eq_of_mem P h e he fun _ => 1

theorem cntR_nonneg (P : List Edge) (e : Edge) : 0 ≤ cntR P e := by
  apply sum_map_nonneg
  intro p _
  split <;> decide

theorem cntR_not_mem (P : List Edge) (e : Edge) (he : e ∉ P) : cntR P e = 0 :=
  sum_ite_eq_of_not_mem P e (fun _ => 1) he

theorem cntR_of_nodup (P : List Edge) (h : P.Nodup) (e : Edge) :
    cntR P e = if e ∈ P then 1 else 0 := by
  split
  · next hm => exact cntR_mem P h e hm
  · next hm => exact cntR_not_mem P e hm

theorem cntR_eq_count (P : List Edge) (e : Edge) : cntR P e = ((P.count e : Nat) : Rat) := by
  unfold cntR List.count
  rw [← sum_ind_eq_countP]
  exact congrArg List.sum (List.map_congr_left fun p _ => by
    simp only [beq_iff_eq, @eq_comm _ p e])

theorem traversals_eq_cntR (l : List Node) (e : Edge) :
    ((traversals l e : Nat) : Rat) = cntR (walkEdges l) e :=
  (cntR_eq_count _ e).symm

theorem sum_filter_cntR (l : List Edge) (hnd : l.Nodup) (P : List Edge) (q : Edge → Bool)
    (hP : ∀ p ∈ P, p ∈ l) :
    ((l.filter q).map (cntR P)).sum = (P.map (fun p => if q p then (1 : Rat) else 0)).sum := by
  rw [List.map_congr_left fun e _ => cntR_eq_count P e, ← natCast_sum, sum_count_filter l hnd q P,
    List.filter_eq_self.2 (by simpa using hP), sum_ind_eq_countP]

theorem inflow_cntR (g : Graph) (hnd : g.edges.Nodup) (P : List Edge) (hP : ∀ p ∈ P, p ∈ g.edges)
    (v : Node) : inflow g (cntR P) v = (P.map (fun p => if p.2 = v then (1 : Rat) else 0)).sum := by
  unfold inflow
  rw [sum_filter_cntR g.edges hnd P _ hP]
  congr 1; apply List.map_congr_left; intro e _; simp

theorem outflow_cntR (g : Graph) (hnd : g.edges.Nodup) (P : List Edge) (hP : ∀ p ∈ P, p ∈ g.edges)
    (v : Node) : outflow g (cntR P) v = (P.map (fun p => if p.1 = v then (1 : Rat) else 0)).sum := by
  unfold outflow
  rw [sum_filter_cntR g.edges hnd P _ hP]
  congr 1; apply List.map_congr_left; intro e _; simp

/-- multiplicity of a vertex in a vertex list, as a rational -/
def occR (l : List Node) (v : Node) : Rat := (l.map (fun w => if w = v then (1 : Rat) else 0)).sum

theorem occR_cons (a : Node) (l : List Node) (v : Node) :
    occR (a :: l) v = (if a = v then 1 else 0) + occR l v := by simp [occR]

theorem occR_append (l m : List Node) (v : Node) : occR (l ++ m) v = occR l v + occR m v := by
  simp [occR, List.sum_append]

theorem occR_single (a v : Node) : occR [a] v = if a = v then 1 else 0 := by
  simp [occR, Rat.add_zero]

theorem heads_walkEdges (l : List Node) (v : Node) :
    ((walkEdges l).map (fun p => if p.2 = v then (1 : Rat) else 0)).sum = occR l.tail v := by
  rw [← walkEdges_map_snd, occR, List.map_map]; rfl

theorem tails_walkEdges (l : List Node) (v : Node) :
    ((walkEdges l).map (fun p => if p.1 = v then (1 : Rat) else 0)).sum = occR l.dropLast v := by
  rw [← walkEdges_map_fst, occR, List.map_map]; rfl

/-- along a walk from `s` to `t` every node is entered as often as it is left, up to the two ends -/
theorem occR_tail_dropLast (l : List Node) (s t w : Node) (hh : l.head? = some s)
    (hl : l.getLast? = some t) :
    occR l.tail w + (if s = w then 1 else 0) = occR l.dropLast w + (if t = w then 1 else 0) := by
  cases l with
  | nil => cases hh
  | cons a l' =>
    cases Option.some.inj hh
    have hd : (s :: l').dropLast ++ [t] = s :: l' := by
      obtain ⟨ys, h⟩ := List.getLast?_eq_some_iff.1 hl
      rw [h, List.dropLast_concat]
    rw [List.tail_cons, ← occR_single t w, ← occR_append, hd, occR_cons, Rat.add_comm]

section Path
variable {g : Graph} {a b : Node} {p : List Node}

/-- `cons` as in `FlowOn.cons`, `IsFlow.cons`: conservation, here of the indicator of a walk, up to its two ends -/
theorem walk_cons {l : List Node} (hnd : g.edges.Nodup) (hW : IsWalkIn g l) (hh : l.head? = some a)
    (hl : l.getLast? = some b) (v : Node) :
    inflow g (cntR (walkEdges l)) v + (if a = v then 1 else 0)
      = outflow g (cntR (walkEdges l)) v + (if b = v then 1 else 0) := by
  rw [inflow_cntR g hnd _ hW, outflow_cntR g hnd _ hW, heads_walkEdges, tails_walkEdges]
  exact occR_tail_dropLast l a b v hh hl

theorem path_cons (hnd : g.edges.Nodup) (hW : IsWalkIn g (a :: p ++ [b])) {v : Node} (ha : v ≠ a)
    (hb : v ≠ b) :
    inflow g (cntR (walkEdges (a :: p ++ [b]))) v = outflow g (cntR (walkEdges (a :: p ++ [b]))) v := by
  have := walk_cons hnd hW rfl List.getLast?_concat v
  rwa [if_neg (Ne.symm ha), if_neg (Ne.symm hb), Rat.add_zero, Rat.add_zero] at this

theorem path_src (hnd : g.edges.Nodup) (hW : IsWalkIn g (a :: p ++ [b])) (ha : a ∉ p) :
    outflow g (cntR (walkEdges (a :: p ++ [b]))) a = 1 := by
  rw [outflow_cntR g hnd _ hW, tails_walkEdges, List.dropLast_concat, occR_cons, if_pos rfl,
    show occR p a = 0 from sum_map_zero fun w hw => if_neg fun (e : w = a) => ha (e ▸ hw), Rat.add_zero]

end Path

/-- `x` lowered by `δ` on the edges of the list `P` (once per occurrence) -/
def lowerAlong (x : Edge → Rat) (δ : Rat) (P : List Edge) : Edge → Rat :=
  fun e => x e - δ * cntR P e

theorem lowerAlong_mem (x : Edge → Rat) (δ : Rat) {P : List Edge} (hP : P.Nodup) (e : Edge)
    (he : e ∈ P) : lowerAlong x δ P e = x e - δ := by
  unfold lowerAlong; rw [cntR_mem P hP e he, Rat.mul_one]

theorem lowerAlong_not_mem (x : Edge → Rat) (δ : Rat) (P : List Edge) (e : Edge) (he : e ∉ P) :
    lowerAlong x δ P e = x e := by
  unfold lowerAlong; rw [cntR_not_mem P e he, Rat.mul_zero, Rat.sub_eq_add_neg, Rat.neg_zero, Rat.add_zero]

theorem add_lowerAlong (x : Edge → Rat) (δ : Rat) (P : List Edge) (e : Edge) :
    δ * cntR P e + lowerAlong x δ P e = x e := by
  unfold lowerAlong
  grind

theorem lowerAlong_le (x : Edge → Rat) {δ : Rat} (hδ : 0 ≤ δ) {P : List Edge} (hP : P.Nodup) (e : Edge) :
    lowerAlong x δ P e ≤ x e := by
  by_cases hmem : e ∈ P
  · rw [lowerAlong_mem x δ hP e hmem]; grind
  · rw [lowerAlong_not_mem x δ P e hmem]; exact Rat.le_refl

theorem inflow_lowerAlong (g : Graph) (x : Edge → Rat) (δ : Rat) (P : List Edge) (v : Node) :
    inflow g (lowerAlong x δ P) v = inflow g x v - δ * inflow g (cntR P) v := by
  unfold lowerAlong
  rw [inflow_sub, inflow_mul_left]

theorem outflow_lowerAlong (g : Graph) (x : Edge → Rat) (δ : Rat) (P : List Edge) (v : Node) :
    outflow g (lowerAlong x δ P) v = outflow g x v - δ * outflow g (cntR P) v := by
  unfold lowerAlong
  rw [outflow_sub, outflow_mul_left]

end FP
