import FP.Proofs.PathCore
import FP.Proofs.SatCheck
/-!
The hypotheses of the C01 theorems are satisfiable: a concrete user DAG `a → b → c`, `a → c`; its augmentation; a
satisfying assignment of `encodePaths` selecting the path `a, b, c`; and the decoder's answer on it.
-/
namespace FP.PathCoreExample
open FP FP.Spec

def base : Graph := { nodes := ["a", "b", "c"], edges := [("a", "b"), ("b", "c"), ("a", "c")] }

theorem base_wf : BaseWF base := by decide +kernel

def rank : Node → Nat := fun v => if v = "a" then 0 else if v = "b" then 1 else 2

theorem base_acyclic : Acyclic base := ⟨rank, by decide⟩

def st : STGraph := augment base [] []

theorem st_nodes : st.g.nodes = ["a", "b", "c", "source", "sink"] := by decide
theorem st_edges : st.g.edges =
    [("a", "b"), ("a", "c"), ("b", "c"), ("c", "sink"), ("source", "a")] := by decide

theorem st_wf : STWF st := augment_wf base [] [] base_wf base_acyclic

def cfg : PathCfg := { k := 1 }

def asg : Asg := fun v =>
  if v ∈ [edgeVar ("source", "a") 0, edgeVar ("a", "b") 0, edgeVar ("b", "c") 0, edgeVar ("c", "sink") 0]
  then 1 else 0

theorem sat_example : Sat asg (encodePaths st cfg) := satCheck_sound _ _ (by decide +kernel)

theorem decode_example : decodeLayer st (fun e i => asg (edgeVar e i)) 0 = some ["a", "b", "c"] := by
  decide

/-- so `pathcore_sound` applies non-vacuously -/
example : ∃ p, decodeLayer st (fun e i => asg (edgeVar e i)) 0 = some p ∧ p ≠ [] :=
  ⟨["a", "b", "c"], decode_example, by decide⟩

example := pathcore_sound st cfg asg st_wf sat_example 0 (by decide)
example := dag_routes_valid base [] [] cfg asg base_wf base_acyclic sat_example 0 (by decide)

end FP.PathCoreExample
