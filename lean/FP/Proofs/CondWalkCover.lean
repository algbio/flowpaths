import FP.Proofs.CondWalkCoverLift
import FP.Proofs.FlowCover
/-!
A covering flow on the expanded condensation yields a walk cover. `cwc_distribute`: if every key `x` comes with at most as many items as there are routes through `x`,
the items can be handed out to the routes, one item per key and route, so that every item is handed
to a route through its key. With the flow decomposition on the (acyclic) expanded condensation and
the lifting of `CondWalkCoverLift` this gives `cwc_condensation_flow_to_walkcover`: the demand on a condensation edge is
its multiplicity, which is at least the number of its distinct parallel edges that are not ignored (`cwc_live_le_mult`;
the ignore list may repeat an edge), so there are enough routes for them. For a concrete digraph its
reachability hypotheses are checked with the executable `reachFrom` (`scc_of_reachFrom` of Reach, `cwc_live_of_reachFrom`,
`cwc_unreachable_of_reachFrom`).
-/
namespace FP
open FP.Spec CondInput

-- trap: `WalkResidual` has `FP.outN` with the same body; once it is imported, `outN` below means that one and this fails
example : @outN = @FP.Spec.outN := by with_reducible rfl

theorem cwc_distribute {R K I : Type} (has : R → K → Prop) [∀ r x, Decidable (has r x)]
    (dflt : K → I) :
    ∀ (routes : List R) (L : K → List I),
      (∀ x, (L x).length ≤ (routes.filter fun r => decide (has r x)).length) →
      ∃ chs : List (K → I), chs.length = routes.length ∧
        (∀ ch ∈ chs, ∀ x, ch x ∈ L x ∨ ch x = dflt x) ∧
        ∀ x, ∀ it ∈ L x, ∃ p ∈ routes.zip chs, has p.1 x ∧ p.2 x = it := by
  intro routes
  induction routes with
  | nil =>
    intro L hL
    refine ⟨[], rfl, by simp, ?_⟩
    intro x it hit
    have := hL x
    simp only [List.filter_nil, List.length_nil, Nat.le_zero, List.length_eq_zero_iff] at this
    rw [this] at hit
    simp at hit
  | cons r rs ih =>
    intro L hL
    -- `r` takes the head of every list whose key it passes; the rest is handed out to `rs`
    let L' : K → List I := fun x => if has r x then (L x).tail else L x
    have hL' : ∀ x, (L' x).length ≤ (rs.filter fun r => decide (has r x)).length := by
      intro x
      have := hL x
      simp only [L']
      by_cases hx : has r x
      · simp only [List.filter_cons, hx, decide_true, if_true, List.length_cons] at this
        simp only [hx, if_true, List.length_tail]; omega
      · simp only [List.filter_cons, hx, decide_false, Bool.false_eq_true, if_false] at this
        simp only [hx, if_false]; exact this
    obtain ⟨chs, hlen, hval, hcov⟩ := ih L' hL'
    have hsub : ∀ x, ∀ it ∈ L' x, it ∈ L x := by
      intro x it hit
      simp only [L'] at hit
      split at hit
      · exact List.mem_of_mem_tail hit
      · exact hit
    refine ⟨(fun x => (L x).head?.getD (dflt x)) :: chs, by simp [hlen], ?_, ?_⟩
    · intro ch hch x
      rcases List.mem_cons.1 hch with rfl | hch
      · cases hLx : L x with
        | nil => right; simp [hLx]
        | cons a l => left; simp [hLx]
      · rcases hval ch hch x with h | h
        · exact Or.inl (hsub x _ h)
        · exact Or.inr h
    · intro x it hit
      by_cases hx : has r x
      · cases hLx : L x with
        | nil => rw [hLx] at hit; simp at hit
        | cons a l =>
          rw [hLx] at hit
          rcases List.mem_cons.1 hit with rfl | hit
          · exact ⟨(r, fun x => (L x).head?.getD (dflt x)), by simp [List.zip_cons_cons], hx,
              by simp [hLx]⟩
          · have : it ∈ L' x := by simp only [L', hx, if_true, hLx, List.tail_cons]; exact hit
            obtain ⟨p, hp, h1, h2⟩ := hcov x it this
            exact ⟨p, by rw [List.zip_cons_cons]; exact List.mem_cons_of_mem _ hp, h1, h2⟩
      · have : it ∈ L' x := by simp only [L', hx, if_false]; exact hit
        obtain ⟨p, hp, h1, h2⟩ := hcov x it this
        exact ⟨p, by rw [List.zip_cons_cons]; exact List.mem_cons_of_mem _ hp, h1, h2⟩

/-- the edges of the digraph over the condensation edge `ab` (its parallel edges) -/
def cwcPar (c : CondInput) (ab : Nat × Nat) : List Edge :=
  c.interEdges.filter fun e => (c.comp e.1, c.comp e.2) == ab

/-- those of them that are not ignored, each once: what the walks crossing `ab` have to cover -/
def cwcLive (c : CondInput) (ab : Nat × Nat) : List Edge :=
  (cwcPar c ab).eraseDups.filter fun e => !c.ignore.contains e

theorem cwc_mem_par {c : CondInput} {ab : Nat × Nat} {e : Edge} :
    e ∈ cwcPar c ab ↔ e ∈ c.g.edges ∧ c.comp e.1 ≠ c.comp e.2 ∧ (c.comp e.1, c.comp e.2) = ab := by
  unfold cwcPar
  rw [List.mem_filter, cwc_mem_interEdges]
  simp [and_assoc]

theorem cwc_mem_live {c : CondInput} {ab : Nat × Nat} {e : Edge} :
    e ∈ cwcLive c ab ↔ (e ∈ c.g.edges ∧ c.comp e.1 ≠ c.comp e.2 ∧ (c.comp e.1, c.comp e.2) = ab)
      ∧ e ∉ c.ignore := by
  unfold cwcLive
  rw [List.mem_filter, List.mem_eraseDups, cwc_mem_par]
  simp

theorem cwc_live_le_mult {c : CondInput} (hsub : ∀ e ∈ c.ignore, e ∈ c.g.edges)
    (ab : Nat × Nat) : ((cwcLive c ab).length : Int) ≤ c.multiplicity ab := by
  let ign := c.ignore.eraseDups.filter fun e =>
    c.comp e.1 != c.comp e.2 && (c.comp e.1, c.comp e.2) == ab
  have hign : ign.Nodup := List.Pairwise.filter _ (nodup_eraseDups _)
  -- the live edges and the distinct ignored parallel edges are disjoint and duplicate-free inside `cwcPar`
  have hle : (cwcLive c ab ++ ign).length ≤ (cwcPar c ab).length := by
    apply List.Nodup.length_le_of_subset
    · apply List.nodup_append.2
      refine ⟨List.Pairwise.filter _ (nodup_eraseDups _), hign, ?_⟩
      intro x hx y hy hxy
      subst hxy
      exact (cwc_mem_live.1 hx).2 (List.mem_eraseDups.1 (List.mem_filter.1 hy).1)
    · intro x hx
      rcases List.mem_append.1 hx with hx | hx
      · exact cwc_mem_par.2 (cwc_mem_live.1 hx).1
      · have := List.mem_filter.1 hx
        have h2 := this.2
        simp only [Bool.and_eq_true, bne_iff_ne, ne_eq, beq_iff_eq] at h2
        exact cwc_mem_par.2 ⟨hsub x (List.mem_eraseDups.1 this.1), h2.1, h2.2⟩
  rw [List.length_append] at hle
  unfold multiplicity
  show _ ≤ ((cwcPar c ab).length : Int) - (ign.length : Int)
  omega

open Classical in
/-- what `cwc_distribute` gives a route that is handed no parallel edge for `ab`: some edge of the digraph
between the two components -/
noncomputable def cwcDflt (c : CondInput) (ab : Nat × Nat) : Edge :=
  if h : ∃ e ∈ c.g.edges, c.comp e.1 ≠ c.comp e.2 ∧ (c.comp e.1, c.comp e.2) = ab then choose h
  else ("", "")

theorem cwc_choice_of_live {c : CondInput} (ch : Nat × Nat → Edge)
    (h : ∀ x, ch x ∈ cwcLive c x ∨ ch x = cwcDflt c x) : CwcChoice c ch := by
  intro ab hab
  rcases h ab with h | h
  · have := (cwc_mem_live.1 h).1
    exact ⟨this.1, congrArg Prod.fst this.2.2, congrArg Prod.snd this.2.2⟩
  · have hex := cwc_mem_condEdges.1 hab
    rw [h, cwcDflt, dif_pos hex]
    obtain ⟨h1, _, h3⟩ := Classical.choose_spec hex
    exact ⟨h1, congrArg Prod.fst h3, congrArg Prod.snd h3⟩

theorem cwc_condensation_flow_to_walkcover (c : CondInput) (w d : List (Edge × Int)) (f : Edge → Nat)
    (cost : Nat)
    (hscc : ∀ u ∈ c.g.nodes, ∀ v ∈ c.g.nodes,
      c.comp u = c.comp v ↔ (Reach c.g.edges u v ∧ Reach c.g.edges v u))
    (hlive : ∀ e ∈ c.g.edges, Reach c.g.edges srcName e.1 ∧ Reach c.g.edges e.2 snkName)
    (hclosed : ∀ e ∈ c.g.edges, e.1 ∈ c.g.nodes ∧ e.2 ∈ c.g.nodes)
    (hinc : ∀ v ∈ c.g.nodes, ∃ e ∈ c.g.edges, e.1 = v ∨ e.2 = v)
    (hw : c.weightFunction = some w) (hd : c.demands = some d)
    (hf : CoveringFlow c.expandedST (fun e => (lookupD d e 0).toNat) f)
    (hcost : outN c.expandedST.g f c.expandedST.source = cost) :
    HasCover ⟨c.g, srcName, snkName⟩ (c.g.edges.filter fun e => !c.ignore.contains e) [] cost := by
  classical
  have hok : CwcOK c := ⟨hclosed, hscc⟩
  -- a node lies on an edge, and with the edge on a source-to-sink walk
  have hnode : ∀ v ∈ c.g.nodes, Reach c.g.edges srcName v ∧ Reach c.g.edges v snkName := by
    intro v hv
    obtain ⟨e, he, h | h⟩ := hinc v hv
    · subst h
      exact ⟨(hlive e he).1, Reach.head (y := e.2) he (hlive e he).2⟩
    · subst h
      exact ⟨Reach.step (y := e.1) (hlive e he).1 he, (hlive e he).2⟩
  have hign := (cwc_weight_some hw).1
  obtain ⟨routes, hlen, hrs, hthru⟩ := flow_routes_through (cwc_expandedST_wf hok) hf
  rw [hcost] at hlen
  -- the demand on an edge is the weight
  have hdem : ∀ e ∈ c.expandedST.g.edges,
      (lookupD w e 0).toNat ≤ (routes.filter fun r => decide (e ∈ walkEdges r)).length := by
    intro e he
    have := hthru e he
    rwa [cwc_demand_eq hw hd he] at this
  -- hand the parallel edges that are not ignored out to the paths
  let has : List Node → Nat × Nat → Prop := fun r ab => (c.tailName ab.1, cname ab.2) ∈ walkEdges r
  have hbound : ∀ ab, (cwcLive c ab).length ≤ (routes.filter fun r => decide (has r ab)).length := by
    intro ab
    cases hL : cwcLive c ab with
    | nil => simp
    | cons e0 l =>
      rw [← hL]
      have he0 := (cwc_mem_live.1 (hL ▸ List.mem_cons_self : e0 ∈ cwcLive c ab)).1
      have hab : ab ∈ c.condEdges := cwc_mem_condEdges.2 ⟨e0, he0.1, he0.2.1, he0.2.2⟩
      have hx : (c.tailName ab.1, cname ab.2) ∈ c.expandedST.g.edges :=
        cwc_expanded_sub_expandedST hok (cwc_mem_expanded_edges.2 (Or.inr ⟨ab, hab, rfl⟩))
      have h1 := cwc_live_le_mult hign ab
      have h2 := hdem _ hx
      rw [cwc_weight_cond hw hab] at h2
      show _ ≤ (routes.filter fun r => decide ((c.tailName ab.1, cname ab.2) ∈ walkEdges r)).length
      omega
  obtain ⟨chs, hclen, hcval, hccov⟩ := cwc_distribute has (cwcDflt c) routes (cwcLive c) hbound
  -- lift every path with its choice function
  obtain ⟨g, hg⟩ := exists_choice (Q := fun pr : List Node × (Nat × Nat → Edge) => pr ∈ routes.zip chs)
    fun pr hpr => cwc_lift_route hok hnode pr.2 (cwc_choice_of_live pr.2 (hcval _ (List.of_mem_zip hpr).2))
      (hrs _ (List.of_mem_zip hpr).1)
  refine ⟨(routes.zip chs).map g, by simp [hlen, hclen], ?_, ?_, fun x hx => by simp at hx⟩
  · intro p hp
    obtain ⟨pr, hpr, rfl⟩ := List.mem_map.1 hp
    exact (hg pr hpr).1
  · intro e he
    have hm := List.mem_filter.1 he
    have hni : e ∉ c.ignore := by simpa using hm.2
    have he1 := (hok.closed e hm.1).1
    by_cases hcomp : c.comp e.1 = c.comp e.2
    · have hmem : e ∈ c.members (c.comp e.1) := cwc_mem_members.2 ⟨hm.1, rfl, hcomp.symm⟩
      have hk : c.comp e.1 ∈ c.condNodes := cwc_mem_condNodes.2 ⟨_, he1, rfl⟩
      have htriv : c.isTrivial (c.comp e.1) = false :=
        List.isEmpty_eq_false_iff_exists_mem.2 ⟨e, hmem⟩
      have hx : (cname (c.comp e.1), cexp (c.comp e.1)) ∈ c.expandedST.g.edges :=
        cwc_expanded_sub_expandedST hok (cwc_mem_expanded_edges.2 (Or.inl ⟨_, hk, htriv, rfl⟩))
      have hleft : (c.membersLeft (c.comp e.1)).isEmpty = false :=
        List.isEmpty_eq_false_iff_exists_mem.2 ⟨e, List.mem_filter.2 ⟨hmem, hm.2⟩⟩
      have h2 := hdem _ hx
      rw [cwc_weight_scc hw hk, hleft] at h2
      simp only [Bool.false_and, Bool.false_eq_true, if_false] at h2
      obtain ⟨r, hr⟩ := List.exists_mem_of_length_pos (Nat.lt_of_lt_of_le Nat.one_pos h2)
      have hr' := List.mem_filter.1 hr
      obtain ⟨ch, hpr⟩ := exists_mem_zip_of_mem routes chs hclen hr'.1
      exact ⟨g (r, ch), List.mem_map.2 ⟨_, hpr, rfl⟩, (hg _ hpr).2.1 _ (of_decide_eq_true hr'.2) e hmem⟩
    · have hab : (c.comp e.1, c.comp e.2) ∈ c.condEdges := cwc_mem_condEdges.2 ⟨e, hm.1, hcomp, rfl⟩
      have hlv : e ∈ cwcLive c (c.comp e.1, c.comp e.2) := cwc_mem_live.2 ⟨⟨hm.1, hcomp, rfl⟩, hni⟩
      obtain ⟨pr, hpr, h1, h2⟩ := hccov _ e hlv
      refine ⟨g pr, List.mem_map.2 ⟨_, hpr, rfl⟩, ?_⟩
      have := (hg pr hpr).2.2 _ hab h1
      rw [h2] at this
      exact this

theorem cwc_live_of_reachFrom (g : Graph)
    (h : ∀ e ∈ g.edges, e.1 ∈ reachFrom g srcName ∧ snkName ∈ reachFrom g e.2) :
    ∀ e ∈ g.edges, Reach g.edges srcName e.1 ∧ Reach g.edges e.2 snkName :=
  fun e he => ⟨reachFrom_sound _ _ _ (h e he).1, reachFrom_sound _ _ _ (h e he).2⟩

theorem cwc_unreachable_of_reachFrom (g : Graph)
    (hclosed : ∀ e ∈ g.edges, e.1 ∈ g.nodes ∧ e.2 ∈ g.nodes) (A : List Edge)
    (hA : ∀ e ∈ A, e.2 ∈ g.nodes)
    (h : ∀ e1 ∈ A, ∀ e2 ∈ A, e1 ≠ e2 → e2.1 ∉ reachFrom g e1.2) :
    ∀ e1 ∈ A, ∀ e2 ∈ A, e1 ≠ e2 → ¬ Reach g.edges e1.2 e2.1 :=
  fun e1 h1 e2 h2 hne hr => h e1 h1 e2 h2 hne (reachFrom_complete hclosed _ (hA e1 h1) hr)

end FP
