import FP.Model.WalkDecode
import FP.Proofs.EulerLemmas
import FP.Proofs.WalkLemmas
/-! Multiplicities on the edges of a graph and the residual multigraph of one layer of a walk model. `outN`/`inN` are what the
multiplicities `m` send out of and into a node; for the traversal counts of a walk they are its out- and in-degrees (`outN_traversals`, `inN_traversals`). `buildResidual g m` lists every edge `e` of `g` in
networkx order `m e` times (`edges_buildResidual`); `expand` gives the multiplicities and degrees of such a list; and the
double-counting identity `sum_bal_zero`. -/
namespace FP
open FP.Spec

def outN (g : Graph) (m : Edge → Nat) (v : Node) : Nat := ((g.edges.filter (·.1 = v)).map m).sum
def inN (g : Graph) (m : Edge → Nat) (v : Node) : Nat := ((g.edges.filter (·.2 = v)).map m).sum

theorem inN_add (G : Graph) (g1 g2 : Edge → Nat) (v : Node) :
    inN G (fun e => g1 e + g2 e) v = inN G g1 v + inN G g2 v := by
  unfold inN; exact sum_map_add _ _ _

theorem outN_add (G : Graph) (g1 g2 : Edge → Nat) (v : Node) :
    outN G (fun e => g1 e + g2 e) v = outN G g1 v + outN G g2 v := by
  unfold outN; exact sum_map_add _ _ _

theorem inN_mul (G : Graph) (g1 : Edge → Nat) (k : Nat) (v : Node) :
    inN G (fun e => k * g1 e) v = k * inN G g1 v := by
  unfold inN; exact sum_map_mul_left _ _ _

theorem outN_mul (G : Graph) (g1 : Edge → Nat) (k : Nat) (v : Node) :
    outN G (fun e => k * g1 e) v = k * outN G g1 v := by
  unfold outN; exact sum_map_mul_left _ _ _

theorem outN_traversals (g : Graph) (hnd : g.edges.Nodup) (L : List Node) (hW : IsWalkIn g L) (v : Node) :
    (outN g (traversals L) v : Int) = outdeg (walkEdges L) v := by
  unfold outN outdeg traversals
  rw [sum_count_filter g.edges hnd (fun e => decide (e.1 = v)) (walkEdges L), List.filter_eq_self.2 fun e he => decide_eq_true (hW e he)]

theorem inN_traversals (g : Graph) (hnd : g.edges.Nodup) (L : List Node) (hW : IsWalkIn g L) (v : Node) :
    (inN g (traversals L) v : Int) = indeg (walkEdges L) v := by
  unfold inN indeg traversals
  rw [sum_count_filter g.edges hnd (fun e => decide (e.2 = v)) (walkEdges L), List.filter_eq_self.2 fun e he => decide_eq_true (hW e he)]

theorem inN_eq_outN_of_bal (g : Graph) (hnd : g.edges.Nodup) (L : List Node) (hW : IsWalkIn g L) (v : Node)
    (hb : bal (walkEdges L) v = 0) : inN g (traversals L) v = outN g (traversals L) v := by
  have h1 := inN_traversals g hnd _ hW v
  have h2 := outN_traversals g hnd _ hW v
  unfold bal at hb
  omega

theorem le_outN (g : Graph) (m : Edge → Nat) {e : Edge} (he : e ∈ g.edges) : m e ≤ outN g m e.1 :=
  nat_le_sum_of_mem m (List.mem_filter.2 ⟨he, by simp⟩)

theorem outN_eq_zero (g : Graph) (m : Edge → Nat) (v : Node) (h : ∀ e ∈ g.edges, e.1 ≠ v) :
    outN g m v = 0 := by
  unfold outN
  rw [List.filter_eq_nil_iff.2 (fun e he => by simpa using h e he)]; rfl

theorem inN_eq_zero (g : Graph) (m : Edge → Nat) (v : Node) (h : ∀ e ∈ g.edges, e.2 ≠ v) :
    inN g m v = 0 := by
  unfold inN
  rw [List.filter_eq_nil_iff.2 (fun e he => by simpa using h e he)]; rfl

def expand (l : List Edge) (m : Edge → Nat) : List Edge := l.flatMap fun e => List.replicate (m e) e

theorem expand_cons (x : Edge) (xs : List Edge) (m : Edge → Nat) :
    expand (x :: xs) m = List.replicate (m x) x ++ expand xs m := by simp [expand]

theorem countP_expand (l : List Edge) (m : Edge → Nat) (p : Edge → Bool) :
    (expand l m).countP p = ((l.filter p).map m).sum := by
  induction l with
  | nil => simp [expand]
  | cons x xs ih =>
    rw [expand_cons, List.countP_append, ih, List.countP_replicate, List.filter_cons]
    by_cases h : p x = true
    · simp [h]
    · simp [h]

theorem mem_expand {l : List Edge} {m : Edge → Nat} {e : Edge} :
    e ∈ expand l m ↔ e ∈ l ∧ m e ≠ 0 := by
  simp only [expand, List.mem_flatMap, List.mem_replicate]
  constructor
  · rintro ⟨a, ha, hm, rfl⟩; exact ⟨ha, hm⟩
  · rintro ⟨h1, h2⟩; exact ⟨e, h1, h2, rfl⟩

theorem edges_buildResidual (g : Graph) (m : Edge → Nat) :
    Euler.edges (buildResidual g m) = expand (Graph.nxOrder g.nodes g.edges) m := by
  unfold Euler.edges buildResidual expand Graph.nxOrder
  rw [List.flatMap_map, List.flatMap_assoc]
  refine flatMap_congr _ _ _ fun v _ => ?_
  rw [List.map_flatMap]
  refine flatMap_congr _ _ _ fun e he => ?_
  have hv : e.1 = v := by simpa [Graph.outEdges] using (List.mem_filter.1 he).2
  rw [List.map_replicate, ← hv]

theorem keys_buildResidual (g : Graph) (m : Edge → Nat) :
    (buildResidual g m).map (·.1) = g.nodes := by
  simp [buildResidual, List.map_map, Function.comp_def]

theorem count_expand_nodup {l : List Edge} (hl : l.Nodup) (m : Edge → Nat) (e : Edge) :
    (expand l m).count e = if e ∈ l then m e else 0 := by
  induction l with
  | nil => simp [expand]
  | cons x xs ih =>
    obtain ⟨hx, hxs⟩ := List.nodup_cons.1 hl
    rw [expand_cons, List.count_append, ih hxs, List.count_replicate]
    by_cases h : x = e
    · subst h; simp [hx]
    · simp [h, Ne.symm h]

theorem sum_ind' (l : List Node) (hnd : l.Nodup) (a : Node) :
    (l.map fun v => Euler.ind' (a = v)).sum = if a ∈ l then 1 else 0 :=
  sum_ite_eq_mem l hnd a fun _ => 1

theorem sum_bal_zero (l : List Node) (hnd : l.Nodup) (es : List Edge)
    (h : ∀ e ∈ es, e.1 ∈ l ∧ e.2 ∈ l) : (l.map (bal es)).sum = 0 := by
  induction es with
  | nil => exact sum_map_zero (fun x _ => by simp [bal, outdeg, indeg])
  | cons e es ih =>
    have hfun : bal (e :: es) = fun x => (Euler.ind' (e.1 = x) - Euler.ind' (e.2 = x)) + bal es x := by
      funext x; exact Euler.bal_cons e es x
    rw [hfun, sum_map_add, sum_map_sub, ih (fun e' he' => h e' (by simp [he'])),
      sum_ind' l hnd, sum_ind' l hnd, if_pos (h e (by simp)).1, if_pos (h e (by simp)).2]
    rfl

end FP
