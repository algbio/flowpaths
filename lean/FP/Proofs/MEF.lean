import FP.Proofs.FlowExtend
import FP.Proofs.Optimum
import FP.Proofs.LP
/-!
What the `MinErrorFlow` LPs say: `sat_mefFlow_iff` and `sat_mefStage2_iff` say what satisfying `_encode_flow` and the
second-stage LP means in terms of the values of the variables; soundness reads them from left to right, completeness
from right to left with the assignments `mefAsg` / `mefAsg2`. An optimum of stage 1 is a closest candidate flow
(`mef_opt_transfer`). Last, what a flow on the model graph is on the user's own graph (`mef_user_acyclic`,
`mef_user_cyclic`).
-/
namespace FP
open FP.Spec

theorem qabs_le_iff (q r : Rat) : qabs q ≤ r ↔ q ≤ r ∧ -q ≤ r := abs_le_iff q r

theorem Spec.IsFlow.through {g : Graph} {x : Edge → Rat} (h : IsFlow g x) {v : Node} {e1 e2 : Edge}
    (hv : v ∈ g.nodes) (hi : g.inEdges v = [e1]) (ho : g.outEdges v = [e2]) : x e1 = x e2 := by
  have hc := h.cons v hv (hi ▸ List.cons_ne_nil _ _) (ho ▸ List.cons_ne_nil _ _)
  simpa only [inSum, outSum, hi, ho, List.map_cons, List.map_nil, List.sum_cons, List.sum_nil,
    Rat.add_zero] using hc

theorem Spec.isFlow_const (g : Graph) (c : Rat) (hc : 0 ≤ c)
    (hdeg : ∀ v ∈ g.nodes, g.inEdges v ≠ [] → g.outEdges v ≠ [] →
      (g.inEdges v).length = (g.outEdges v).length) : IsFlow g (fun _ => c) :=
  ⟨fun _ _ => hc, fun v hv hi ho => by
    unfold inSum outSum; rw [sum_map_const, sum_map_const, hdeg v hv hi ho]⟩

theorem lookupD_nonneg (l : List (Edge × Rat)) (e : Edge) (d : Rat) (hd : 0 ≤ d)
    (h : ∀ p ∈ l, 0 ≤ p.2) : 0 ≤ lookupD l e d := by
  unfold lookupD
  induction l with
  | nil => simpa using hd
  | cons p ps ih =>
    rw [List.lookup_cons]
    split
    · simpa using h p (by simp)
    · exact ih (fun q hq => h q (by simp [hq]))

theorem MEFInput.scale_nonneg (inp : MEFInput) (h : ∀ p ∈ inp.scaling, 0 ≤ p.2) (e : Edge) :
    0 ≤ inp.scale e :=
  lookupD_nonneg _ _ _ (by decide) h

/-- the bounds every edge, error and value-slot column carries -/
def MEFInput.InRange (inp : MEFInput) (q : Rat) : Prop :=
  0 ≤ q ∧ q ≤ inp.ub ∧ (inp.weightInt = true → ∃ z : Int, q = z)

theorem mef_consRow_holds (g : Graph) (a : Asg) (v : Node) :
    (rowEq ((g.inEdges v).map (fun e => ((1 : Rat), evVar e))
        ++ (g.outEdges v).map (fun e => ((-1 : Rat), evVar e))) 0).holds a ↔
      inSum g (fun e => a (evVar e)) v = outSum g (fun e => a (evVar e)) v := by
  rw [rowEq_holds, evalTerms_append, evalTerms_map, evalTerms_map, sum_map_mul_left, sum_map_mul_left]
  unfold inSum outSum
  grind

theorem mef_errRows_holds (inp : MEFInput) (a : Asg) (e : Edge) :
    (∀ r ∈ (if inp.ignored e then [rowEq [(1, mefErrVar e)] 0]
        else [rowLe [(-1, evVar e), (-1, mefErrVar e)] (-(lookupD inp.flow e 0)),
              rowLe [(1, evVar e), (-1, mefErrVar e)] (lookupD inp.flow e 0)]), r.holds a) ↔
      (inp.ignored e = true → a (mefErrVar e) = 0) ∧
      (inp.ignored e = false → qabs (inp.f e - a (evVar e)) ≤ a (mefErrVar e)) := by
  cases inp.ignored e
  · simp only [Bool.false_eq_true, if_false, List.forall_mem_cons, List.not_mem_nil, rowLe_holds,
      evalTerms_cons, evalTerms_nil, qabs_le_iff, MEFInput.f]
    grind
  · simp only [if_true, List.forall_mem_singleton, rowEq_holds, evalTerms_single]
    grind

theorem sat_mefFlow_iff (inp : MEFInput) (a : Asg) :
    Sat a (mefFlow inp) ↔
      (∀ e ∈ inp.graph.edges, inp.InRange (a (evVar e))) ∧
      (∀ e ∈ inp.graph.edges, inp.InRange (a (mefErrVar e))) ∧
      (∀ v ∈ inp.graph.nodes, inp.graph.inEdges v ≠ [] → inp.graph.outEdges v ≠ [] →
        inSum inp.graph (fun e => a (evVar e)) v = outSum inp.graph (fun e => a (evVar e)) v) ∧
      (∀ e ∈ inp.graph.edges, (inp.ignored e = true → a (mefErrVar e) = 0) ∧
        (inp.ignored e = false → qabs (inp.f e - a (evVar e)) ≤ a (mefErrVar e))) := by
  simp only [Sat, mefFlow, List.forall_mem_append, List.forall_mem_map, List.forall_mem_filter,
    List.forall_mem_flatMap, col_holds_iff, mef_consRow_holds, mef_errRows_holds, and_assoc,
    MEFInput.InRange, Bool.and_eq_true, Bool.not_eq_true', List.isEmpty_eq_false_iff, and_imp]

section Read
variable (inp : MEFInput) (a : Asg) (hsat : Sat a (mefFlow inp))

include hsat in
theorem mef_col_err (e : Edge) (he : e ∈ inp.graph.edges) :
    0 ≤ a (mefErrVar e) ∧ a (mefErrVar e) ≤ inp.ub ∧
      (inp.weightInt = true → ∃ z : Int, a (mefErrVar e) = z) :=
  ((sat_mefFlow_iff inp a).1 hsat).2.1 e he

end Read

/-- the expression minimised by stage 1 (and bounded in stage 2), evaluated -/
theorem evalTerms_mefErrorTerms (inp : MEFInput) (a : Asg) :
    evalTerms a (mefErrorTerms inp) =
      (inp.active.map fun e => inp.scale e * a (mefErrVar e)).sum
        + inp.sparsity (fun e => a (evVar e)) := by
  unfold mefErrorTerms MEFInput.sparsity MEFInput.active MEFInput.scale outSum
  simp only [evalTerms_append, evalTerms_map]
  congr 1
  split
  · rw [evalTerms_map, sum_map_mul_left]
  · rfl

theorem mefFlow_sound (inp : MEFInput) (a : Asg) (hsat : Sat a (mefFlow inp)) :
    inp.Candidate (fun e => a (evVar e)) ∧
    (∀ e ∈ inp.graph.edges, inp.ignored e = true → a (mefErrVar e) = 0) ∧
    (∀ e ∈ inp.graph.edges, inp.ignored e = false →
        qabs (inp.f e - a (evVar e)) ≤ a (mefErrVar e)) :=
  have ⟨hev, _, hcons, herr⟩ := (sat_mefFlow_iff inp a).1 hsat
  ⟨{ flow := ⟨fun e he => (hev e he).1, hcons⟩,
     bounded := fun e he => (hev e he).2.1,
     integral := fun hint e he => (hev e he).2.2 hint },
   fun e he => (herr e he).1, fun e he => (herr e he).2⟩

theorem sat_stage1_iff (inp : MEFInput) (a : Asg) : Sat a (mefStage1 inp) ↔ Sat a (mefFlow inp) :=
  Iff.rfl

theorem mef_sound (inp : MEFInput) (a : Asg) (hsat : Sat a (mefStage1 inp)) :
    inp.Candidate (fun e => a (evVar e)) ∧
    (∀ e ∈ inp.graph.edges, inp.ignored e = true → a (mefErrVar e) = 0) ∧
    (∀ e ∈ inp.graph.edges, inp.ignored e = false →
        qabs (inp.f e - a (evVar e)) ≤ a (mefErrVar e)) ∧
    evalTerms a (mefStage1 inp).obj =
      (inp.active.map fun e => inp.scale e * a (mefErrVar e)).sum
        + inp.sparsity (fun e => a (evVar e)) :=
  have ⟨h1, h2, h3⟩ := mefFlow_sound inp a hsat
  ⟨h1, h2, h3, evalTerms_mefErrorTerms inp a⟩

/-- the assignment extending an edge function `x`: `err := 0` on ignored edges, `|f − x|` on the others -/
def mefAsg (inp : MEFInput) (x : Edge → Rat) : Asg := fun v =>
  match v with
  | .uv p u w =>
      if p = "edge_vars" then x (u, w)
      else if p = "edge_error_vars" then
        (if inp.ignored (u, w) then 0 else qabs (inp.f (u, w) - x (u, w)))
      else 0
  | _ => 0

theorem mefAsg_ev (inp : MEFInput) (x : Edge → Rat) (e : Edge) : mefAsg inp x (evVar e) = x e := by
  simp [mefAsg, evVar]

theorem mefAsg_err (inp : MEFInput) (x : Edge → Rat) (e : Edge) :
    mefAsg inp x (mefErrVar e) = if inp.ignored e then 0 else qabs (inp.f e - x e) := by
  simp [mefAsg, mefErrVar]

theorem MEFInput.f_le_wmax (inp : MEFInput) (e : Edge) (he : e ∈ inp.graph.edges) :
    inp.f e ≤ inp.wmax :=
  le_listMax (List.mem_map.2 ⟨e, he, rfl⟩)

theorem mef_err_inRange (inp : MEFInput) (x : Edge → Rat) (hd : inp.DataOK) (hx : inp.Candidate x)
    (e : Edge) (he : e ∈ inp.graph.edges) :
    inp.InRange (if inp.ignored e then 0 else qabs (inp.f e - x e)) := by
  -- `0 ≤ f e ≤ w_max ≤ ub`, as the graph has an edge
  have h1 := inp.f_le_wmax e he
  have hw : 0 ≤ inp.wmax := Rat.le_trans (hd.fNonneg e he) h1
  have hlen : (1 : Rat) ≤ (inp.graph.edges.length : Rat) := by
    exact_mod_cast List.length_pos_of_mem he
  have hub : inp.wmax ≤ inp.ub := Rat.mul_one inp.wmax ▸ Rat.mul_le_mul_of_nonneg_left hlen hw
  have hfub : inp.f e ≤ inp.ub := Rat.le_trans h1 hub
  split
  · exact ⟨Rat.le_refl, Rat.le_trans hw hub, fun _ => ⟨0, rfl⟩⟩
  · rename_i hi
    refine ⟨Rat.abs_nonneg, ?_, fun hint => abs_isInt ?_⟩
    · exact abs_sub_le_of_bounds _ _ _ (hd.fNonneg e he) hfub (hx.flow.nonneg e he) (hx.bounded e he)
    · obtain ⟨zf, hzf⟩ := hd.fInt hint e (List.mem_filter.2 ⟨he, by simpa using hi⟩)
      obtain ⟨zx, hzx⟩ := hx.integral hint e he
      exact ⟨zf - zx, by rw [hzf, hzx, Rat.intCast_sub]⟩

theorem mef_sat_of_agree (inp : MEFInput) (x : Edge → Rat) (a : Asg) (hd : inp.DataOK)
    (hx : inp.Candidate x) (hev : ∀ e, a (evVar e) = x e)
    (herr : ∀ e, a (mefErrVar e) = if inp.ignored e then 0 else qabs (inp.f e - x e)) :
    Sat a (mefFlow inp) := by
  refine (sat_mefFlow_iff inp a).2 ⟨fun e he => ?_, fun e he => ?_, fun v hv hin hout => ?_,
    fun e he => ?_⟩
  · rw [hev]; exact ⟨hx.flow.nonneg e he, hx.bounded e he, fun hi => hx.integral hi e he⟩
  · rw [herr]; exact mef_err_inRange inp x hd hx e he
  · rw [funext hev]; exact hx.flow.cons v hv hin hout
  · rw [herr, hev]
    exact ⟨fun hi => if_pos hi, fun hi => by rw [hi]; exact Rat.le_refl⟩

theorem mef_obj_of_agree (inp : MEFInput) (x : Edge → Rat) (a : Asg) (hev : ∀ e, a (evVar e) = x e)
    (herr : ∀ e, a (mefErrVar e) = if inp.ignored e then 0 else qabs (inp.f e - x e)) :
    evalTerms a (mefErrorTerms inp) = inp.cost x := by
  rw [evalTerms_mefErrorTerms, funext hev]
  unfold MEFInput.cost absErr
  congr 2
  apply List.map_congr_left
  intro e he
  have hi : inp.ignored e = false := by simpa using (List.mem_filter.1 he).2
  rw [herr, hi]; rfl

theorem mef_complete (inp : MEFInput) (x : Edge → Rat) (hd : inp.DataOK) (hx : inp.Candidate x) :
    ∃ a : Asg, Sat a (mefStage1 inp) ∧ (∀ e, a (evVar e) = x e) ∧
      (∀ e, a (mefErrVar e) = if inp.ignored e then 0 else qabs (inp.f e - x e)) ∧
      evalTerms a (mefStage1 inp).obj = inp.cost x :=
  ⟨mefAsg inp x, mef_sat_of_agree inp x _ hd hx (mefAsg_ev inp x) (mefAsg_err inp x),
    mefAsg_ev inp x, mefAsg_err inp x, mef_obj_of_agree inp x _ (mefAsg_ev inp x) (mefAsg_err inp x)⟩

theorem mef_err_ge (inp : MEFInput) (a : Asg) (hsat : Sat a (mefFlow inp)) (e : Edge)
    (he : e ∈ inp.active) : qabs (inp.f e - a (evVar e)) ≤ a (mefErrVar e) :=
  have hm := List.mem_filter.1 he
  (mefFlow_sound inp a hsat).2.2 e hm.1 (by simpa using hm.2)

theorem mef_cost_le_obj (inp : MEFInput) (a : Asg) (hsc : ∀ p ∈ inp.scaling, 0 ≤ p.2)
    (hsat : Sat a (mefFlow inp)) :
    inp.cost (fun e => a (evVar e)) ≤ evalTerms a (mefErrorTerms inp) := by
  rw [evalTerms_mefErrorTerms]
  exact Rat.add_le_add_right.2 (sum_map_le fun e he =>
    Rat.mul_le_mul_of_nonneg_left (mef_err_ge inp a hsat e he) (inp.scale_nonneg hsc e))

theorem mef_opt_transfer (inp : MEFInput) (a : Asg) (hd : inp.DataOK) (hsat : Sat a (mefStage1 inp))
    (hopt : ∀ a', Sat a' (mefStage1 inp) →
      evalTerms a (mefStage1 inp).obj ≤ evalTerms a' (mefStage1 inp).obj) :
    inp.Candidate (fun e => a (evVar e)) ∧
    (∀ x', inp.Candidate x' → inp.cost (fun e => a (evVar e)) ≤ inp.cost x') ∧
    evalTerms a (mefStage1 inp).obj = inp.cost (fun e => a (evVar e)) ∧
    (∀ e ∈ inp.active, 0 < inp.scale e →
      a (mefErrVar e) = qabs (inp.f e - a (evVar e))) := by
  have hcand := (mefFlow_sound inp a hsat).1
  have ⟨heq, hmin⟩ := opt_transfer (fun a' => Sat a' (mefStage1 inp))
    (fun a' => evalTerms a' (mefStage1 inp).obj) inp.Candidate inp.cost a (fun e => a (evVar e)) hopt
    (fun x' hx' => have ⟨a', h1, _, _, h4⟩ := mef_complete inp x' hd hx'; ⟨a', h1, h4⟩) hcand
    (mef_cost_le_obj inp a hd.scaleNonneg hsat)
  -- the totals agree and `|f − x| ≤ err` termwise, so each term with positive weight is tight
  have hs : evalTerms a (mefErrorTerms inp) ≤ inp.cost (fun e => a (evVar e)) := by
    rw [show evalTerms a (mefErrorTerms inp) = _ from heq]; exact Rat.le_refl
  rw [evalTerms_mefErrorTerms] at hs
  exact ⟨hcand, hmin, heq, tight_of_sum_le inp.active inp.scale _ _
    (fun e _ => inp.scale_nonneg hd.scaleNonneg e) (mef_err_ge inp a hsat)
    (Rat.add_le_add_right.1 hs)⟩

theorem MEFInput.graph_cyclic (inp : MEFInput) (h : inp.acyclic = false) : inp.graph = inp.base := by
  simp [MEFInput.graph, h]

theorem MEFInput.graph_acyclic (inp : MEFInput) (h : inp.acyclic = true) :
    inp.graph = (augment inp.base inp.starts inp.ends).g := by
  simp [MEFInput.graph, h]

/-- the three rows tying edge `e` to value slot `i`: if `e` is mapped to the slot it carries the slot's
value, and a slot that is mapped to is marked as used -/
theorem mef_slotRows_holds (a : Asg) (e : Edge) (i : Nat) (ub : Rat) :
    (∀ r ∈ [ rowLe [(1, evVar e), (-1, afvVar i), (ub, mapVar e i)] ub,
             rowGe [(1, evVar e), (-1, afvVar i), (-ub, mapVar e i)] (-ub),
             rowGe [(1, indVar i), (-1, mapVar e i)] 0 ], r.holds a) ↔
      a (evVar e) ≤ a (afvVar i) + ub * (1 - a (mapVar e i)) ∧
      a (afvVar i) - ub * (1 - a (mapVar e i)) ≤ a (evVar e) ∧
      a (mapVar e i) ≤ a (indVar i) := by
  simp only [List.forall_mem_cons, List.not_mem_nil, rowLe_holds, rowGe_holds, evalTerms_cons,
    evalTerms_nil]
  grind

theorem sat_mefStage2_iff (inp : MEFInput) (bound : Rat) (nvals : Nat) (a : Asg) :
    Sat a (mefStage2 inp bound nvals) ↔
      Sat a (mefFlow inp) ∧
      (∀ i < nvals, inp.InRange (a (afvVar i))) ∧
      (∀ i < nvals, a (indVar i) = 0 ∨ a (indVar i) = 1) ∧
      (∀ e ∈ inp.base.edges, ∀ i < nvals, a (mapVar e i) = 0 ∨ a (mapVar e i) = 1) ∧
      (∀ e ∈ inp.base.edges, ((List.range nvals).map fun i => a (mapVar e i)).sum = 1 ∧
        ∀ i < nvals, a (evVar e) ≤ a (afvVar i) + inp.ub * (1 - a (mapVar e i)) ∧
          a (afvVar i) - inp.ub * (1 - a (mapVar e i)) ≤ a (evVar e) ∧
          a (mapVar e i) ≤ a (indVar i)) ∧
      evalTerms a (mefErrorTerms inp) ≤ bound := by
  rw [mefStage2, sat_append_iff]
  refine and_congr Iff.rfl ?_
  simp only [Sat, List.forall_mem_append, List.forall_mem_map, List.forall_mem_flatMap,
    List.forall_mem_singleton, List.mem_range, col01_holds_iff, rowEq_holds, rowLe_holds,
    mef_slotRows_holds, evalTerms_map, Rat.one_mul, and_assoc]
  simp only [col_holds_iff, MEFInput.InRange]

theorem mef_eps (inp : MEFInput) (bound : Rat) (nvals : Nat) (a : Asg)
    (hsc : ∀ p ∈ inp.scaling, 0 ≤ p.2) (hsat : Sat a (mefStage2 inp bound nvals)) :
    inp.Candidate (fun e => a (evVar e)) ∧
    evalTerms a (mefStage1 inp).obj ≤ bound ∧
    inp.cost (fun e => a (evVar e)) ≤ bound :=
  have ⟨hflow, _, _, _, _, hb⟩ := (sat_mefStage2_iff inp bound nvals a).1 hsat
  ⟨(mefFlow_sound inp a hflow).1, hb, Rat.le_trans (mef_cost_le_obj inp a hsc hflow) hb⟩

/-- index of the first slot holding the value `q` -/
def pickSlot (nvals : Nat) (vals : Nat → Rat) (q : Rat) : Nat :=
  ((List.range nvals).find? (fun i => vals i == q)).getD 0

theorem pickSlot_spec (nvals : Nat) (vals : Nat → Rat) (q : Rat)
    (h : ∃ i, i < nvals ∧ q = vals i) :
    pickSlot nvals vals q < nvals ∧ vals (pickSlot nvals vals q) = q := by
  unfold pickSlot
  cases hf : (List.range nvals).find? (fun i => vals i == q) with
  | none =>
    obtain ⟨i, hi, hq⟩ := h
    have := List.find?_eq_none.1 hf i (List.mem_range.2 hi)
    simp [hq] at this
  | some j =>
    have h1 := List.mem_of_find?_eq_some hf
    have h2 := List.find?_some hf
    exact ⟨List.mem_range.1 h1, by simpa using h2⟩

/-- stage-2 assignment: slot `i` holds `vals i`, every indicator is 1, edge `e` is mapped to the first
slot holding its value; edge and error variables as in `mefAsg` -/
def mefAsg2 (inp : MEFInput) (x : Edge → Rat) (nvals : Nat) (vals : Nat → Rat) : Asg := fun v =>
  match v with
  | .ix p i =>
      if p = "all_flow_values_vars" then vals i
      else if p = "all_flow_values_used_indicator_vars" then 1 else 0
  | .uvi p u w i =>
      if p = "flow_values_map_vars" then (if pickSlot nvals vals (x (u, w)) = i then 1 else 0) else 0
  | v => mefAsg inp x v

section Asg2
variable (inp : MEFInput) (x : Edge → Rat) (nvals : Nat) (vals : Nat → Rat)

theorem mefAsg2_afv (i : Nat) : mefAsg2 inp x nvals vals (afvVar i) = vals i := by
  simp [mefAsg2, afvVar]

theorem mefAsg2_ind (i : Nat) : mefAsg2 inp x nvals vals (indVar i) = 1 := by
  simp [mefAsg2, indVar]

theorem mefAsg2_map (e : Edge) (i : Nat) :
    mefAsg2 inp x nvals vals (mapVar e i) = if pickSlot nvals vals (x e) = i then 1 else 0 := by
  simp [mefAsg2, mapVar]

end Asg2

theorem MEFInput.base_sub_graph (inp : MEFInput)
    (hcl : ∀ e ∈ inp.base.edges, e.1 ∈ inp.base.nodes ∧ e.2 ∈ inp.base.nodes) :
    ∀ e ∈ inp.base.edges, e ∈ inp.graph.edges := by
  intro e he
  cases hac : inp.acyclic with
  | false => rw [inp.graph_cyclic hac]; exact he
  | true => rw [inp.graph_acyclic hac]; exact aug_edge_of_base he (hcl e he).1

/-- the rows tying an edge to a slot hold with `m = 1` if the slot holds the edge's value, and with
`m = 0` whatever the slot holds (both lie in `[0, ub]`) -/
theorem mef_slot_ok (xe v ub m : Rat)
    (h : m = 1 ∧ v = xe ∨ m = 0 ∧ 0 ≤ xe ∧ xe ≤ ub ∧ 0 ≤ v ∧ v ≤ ub) :
    xe ≤ v + ub * (1 - m) ∧ v - ub * (1 - m) ≤ xe ∧ m ≤ 1 := by
  rcases h with ⟨rfl, rfl⟩ | ⟨rfl, h⟩
  · grind
  · grind

theorem mef_stage2_complete (inp : MEFInput) (bound : Rat) (nvals : Nat) (x : Edge → Rat)
    (vals : Nat → Rat) (hd : inp.DataOK) (hx : inp.Candidate x) (hcost : inp.cost x ≤ bound)
    (hcl : ∀ e ∈ inp.base.edges, e.1 ∈ inp.base.nodes ∧ e.2 ∈ inp.base.nodes)
    (hvals : ∀ i, i < nvals → 0 ≤ vals i ∧ vals i ≤ inp.ub ∧
      (inp.weightInt = true → ∃ z : Int, vals i = z))
    (hcover : ∀ e ∈ inp.base.edges, ∃ i, i < nvals ∧ x e = vals i) :
    ∃ a : Asg, Sat a (mefStage2 inp bound nvals) ∧ ∀ e, a (evVar e) = x e := by
  have hev : ∀ e, mefAsg2 inp x nvals vals (evVar e) = x e := mefAsg_ev inp x
  have herr : ∀ e, mefAsg2 inp x nvals vals (mefErrVar e) = _ := mefAsg_err inp x
  refine ⟨_, (sat_mefStage2_iff inp bound nvals _).2
    ⟨mef_sat_of_agree inp x _ hd hx hev herr, fun i hi => ?_, fun i _ => Or.inr (mefAsg2_ind ..),
      fun e _ i _ => ?_, fun e he => ?_, ?_⟩, hev⟩
  · rw [mefAsg2_afv]; exact hvals i hi
  · rw [mefAsg2_map]; split
    · exact Or.inr rfl
    · exact Or.inl rfl
  · obtain ⟨hplt, hpv⟩ := pickSlot_spec nvals vals (x e) (hcover e he)
    have heg := inp.base_sub_graph hcl e he
    simp only [mefAsg2_map, hev, mefAsg2_afv, mefAsg2_ind]
    refine ⟨by rw [sum_ite_eq_range, if_pos hplt], fun i hi => mef_slot_ok _ _ _ _ ?_⟩
    split
    · rename_i hp; exact Or.inl ⟨rfl, hp ▸ hpv⟩
    · exact Or.inr ⟨rfl, hx.flow.nonneg e heg, hx.bounded e heg, (hvals i hi).1, (hvals i hi).2.1⟩
  · rw [mef_obj_of_agree inp x _ hev herr]; exact hcost

/-- the user-level reading for acyclic input: on the s-t augmentation every base node is conserved
once the two synthetic edges are counted; hence on the user's own edges: equality at every node with
in- and out-edges that is neither an additional start nor an additional end, `in ≤ out` wherever the
node is not an (implicit or declared) end, `out ≤ in` wherever it is not an (implicit or declared) start. -/
theorem mef_user_acyclic (inp : MEFInput) (x : Edge → Rat) (hwf : BaseWF inp.base)
    (hac : inp.acyclic = true) (hx : IsFlow inp.graph x) :
    (∀ e ∈ inp.base.edges, 0 ≤ x e) ∧
    (∀ v ∈ inp.base.nodes,
      inSum inp.base x v + (if isStart inp.base inp.starts v then x (srcName, v) else 0)
        = outSum inp.base x v + (if isEnd inp.base inp.ends v then x (v, snkName) else 0)) ∧
    (∀ v ∈ inp.base.nodes, inp.base.inEdges v ≠ [] → inp.base.outEdges v ≠ [] →
      v ∉ inp.starts → v ∉ inp.ends → inSum inp.base x v = outSum inp.base x v) ∧
    (∀ v ∈ inp.base.nodes, inp.base.outEdges v ≠ [] → v ∉ inp.ends →
      inSum inp.base x v ≤ outSum inp.base x v) ∧
    (∀ v ∈ inp.base.nodes, inp.base.inEdges v ≠ [] → v ∉ inp.starts →
      outSum inp.base x v ≤ inSum inp.base x v) := by
  rw [inp.graph_acyclic hac] at hx
  have hmain := aug_balance hwf x hx
  refine ⟨fun e he => hx.nonneg e ((aug_mem_edges hwf).2 (Or.inl he)), hmain, ?_, ?_, ?_⟩
  · intro v hv hin hout hs he
    have := hmain v hv
    rw [isStart_eq_false_iff.2 ⟨hin, hs⟩, isEnd_eq_false_iff.2 ⟨hout, he⟩] at this
    simpa only [Bool.false_eq_true, if_false, Rat.add_zero] using this
  · intro v hv hout he
    have := hmain v hv
    rw [isEnd_eq_false_iff.2 ⟨hout, he⟩, if_neg Bool.false_ne_true, Rat.add_zero] at this
    exact this ▸ le_add_of_nonneg _ (aug_synth_nonneg hwf x hx v hv).1
  · intro v hv hin hs
    have := hmain v hv
    rw [isStart_eq_false_iff.2 ⟨hin, hs⟩, if_neg Bool.false_ne_true, Rat.add_zero] at this
    exact this ▸ le_add_of_nonneg _ (aug_synth_nonneg hwf x hx v hv).2

/-- the user-level reading for input with cycles: the model graph is the input graph itself;
`additional_starts` / `additional_ends` play no role (they are dropped by the constructor). -/
theorem mef_user_cyclic (inp : MEFInput) (x : Edge → Rat) (hac : inp.acyclic = false)
    (hx : IsFlow inp.graph x) : IsFlow inp.base x := by
  rw [inp.graph_cyclic hac] at hx; exact hx

end FP
