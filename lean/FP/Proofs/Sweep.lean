import FP.Proofs.ReachLemmas
/-!
The two dictionary-filling loop shapes compute reachability closures.

`has a x` reads "`x` is below / in the value `a`": membership for set-valued tables, `x ≤ a` for
running maxima. If `comb` joins its two arguments with respect to `has`, then sweeping in an order
in which every out-neighbour is handled earlier (`pullSweep`) resp. every in-neighbour is handled
earlier (`pushSweep`) yields the join over everything reachable. In the pull sweep `comb c s` may
also add `Ex c s`, the contribution of the edge `(c, s)` itself; the tables over edges need it.
-/
namespace FP
open FP.Spec

section
variable {κ α β : Type}

/-- `order` lists every endpoint of `es`, once; no edge of `es` points from a later to an earlier
(or the same) element -/
structure IsTopo (es : List (κ × κ)) (order : List κ) : Prop where
  nodup : order.Nodup
  cover : ∀ e ∈ es, e.1 ∈ order ∧ e.2 ∈ order
  noloop : ∀ a, (a, a) ∉ es
  fwd : order.Pairwise (fun a b => (b, a) ∉ es)

namespace IsTopo

/-- What a topological order says about one of its elements: it is new, all its in-neighbours come
before it, none of its out-neighbours does. -/
theorem split {es : List (κ × κ)} {pre post : List κ} {c : κ} (h : IsTopo es (pre ++ c :: post)) :
    c ∉ pre ∧ (∀ u, (u, c) ∈ es → u ∈ pre) ∧ (∀ v ∈ pre, (c, v) ∉ es) := by
  obtain ⟨-, hpost, hcross⟩ := List.pairwise_append.1 h.fwd
  refine ⟨fun hc => (List.nodup_append.1 h.nodup).2.2 c hc c (by simp) rfl, fun u hu => ?_,
    fun v hv => hcross v hv c (by simp)⟩
  have hm : u ∈ pre ++ c :: post := (h.cover _ hu).1
  rcases List.mem_append.1 hm with hp | hp
  · exact hp
  · rcases List.mem_cons.1 hp with rfl | hp
    · exact absurd hu (h.noloop _)
    · exact absurd hu ((List.pairwise_cons.1 hpost).1 u hp)

theorem reverse {es : List (κ × κ)} {order : List κ} (h : IsTopo es order) :
    IsTopo (swapEdges es) order.reverse where
  nodup := List.pairwise_reverse.2 (h.nodup.imp Ne.symm)
  cover e he :=
    have hc := h.cover (e.2, e.1) (mem_swapEdges.1 he)
    ⟨List.mem_reverse.2 hc.2, List.mem_reverse.2 hc.1⟩
  noloop a ha := h.noloop a (mem_swapEdges.1 ha)
  fwd := List.pairwise_reverse.2 (h.fwd.imp fun hab hm => hab (mem_swapEdges.1 hm))

end IsTopo

theorem topo_rank [DecidableEq κ] {es : List (κ × κ)} {topo : List κ} (h : IsTopo es topo) :
    ∀ e ∈ es, topo.idxOf e.1 < topo.idxOf e.2 := by
  intro e he
  obtain ⟨pre, post, rfl⟩ := List.append_of_mem (h.cover e he).2
  obtain ⟨hnew, hin, -⟩ := h.split
  have h1 : e.1 ∈ pre := hin e.1 he
  rw [List.idxOf_append, List.idxOf_append, if_pos h1, if_neg hnew, List.idxOf_cons_self, Nat.zero_add]
  exact List.idxOf_lt_length_of_mem h1

/-- Induction along a topological order for a left fold over it: the step for `c` may assume that
exactly the in-neighbours of `c` (and no out-neighbour) have been handled. -/
theorem foldl_topo_induction {σ : Type} {es : List (κ × κ)} {order : List κ} (h : IsTopo es order)
    (step : σ → κ → σ) (P : List κ → σ → Prop) (s0 : σ) (h0 : P [] s0)
    (hstep : ∀ pre c s, c ∉ pre → (∀ u, (u, c) ∈ es → u ∈ pre) →
      (∀ v ∈ pre, (c, v) ∉ es) → P pre s → P (pre ++ [c]) (step s c)) :
    P order (order.foldl step s0) := by
  suffices H : ∀ post pre s, order = pre ++ post → P pre s → P order (post.foldl step s) from H order [] s0 rfl h0
  intro post
  induction post with
  | nil => intro pre s ho hP; simpa [ho] using hP
  | cons c post ih =>
    intro pre s ho hP
    obtain ⟨h1, h2, h3⟩ := (ho ▸ h).split
    exact ih (pre ++ [c]) (step s c) (by simp [ho]) (hstep pre c s h1 h2 h3 hP)

/-- what a pull sweep leaves at `c`: `x` is below the start value of some `w` reachable from `c`, or is contributed by an edge out of such a `w` -/
def PullSpec (es : List (κ × κ)) (has : α → β → Prop) (Ex : κ → κ → β → Prop) (t0 : κ → α) (c : κ) (x : β) : Prop :=
  ∃ w, Reach es c w ∧ (has (t0 w) x ∨ ∃ s, (w, s) ∈ es ∧ Ex w s x)

theorem pullSpec_unfold (es : List (κ × κ)) (has : α → β → Prop) (Ex : κ → κ → β → Prop) (t0 : κ → α) (c : κ) (x : β) :
    PullSpec es has Ex t0 c x ↔
      has (t0 c) x ∨ ∃ s, (c, s) ∈ es ∧ (PullSpec es has Ex t0 s x ∨ Ex c s x) := by
  constructor
  · rintro ⟨w, hr, hw⟩
    rcases reach_head_cases hr with rfl | ⟨y, hy, hr'⟩
    · rcases hw with h | ⟨s, hs, h⟩
      · exact Or.inl h
      · exact Or.inr ⟨s, hs, Or.inr h⟩
    · exact Or.inr ⟨y, hy, Or.inl ⟨w, hr', hw⟩⟩
  · rintro (h | ⟨s, hs, h | h⟩)
    · exact ⟨c, Reach.refl c, Or.inl h⟩
    · obtain ⟨w, hr, hw⟩ := h
      exact ⟨w, Reach.head hs hr, hw⟩
    · exact ⟨c, Reach.refl c, Or.inr ⟨s, hs, h⟩⟩

/-- what a push sweep leaves at `v`: `x` is below the start value of some `w` that reaches `v` -/
def PushSpec (es : List (κ × κ)) (has : α → β → Prop) (t0 : κ → α) (v : κ) (x : β) : Prop :=
  ∃ w, Reach es w v ∧ has (t0 w) x

theorem pushSpec_unfold (es : List (κ × κ)) (has : α → β → Prop) (t0 : κ → α) (v : κ) (x : β) :
    PushSpec es has t0 v x ↔ has (t0 v) x ∨ ∃ p, (p, v) ∈ es ∧ PushSpec es has t0 p x := by
  constructor
  · rintro ⟨w, hr, hw⟩
    rcases reach_tail_cases hr with rfl | ⟨y, hr', hy⟩
    · exact Or.inl hw
    · exact Or.inr ⟨y, hy, w, hr', hw⟩
  · rintro (h | ⟨p, hp, w, hr, hw⟩)
    · exact ⟨v, Reach.refl v, h⟩
    · exact ⟨w, Reach.step hr hp, hw⟩

/-- A fold in which every step joins `P s` into the observed part `val` of the state, under an invariant `I` the
steps keep, ends with the join over the whole list. Both sweeps' inner loops are instances. -/
theorem foldl_join {σ : Type} (has : α → β → Prop) (val : σ → α) (step : σ → κ → σ) (I : σ → Prop)
    (P : κ → β → Prop) (l : List κ)
    (hstep : ∀ t, I t → ∀ s ∈ l, I (step t s) ∧ ∀ x, has (val (step t s)) x ↔ has (val t) x ∨ P s x) :
    ∀ t, I t → I (l.foldl step t) ∧ ∀ x, has (val (l.foldl step t)) x ↔ has (val t) x ∨ ∃ s ∈ l, P s x := by
  induction l with
  | nil => exact fun t ht => ⟨ht, fun x => ⟨Or.inl, fun h => h.elim id fun ⟨_, hs, _⟩ => nomatch hs⟩⟩
  | cons s l ih =>
    intro t ht
    obtain ⟨h1, h2⟩ := hstep t ht s List.mem_cons_self
    obtain ⟨h3, h4⟩ := ih (fun t ht s hs => hstep t ht s (List.mem_cons_of_mem _ hs)) _ h1
    refine ⟨h3, fun x => ?_⟩
    rw [List.foldl_cons, h4, h2, or_assoc]
    simp only [List.mem_cons, or_and_right, exists_or, exists_eq_left]

variable [DecidableEq κ]

/-- If `order` is a topological order of the reversed edges (every out-neighbour
comes earlier), the swept table holds at every `c ∈ order` exactly the join over all `w` reachable
from `c`. -/
theorem pullSweep_correct (es : List (κ × κ)) (has : α → β → Prop) (comb : κ → κ → α → α → α) (Ex : κ → κ → β → Prop)
    (hcomb : ∀ c s a b x, has (comb c s a b) x ↔ has a x ∨ has b x ∨ Ex c s x) (t0 : κ → α) (order : List κ)
    (h : IsTopo (swapEdges es) order) :
    (∀ c ∈ order, ∀ x, has ((pullSweep es comb order t0).get c) x ↔ PullSpec es has Ex t0 c x) ∧
    (∀ c, c ∉ order → (pullSweep es comb order t0).get c = t0 c) := by
  unfold pullSweep
  refine foldl_topo_induction h _
    (fun pre (t : Tbl κ α) => (∀ c ∈ pre, ∀ x, has (t.get c) x ↔ PullSpec es has Ex t0 c x) ∧ ∀ c, c ∉ pre → t.get c = t0 c)
    ⟨t0⟩ ⟨fun _ hc => (nomatch hc), fun _ _ => rfl⟩ ?_
  rintro pre c t hcpre hpred - ⟨h1, h2⟩
  have hsucc : ∀ s, (c, s) ∈ es → s ∈ pre := fun s hs => hpred s (mem_swapEdges.2 hs)
  have hcl : c ∉ succOf es c := fun hc => h.noloop c (mem_swapEdges.2 (mem_succOf.1 hc))
  -- the inner loop writes only the cell of `c`, so every `t.get s` it reads is the value before the loop
  obtain ⟨i1, i2⟩ := foldl_join has (fun t' => t'.get c) (fun t s => t.set c (comb c s (t.get c) (t.get s)))
    (fun t' => ∀ k, k ≠ c → t'.get k = t.get k) (fun s x => has (t.get s) x ∨ Ex c s x) (succOf es c)
    (fun t' ht' s hs => ⟨fun k hk => (if_neg hk).trans (ht' k hk),
      fun x => by rw [Tbl.get_set, if_pos rfl, hcomb, ht' s fun h => hcl (h ▸ hs)]⟩) t fun _ _ => rfl
  constructor
  · intro k hk x
    rcases List.mem_append.1 hk with hk | hk
    · rw [i1 k fun hkc => hcpre (hkc ▸ hk)]; exact h1 k hk x
    · obtain rfl := List.mem_singleton.1 hk
      rw [i2 x, pullSpec_unfold, h2 k hcpre]
      refine or_congr Iff.rfl (exists_congr fun s => ?_)
      rw [mem_succOf]
      exact and_congr_right fun hs => or_congr (h1 s (hsucc s hs) x) Iff.rfl
  · intro k hk
    rw [List.mem_append, List.mem_singleton, not_or] at hk
    rw [i1 k hk.2]; exact h2 k hk.1

/-- In a topological order the pushed table holds at every `v` exactly the join
over all `w` from which `v` is reachable. -/
theorem pushSweep_correct (es : List (κ × κ)) (has : α → β → Prop) (comb : κ → κ → α → α → α)
    (hcomb : ∀ c s a b x, has (comb c s a b) x ↔ has a x ∨ has b x) (t0 : κ → α) (order : List κ)
    (h : IsTopo es order) :
    ∀ v x, has ((pushSweep es comb order t0).get v) x ↔ PushSpec es has t0 v x := by
  -- after the prefix `pre`, a table entry has received the final values of its in-neighbours in `pre`
  have key : ∀ v x, has ((pushSweep es comb order t0).get v) x ↔
      has (t0 v) x ∨ ∃ p ∈ order, (p, v) ∈ es ∧ PushSpec es has t0 p x := by
    unfold pushSweep
    refine foldl_topo_induction h _
      (fun pre (t : Tbl κ α) => ∀ v x, has (t.get v) x ↔ has (t0 v) x ∨ ∃ p ∈ pre, (p, v) ∈ es ∧ PushSpec es has t0 p x)
      ⟨t0⟩ (fun v x => ⟨Or.inl, fun hx => hx.elim id fun ⟨_, hp, _⟩ => nomatch hp⟩) ?_
    intro pre c t _ hpred _ h1 v x
    have hcl : c ∉ succOf es c := fun hc => h.noloop c (mem_succOf.1 hc)
    have hcspec : has (t.get c) x ↔ PushSpec es has t0 c x := by
      rw [h1 c x, pushSpec_unfold]
      exact or_congr Iff.rfl (exists_congr fun p => ⟨fun hp => hp.2, fun hp => ⟨hpred p hp.1, hp⟩⟩)
    -- the inner loop never writes the cell of `c`, and joins it into the cell of `v` at every occurrence of `v`
    have inner := foldl_join has (fun t' => t'.get v) (fun t s => t.set s (comb c s (t.get c) (t.get s)))
      (fun t' => t'.get c = t.get c) (fun s x => v = s ∧ has (t.get c) x) (succOf es c) (by
        intro t' ht' s hs
        refine ⟨(if_neg fun h : c = s => hcl (h ▸ hs)).trans ht', fun x => ?_⟩
        rw [Tbl.get_set]
        by_cases hv : v = s
        · rw [if_pos hv, hcomb, ht', hv, or_comm, eq_self, true_and]
        · rw [if_neg hv]
          exact ⟨Or.inl, fun h => h.elim id fun h' => absurd h'.1 hv⟩) t rfl
    rw [inner.2 x, h1 v x, hcspec]
    constructor
    · rintro ((hx | ⟨p, hp, hpe, hx⟩) | ⟨_, hv, rfl, hx⟩)
      · exact Or.inl hx
      · exact Or.inr ⟨p, List.mem_append_left _ hp, hpe, hx⟩
      · exact Or.inr ⟨c, List.mem_append_right _ (List.mem_singleton.2 rfl), mem_succOf.1 hv, hx⟩
    · rintro (hx | ⟨p, hp, hpe, hx⟩)
      · exact Or.inl (Or.inl hx)
      · rcases List.mem_append.1 hp with hp | hp
        · exact Or.inl (Or.inr ⟨p, hp, hpe, hx⟩)
        · obtain rfl := List.mem_singleton.1 hp
          exact Or.inr ⟨v, mem_succOf.2 hpe, rfl, hx⟩
  intro v x
  rw [key, pushSpec_unfold]
  exact or_congr Iff.rfl (exists_congr fun p => ⟨fun hp => hp.2, fun hp => ⟨(h.cover _ hp.1).1, hp⟩⟩)

end

theorem checkTopo_sound {κ} [DecidableEq κ] (nodes : List κ) (es : List (κ × κ)) (order : List κ)
    (h : checkTopo nodes es order = true) : IsTopo es order := by
  unfold checkTopo at h
  simp only [Bool.and_eq_true, decide_eq_true_eq, List.all_eq_true] at h
  obtain ⟨⟨⟨⟨h1, _⟩, _⟩, h4⟩, h5⟩ := h
  refine ⟨h1, ?_, ?_, ?_⟩
  · intro e he
    have := h4 e he
    simp only [List.contains_iff_mem] at this
    exact ⟨this.1.2, this.2⟩
  · intro a ha
    have := h4 (a, a) ha
    simp at this
  · exact h5.imp (fun hab hm => hab (by simpa using hm))

end FP
