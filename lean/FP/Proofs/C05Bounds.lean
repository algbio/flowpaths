import FP.Proofs.WalkCoreEnc
import FP.Proofs.C05Frag
/-!
# FP.Proofs.C05Bounds — the bound variant of the safety fragment admits what the row variant admits

`applyBounds` models the flushed batch update (`queue_fix_variable` → `LB = UB = value`,
`queue_set_var_lower_bound` → `LB = value`; the last request for a variable wins). For a fragment whose
requests are functional in the variable, address edge columns, stay inside the original bounds and never fix
and bound the same variable (`BoundsOK`), a flushed request says on its column what its row says. Every fragment of
the shape `safetyExtra` builds is of that kind (`FragShape.boundsOK`).
-/
namespace FP

theorem lowerBound_row_equiv (a : Asg) (c : Col) (m : Rat) (hm : c.lb ≤ m) :
    ({ c with lb := m } : Col).holds a ↔ (c.holds a ∧ (rowGe [(1, c.v)] m).holds a) := by
  rw [rowGe_single_holds]
  exact ⟨fun ⟨h1, h2⟩ => ⟨⟨Rat.le_trans hm h1, h2⟩, h1⟩, fun ⟨⟨_, h2⟩, h1⟩ => ⟨h1, h2⟩⟩

theorem fix_row_equiv (a : Asg) (c : Col) (v : Rat) (hl : c.lb ≤ v) (hu : ∀ u, c.ub = some u → v ≤ u) :
    ({ c with lb := v, ub := some v } : Col).holds a ↔ (c.holds a ∧ (rowEq [(1, c.v)] v).holds a) := by
  rw [rowEq_single_holds]
  constructor
  · rintro ⟨h1, h2, h3⟩
    have he : a c.v = v := Rat.le_antisymm (h2 v rfl) h1
    exact ⟨⟨by rw [he]; exact hl, fun u h => by rw [he]; exact hu u h, h3⟩, he⟩
  · rintro ⟨⟨_, _, h3⟩, he⟩
    exact ⟨by rw [he]; exact Rat.le_refl, fun u h => by cases h; rw [he]; exact Rat.le_refl, h3⟩

theorem lookupLast_cases (l : List (Var × Rat)) (v : Var) :
    (∃ q, lookupLast l v = some q ∧ (v, q) ∈ l) ∨ (lookupLast l v = none ∧ ∀ q, (v, q) ∉ l) := by
  unfold lookupLast
  suffices ∀ acc : Option Rat,
      (∃ q, l.foldl (fun acc p => if p.1 = v then some p.2 else acc) acc = some q ∧ (v, q) ∈ l) ∨
      (l.foldl (fun acc p => if p.1 = v then some p.2 else acc) acc = acc ∧ ∀ q, (v, q) ∉ l) from this none
  induction l with
  | nil => exact fun acc => Or.inr ⟨rfl, fun _ h => nomatch h⟩
  | cons p l ih =>
    intro acc
    rw [List.foldl_cons]
    rcases ih (if p.1 = v then some p.2 else acc) with ⟨q, h, hm⟩ | ⟨h, hno⟩
    · exact Or.inl ⟨q, h, List.mem_cons_of_mem _ hm⟩
    · by_cases hp : p.1 = v
      · rw [if_pos hp] at h
        exact Or.inl ⟨p.2, by rw [if_pos hp]; exact h, by rw [← hp]; exact List.mem_cons_self ..⟩
      · rw [if_neg hp] at h ⊢
        refine Or.inr ⟨h, fun q hq => ?_⟩
        rcases List.mem_cons.1 hq with h1 | h1
        · exact hp (by rw [← h1])
        · exact hno q h1

theorem lookupLast_none (l : List (Var × Rat)) (v : Var) (h : ∀ q, (v, q) ∉ l) : lookupLast l v = none :=
  ((lookupLast_cases l v).resolve_left fun ⟨q, _, hm⟩ => h q hm).1

theorem applyBounds_holds_iff (fr : SafetyFrag) (a : Asg) (col : Col)
    (hfunL : ∀ q q', (col.v, q) ∈ fr.lower → (col.v, q') ∈ fr.lower → q = q')
    (hfunF : ∀ q q', (col.v, q) ∈ fr.fixed → (col.v, q') ∈ fr.fixed → q = q')
    (hdisj : ∀ q q', (col.v, q) ∈ fr.lower → (col.v, q') ∈ fr.fixed → False)
    (hlb : ∀ q, (col.v, q) ∈ fr.lower → col.lb ≤ q)
    (hfx : ∀ q, (col.v, q) ∈ fr.fixed → col.lb ≤ q ∧ ∀ u, col.ub = some u → q ≤ u) :
    (applyBounds fr col).holds a ↔
      col.holds a ∧ (∀ q, (col.v, q) ∈ fr.lower → q ≤ a col.v) ∧ (∀ q, (col.v, q) ∈ fr.fixed → a col.v = q) := by
  unfold applyBounds
  rcases lookupLast_cases fr.fixed col.v with ⟨qf, hF, hmem⟩ | ⟨hF, hnoF⟩
  · have hnoL : ∀ q, (col.v, q) ∉ fr.lower := fun q hq => hdisj q qf hq hmem
    rw [hF, lookupLast_none _ _ hnoL]
    simp only
    rw [fix_row_equiv a col qf (hfx qf hmem).1 (hfx qf hmem).2, rowEq_single_holds]
    constructor
    · rintro ⟨h1, h2⟩
      exact ⟨h1, fun q hq => absurd hq (hnoL q), fun q hq => by rw [hfunF q qf hq hmem]; exact h2⟩
    · rintro ⟨h1, _, h3⟩
      exact ⟨h1, h3 qf hmem⟩
  · rcases lookupLast_cases fr.lower col.v with ⟨ql, hL, hmem⟩ | ⟨hL, hnoL⟩
    · rw [hF, hL]
      simp only
      rw [lowerBound_row_equiv a col ql (hlb ql hmem), rowGe_single_holds]
      constructor
      · rintro ⟨h1, h2⟩
        exact ⟨h1, fun q hq => by rw [hfunL q ql hq hmem]; exact h2, fun q hq => absurd hq (hnoF q)⟩
      · rintro ⟨h1, h2, _⟩
        exact ⟨h1, h2 ql hmem⟩
    · rw [hF, hL]
      exact ⟨fun h => ⟨h, fun q hq => absurd hq (hnoL q), fun q hq => absurd hq (hnoF q)⟩, fun h => h.1⟩

structure BoundsOK (s : STGraph) (k : Nat) (ub : Edge → Rat) (fr : SafetyFrag) : Prop where
  lowerKey : ∀ v q, (v, q) ∈ fr.lower → ∃ e i, e ∈ s.g.edges ∧ i < k ∧ v = edgeVar e i ∧ 0 ≤ q
  fixedKey : ∀ v q, (v, q) ∈ fr.fixed → ∃ e i, e ∈ s.g.edges ∧ i < k ∧ v = edgeVar e i ∧ 0 ≤ q ∧ q ≤ ub e
  lowerFun : ∀ v q q', (v, q) ∈ fr.lower → (v, q') ∈ fr.lower → q = q'
  fixedFun : ∀ v q q', (v, q) ∈ fr.fixed → (v, q') ∈ fr.fixed → q = q'
  disjoint : ∀ v q q', (v, q) ∈ fr.lower → (v, q') ∈ fr.fixed → False

theorem edgeVar_inj {e e' : Edge} {i j : Nat} (h : edgeVar e i = edgeVar e' j) : e = e' ∧ i = j := by
  unfold edgeVar at h
  injection h with _ h1 h2 h3
  exact ⟨Prod.ext h1 h2, h3⟩

section Whole
variable (s : STGraph) (c : WalkCfg) (ub : Edge → Rat)

theorem encodeWalks_edgeCol_mem {e : Edge} (he : e ∈ s.g.edges) {i : Nat} (hi : i < c.k) :
    ({ v := edgeVar e i, lb := 0, ub := some (ub e), isInt := true } : Col) ∈ (encodeWalks s c ub).cols := by
  refine (mem_encodeWalks_cols s c ub _).2 ⟨i, hi, ?_⟩
  simp only [encCols, List.mem_append, List.mem_map]
  exact Or.inl (Or.inl ⟨e, he, rfl⟩)

theorem encodeWalks_edgeCol_eq {col : Col} (hcol : col ∈ (encodeWalks s c ub).cols) {e : Edge} {i : Nat}
    (hv : col.v = edgeVar e i) : col = { v := edgeVar e i, lb := 0, ub := some (ub e), isInt := true } := by
  obtain ⟨i', _, hc⟩ := (mem_encodeWalks_cols s c ub col).1 hcol
  simp only [encCols, List.mem_append, List.mem_map] at hc
  rcases hc with (⟨e', _, rfl⟩ | ⟨v, _, rfl⟩) | ⟨e', _, rfl⟩
  · obtain ⟨rfl, rfl⟩ := edgeVar_inj hv
    rfl
  · simp [edgeVar, distVar] at hv
  · simp [edgeVar, selVar] at hv

/-- `_encode_walks` with the flushed bound changes and the extra rows -/
def encS (fr : SafetyFrag) : LP :=
  { encodeWalks s c ub with
    cols := (encodeWalks s c ub).cols.map (applyBounds fr),
    rows := (encodeWalks s c ub).rows ++ fr.rows }

theorem sat_encS_iff (fr : SafetyFrag) (hok : BoundsOK s c.k ub fr) (a : Asg) :
    Sat a (encS s c ub fr) ↔ Sat a (encodeWalks s c ub) ∧ ∀ r ∈ fr.asRows, r.holds a := by
  -- every column after the update says what it said before and what the rows of its requests say: the
  -- requests address edge columns, whose bounds are `0` and `ub e`
  have hcol : ∀ col ∈ (encodeWalks s c ub).cols, ((applyBounds fr col).holds a ↔ col.holds a ∧
      (∀ q, (col.v, q) ∈ fr.lower → q ≤ a col.v) ∧ (∀ q, (col.v, q) ∈ fr.fixed → a col.v = q)) := by
    intro col hcol
    apply applyBounds_holds_iff fr a col (hok.lowerFun _) (hok.fixedFun _) (hok.disjoint _)
    · intro q hq
      obtain ⟨e, i, _, _, hv, h0⟩ := hok.lowerKey _ q hq
      rw [encodeWalks_edgeCol_eq s c ub hcol hv]
      exact h0
    · intro q hq
      obtain ⟨e, i, _, _, hv, h0, h1⟩ := hok.fixedKey _ q hq
      rw [encodeWalks_edgeCol_eq s c ub hcol hv]
      exact ⟨h0, fun u hu => by cases hu; exact h1⟩
  constructor
  · rintro ⟨hc, hr⟩
    replace hc : ∀ col ∈ (encodeWalks s c ub).cols, (applyBounds fr col).holds a :=
      fun col h => hc _ (List.mem_map_of_mem h)
    replace hr : ∀ r ∈ (encodeWalks s c ub).rows ++ fr.rows, r.holds a := hr
    refine ⟨⟨fun col h => ((hcol col h).1 (hc col h)).1, fun r h => hr r (List.mem_append_left _ h)⟩,
      fun r h => ?_⟩
    rcases (mem_asRows fr r).1 h with h1 | ⟨p, hp, rfl⟩ | ⟨p, hp, rfl⟩
    · exact hr r (List.mem_append_right _ h1)
    · obtain ⟨e, i, he, hi, hv, _⟩ := hok.lowerKey p.1 p.2 hp
      have hm := encodeWalks_edgeCol_mem s c ub he hi
      rw [rowGe_single_holds, hv]
      exact ((hcol _ hm).1 (hc _ hm)).2.1 p.2 (by rw [← hv]; exact hp)
    · obtain ⟨e, i, he, hi, hv, _⟩ := hok.fixedKey p.1 p.2 hp
      have hm := encodeWalks_edgeCol_mem s c ub he hi
      rw [rowEq_single_holds, hv]
      exact ((hcol _ hm).1 (hc _ hm)).2.2 p.2 (by rw [← hv]; exact hp)
  · rintro ⟨⟨hc, hr⟩, hrows⟩
    refine ⟨fun col' h' => ?_, fun r h => ?_⟩
    · obtain ⟨col, hm, rfl⟩ := List.mem_map.1 (show col' ∈ (encodeWalks s c ub).cols.map (applyBounds fr) from h')
      exact (hcol col hm).2 ⟨hc col hm,
        fun q hq => (rowGe_single_holds a _ _).1
          (hrows _ ((mem_asRows fr _).2 (Or.inr (Or.inl ⟨(col.v, q), hq, rfl⟩)))),
        fun q hq => (rowEq_single_holds a _ _).1
          (hrows _ ((mem_asRows fr _).2 (Or.inr (Or.inr ⟨(col.v, q), hq, rfl⟩))))⟩
    · rcases List.mem_append.1 (show r ∈ (encodeWalks s c ub).rows ++ fr.rows from h) with h1 | h1
      · exact hr r h1
      · exact hrows r ((mem_asRows fr r).2 (Or.inl h1))

theorem sat_walkCoreS_iff (fr : SafetyFrag) (hok : BoundsOK s c.k ub fr) (a : Asg) :
    Sat a (walkCoreS s c ub fr) ↔
      Sat a (encodeWalks s c ub) ∧ (∀ r ∈ fr.asRows, r.holds a) ∧
      Sat a (subsetBlock s (c.withSafety fr) ub) := by
  -- `encodeWalks` does not read the constraints, so the first part of `walkCoreS` is `encS` on `c`
  show Sat a ((encS s c ub fr).append (subsetBlock s (c.withSafety fr) ub)) ↔ _
  constructor
  · intro h
    have h1 := (sat_encS_iff s c ub fr hok a).1 (sat_append_left h)
    exact ⟨h1.1, h1.2, sat_append_right h⟩
  · rintro ⟨h1, h2, h3⟩
    have := (sat_encS_iff s c ub fr hok a).2 ⟨h1, h2⟩
    exact sat_append this h3

def SafetyFrag.rowVariant (fr : SafetyFrag) : SafetyFrag :=
  { fr with rows := fr.asRows, lower := [], fixed := [] }

/-- `bounds_variant_equiv`: fixing through variable bounds admits exactly the assignments that fixing
through rows admits -/
theorem bounds_variant_equiv (fr : SafetyFrag) (hok : BoundsOK s c.k ub fr) (a : Asg) :
    Sat a (walkCoreS s c ub fr) ↔ Sat a (walkCoreS s c ub (SafetyFrag.rowVariant fr)) := by
  have hrv : BoundsOK s c.k ub (SafetyFrag.rowVariant fr) :=
    ⟨fun _ _ h => by simp [SafetyFrag.rowVariant] at h, fun _ _ h => by simp [SafetyFrag.rowVariant] at h,
     fun _ _ _ h => by simp [SafetyFrag.rowVariant] at h, fun _ _ _ h => by simp [SafetyFrag.rowVariant] at h,
     fun _ _ _ h => by simp [SafetyFrag.rowVariant] at h⟩
  rw [sat_walkCoreS_iff s c ub fr hok, sat_walkCoreS_iff s c ub _ hrv]
  have h1 : (SafetyFrag.rowVariant fr).asRows = fr.asRows := by
    simp [SafetyFrag.rowVariant, SafetyFrag.asRows]
  have h2 : c.withSafety (SafetyFrag.rowVariant fr) = c.withSafety fr := rfl
  rw [h1, h2]

end Whole

/-- a fragment of the shape `safetyExtra` builds queues consistent requests: a slot holds one sequence, so a
column gets one value, and an edge is inside an SCC (lower bound) or outside (fixed), not both -/
theorem FragShape.boundsOK {s : STGraph} {k : Nat} {ub : Edge → Rat} {safe seqs : List (List Edge)}
    {zs : List (Edge × Nat)} {fr : SafetyFrag} (sh : FragShape s.g k safe seqs zs fr)
    (hE : ∀ q ∈ seqs, ∀ e ∈ q, e ∈ s.g.edges)
    (hub1 : ∀ e ∈ s.g.edges, isSccEdge s.g e = false → 1 ≤ ub e) : BoundsOK s k ub fr := by
  have hent : ∀ p ∈ seqEntries k seqs, p.1 ∈ s.g.edges ∧ p.2.1 < k ∧
      p.2.2 = (seqs.getD p.2.1 []).count p.1 := by
    intro p hp
    obtain ⟨hj, he, hm⟩ := (mem_seqEntries k seqs p.1 p.2.1 p.2.2).1 hp
    exact ⟨hE _ (getD_mem [] (by omega)) _ he, by omega, hm⟩
  have hlow : ∀ v q, (v, q) ∈ fr.lower → ∃ p ∈ seqEntries k seqs, isSccEdge s.g p.1 = true ∧
      v = edgeVar p.1 p.2.1 ∧ q = (p.2.2 : Rat) := by
    intro v q h
    obtain ⟨p, hp, heq⟩ := sh.lower _ h
    injection heq with h1 h2
    exact ⟨p, (List.mem_filter.1 hp).1, (List.mem_filter.1 hp).2, h1, h2⟩
  have hfix : ∀ v q, (v, q) ∈ fr.fixed → ∃ p ∈ seqEntries k seqs, isSccEdge s.g p.1 = false ∧
      v = edgeVar p.1 p.2.1 ∧ q = 1 := by
    intro v q h
    obtain ⟨p, hp, heq⟩ := sh.fixed _ h
    injection heq with h1 h2
    exact ⟨p, (List.mem_filter.1 hp).1, by simpa using (List.mem_filter.1 hp).2, h1, h2⟩
  constructor
  · intro v q h
    obtain ⟨p, hp, _, hv, hq⟩ := hlow v q h
    obtain ⟨he, hj, _⟩ := hent p hp
    exact ⟨p.1, p.2.1, he, hj, hv, by rw [hq]; exact Rat.natCast_nonneg⟩
  · intro v q h
    obtain ⟨p, hp, hs, hv, hq⟩ := hfix v q h
    obtain ⟨he, hj, _⟩ := hent p hp
    exact ⟨p.1, p.2.1, he, hj, hv, by rw [hq]; decide, by rw [hq]; exact hub1 _ he hs⟩
  · intro v q q' h h'
    obtain ⟨p, hp, _, hv, hq⟩ := hlow v q h
    obtain ⟨p', hp', _, hv', hq'⟩ := hlow v q' h'
    obtain ⟨he, hi⟩ := edgeVar_inj (hv.symm.trans hv')
    rw [hq, hq', (hent p hp).2.2, (hent p' hp').2.2, he, hi]
  · intro v q q' h h'
    obtain ⟨_, _, _, _, hq⟩ := hfix v q h
    obtain ⟨_, _, _, _, hq'⟩ := hfix v q' h'
    rw [hq, hq']
  · intro v q q' h h'
    obtain ⟨p, _, hs, hv, _⟩ := hlow v q h
    obtain ⟨p', _, hs', hv', _⟩ := hfix v q' h'
    rw [(edgeVar_inj (hv.symm.trans hv')).1, hs'] at hs
    cases hs

end FP
