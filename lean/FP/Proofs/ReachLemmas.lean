import FP.Model.Reach
import FP.Proofs.WalkEdges
/-!
# FP.Proofs.ReachLemmas — the algebra of `Reach` over an edge list (composition, first and last step, `swapEdges`, sets
closed under the edges, a simple path between reachable nodes), and what the table sweeps need of the model's list and
table helpers (`succOf`, `lunion`, `upd`, `Tbl`)
-/
namespace FP
open FP.Spec

section
variable {V : Type}

theorem Reach.single {es : List (V × V)} {x y : V} (h : (x, y) ∈ es) : Reach es x y :=
  Reach.step (Reach.refl x) h

theorem Reach.trans {es : List (V × V)} {x y z : V} (h1 : Reach es x y) (h2 : Reach es y z) : Reach es x z := by
  induction h2 with
  | refl => exact h1
  | step _ he ih => exact Reach.step ih he

theorem Reach.mono {es es' : List (V × V)} (h : ∀ e ∈ es, e ∈ es') {x y : V} (r : Reach es x y) : Reach es' x y := by
  induction r with
  | refl => exact .refl _
  | step _ hm ih => exact .step ih (h _ hm)

theorem Reach.head {es : List (V × V)} {x y z : V} (h : (x, y) ∈ es) (h2 : Reach es y z) : Reach es x z :=
  Reach.trans (Reach.single h) h2

theorem reach_head_cases {es : List (V × V)} {x z : V} (h : Reach es x z) :
    x = z ∨ ∃ y, (x, y) ∈ es ∧ Reach es y z := by
  induction h with
  | refl => exact Or.inl rfl
  | step h1 he ih =>
    rename_i y z
    rcases ih with rfl | ⟨y', hy', hr⟩
    · exact Or.inr ⟨z, he, Reach.refl z⟩
    · exact Or.inr ⟨y', hy', Reach.step hr he⟩

theorem reach_tail_cases {es : List (V × V)} {x z : V} (h : Reach es x z) :
    x = z ∨ ∃ y, Reach es x y ∧ (y, z) ∈ es := by
  cases h with
  | refl => exact Or.inl rfl
  | step h1 he => exact Or.inr ⟨_, h1, he⟩

theorem reach_singleton {a b x z : V} : Reach [(a, b)] x z ↔ x = z ∨ (x = a ∧ z = b) := by
  constructor
  · intro h
    induction h with
    | refl => exact Or.inl rfl
    | step _ he ih =>
      obtain ⟨rfl, rfl⟩ := Prod.mk.inj (List.mem_singleton.1 he)
      exact Or.inr ⟨ih.elim id (·.1), rfl⟩
  · rintro (rfl | ⟨rfl, rfl⟩)
    · exact Reach.refl _
    · exact Reach.single (List.mem_singleton.2 rfl)

theorem mem_swapEdges {es : List (V × V)} {a b : V} : (a, b) ∈ swapEdges es ↔ (b, a) ∈ es := by
  unfold swapEdges
  constructor
  · intro h
    obtain ⟨e, he, heq⟩ := List.mem_map.1 h
    have h1 : e.2 = a := congrArg Prod.fst heq
    have h2 : e.1 = b := congrArg Prod.snd heq
    rw [← h1, ← h2]; exact he
  · intro h
    exact List.mem_map.2 ⟨(b, a), h, rfl⟩

theorem swapEdges_swapEdges (es : List (V × V)) : swapEdges (swapEdges es) = es := by
  unfold swapEdges
  rw [List.map_map]
  exact List.map_id _

theorem reach_swap {es : List (V × V)} {x y : V} : Reach (swapEdges es) x y ↔ Reach es y x := by
  constructor
  · intro h
    induction h with
    | refl => exact Reach.refl _
    | step _ he ih => exact Reach.head (mem_swapEdges.1 he) ih
  · intro h
    induction h with
    | refl => exact Reach.refl _
    | step _ he ih => exact Reach.head (mem_swapEdges.2 he) ih

/-- along edges the rank of the component never decreases (labelling monotone along a rank, as the
component numbering of a condensation is) -/
theorem reach_rank_mono (es : List (V × V)) (comp : V → Nat) (rank : Nat → Nat)
    (hmono : ∀ e ∈ es, comp e.1 = comp e.2 ∨ rank (comp e.1) < rank (comp e.2)) {u v : V}
    (h : Reach es u v) : rank (comp u) ≤ rank (comp v) := by
  induction h with
  | refl => exact Nat.le_refl _
  | step _ hstep ih =>
    rcases hmono _ hstep with h1 | h1
    · simp only at h1; rw [← h1]; exact ih
    · simp only at h1; omega

theorem reach_closed {es : List (V × V)} {S : V → Prop} (hcl : ∀ e ∈ es, S e.1 → S e.2) {x y : V}
    (h : Reach es x y) (hx : S x) : S y := by
  induction h with
  | refl => exact hx
  | step _ he ih => exact hcl _ he ih

theorem closed_reach {es : List (V × V)} {S : V → Prop} (hcl : ∀ u, S u → ∀ v, (v, u) ∈ es → S v) {x y : V}
    (hr : Reach es x y) (hy : S y) : S x :=
  reach_closed (es := swapEdges es) (fun _ he h => hcl _ h _ (mem_swapEdges.1 he)) (reach_swap.2 hr) hy

end

section
variable {κ : Type} [DecidableEq κ]

theorem mem_succOf {es : List (κ × κ)} {c s : κ} : s ∈ succOf es c ↔ (c, s) ∈ es := by
  unfold succOf
  constructor
  · intro h
    obtain ⟨e, he, rfl⟩ := List.mem_map.1 h
    have hm := List.mem_filter.1 he
    have : e.1 = c := by simpa using hm.2
    rw [← this]; exact hm.1
  · intro h
    exact List.mem_map.2 ⟨(c, s), List.mem_filter.2 ⟨h, by simp⟩, rfl⟩

theorem mem_lunion {α} [DecidableEq α] {a b : List α} {x : α} : x ∈ lunion a b ↔ x ∈ a ∨ x ∈ b := by
  unfold lunion
  simp only [List.mem_append, List.mem_filter]
  constructor
  · rintro (h | ⟨h, _⟩)
    · exact Or.inl h
    · exact Or.inr h
  · rintro (h | h)
    · exact Or.inl h
    · by_cases ha : x ∈ a
      · exact Or.inl ha
      · exact Or.inr ⟨h, by simp [ha]⟩

theorem upd_same {α} (t : κ → α) (k : κ) (a : α) : upd t k a k = a := if_pos rfl

theorem upd_ne {α} (t : κ → α) (a : α) {k x : κ} (h : x ≠ k) : upd t k a x = t x := if_neg h

@[simp] theorem Tbl.get_set {α} (t : Tbl κ α) (k : κ) (a : α) (x : κ) :
    (t.set k a).get x = if x = k then a else t.get x := rfl

end

theorem simple_path_of_reach (H : List Edge) (a b : Node) (h : Reach H a b) :
    ∃ l : List Node, l.head? = some a ∧ l.getLast? = some b ∧ l.Nodup ∧
      ∀ e ∈ walkEdges l, e ∈ H := by
  induction h with
  | refl => exact ⟨[a], rfl, rfl, by simp, by simp [walkEdges]⟩
  | @step y z hxy hyz ih =>
    -- a new last vertex `z` that is already on the path cuts the path back to its first occurrence
    obtain ⟨l, hh, hl, hnd, hw⟩ := ih
    by_cases hz : z ∈ l
    · obtain ⟨l1, l2, rfl⟩ := List.append_of_mem hz
      refine ⟨l1 ++ [z], ?_, by simp, ?_, ?_⟩
      · cases l1 with
        | nil => simpa using hh
        | cons c l1 => simpa using hh
      · have : (l1 ++ [z]).Sublist (l1 ++ z :: l2) :=
          List.Sublist.append_left (by simp) l1
        exact hnd.sublist this
      · intro e he
        apply hw
        have := we_sub_append_right (l1 ++ [z]) l2 e he
        simpa using this
    · refine ⟨l ++ [z], ?_, by simp, ?_, ?_⟩
      · cases l with
        | nil => simp at hh
        | cons c l => simpa using hh
      · apply List.nodup_append.2
        refine ⟨hnd, by simp, ?_⟩
        intro x hx w hw' hxw
        have : w = z := by simpa using hw'
        subst this; subst hxw; exact hz hx
      · intro e he
        rw [we_concat l y z hl] at he
        rcases List.mem_append.1 he with h | h
        · exact hw e h
        · rw [List.mem_singleton.1 h]; exact hyz

end FP
