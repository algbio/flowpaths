import FP.Model.WalkSafetyRows
import FP.Proofs.LP
/-!
# FP.Proofs.C05Frag — what a fragment built by `safetyExtra` consists of

`FragShape` says, field by field of the fragment, where each entry comes from: a row is `x(e,i) = 0` for a
zero-fixed key, `x(e,i) ≥ m` for an SCC entry or `x(e,i) = 1` for a non-SCC entry of the slots; a queued
bound change is one of the latter two; a key of the two dictionaries has its row; an appended constraint is
one of the lists handed in. `safetyExtra_shape` goes once through the flags; whatever is proved about the
fragment afterwards is proved from the shape.
-/
namespace FP

theorem mem_asRows (fr : SafetyFrag) (r : Row) :
    r ∈ fr.asRows ↔ r ∈ fr.rows ∨ (∃ p ∈ fr.lower, r = rowGe [(1, p.1)] p.2)
      ∨ (∃ p ∈ fr.fixed, r = rowEq [(1, p.1)] p.2) := by
  simp only [SafetyFrag.asRows, List.mem_append, List.mem_map, or_assoc, eq_comm]

theorem mem_seqEntries (k : Nat) (walks : List (List Edge)) (e : Edge) (j m : Nat) :
    (e, j, m) ∈ seqEntries k walks ↔
      j < min walks.length k ∧ e ∈ walks.getD j [] ∧ m = (walks.getD j []).count e := by
  simp only [seqEntries, counterOf, List.mem_flatMap, List.mem_range, List.mem_map, List.mem_eraseDups]
  constructor
  · rintro ⟨i, hi, p, ⟨e', he', rfl⟩, heq⟩
    injection heq with h1 h2
    injection h2 with h2 h3
    subst h1; subst h2; subst h3
    exact ⟨hi, he', rfl⟩
  · rintro ⟨hj, he, rfl⟩
    exact ⟨j, hj, _, ⟨e, he, rfl⟩, rfl⟩

/-- where the entries of a fragment come from, given the slots' sequences `seqs`, the zero-fixed keys `zs`
and the maximal safe sequences `safe` -/
structure FragShape (g : Graph) (k : Nat) (safe seqs : List (List Edge)) (zs : List (Edge × Nat))
    (fr : SafetyFrag) : Prop where
  rows : ∀ r ∈ fr.rows, (∃ p ∈ zs, r = rowEq [(1, edgeVar p.1 p.2)] 0)
    ∨ (∃ p ∈ geqEntries g k seqs, r = rowGe [(1, edgeVar p.1 p.2.1)] (p.2.2 : Rat))
    ∨ (∃ p ∈ eqEntries g k seqs, r = rowEq [(1, edgeVar p.1 p.2.1)] 1)
  lower : ∀ x ∈ fr.lower, ∃ p ∈ geqEntries g k seqs, x = (edgeVar p.1 p.2.1, (p.2.2 : Rat))
  fixed : ∀ x ∈ fr.fixed, ∃ p ∈ eqEntries g k seqs, x = (edgeVar p.1 p.2.1, 1)
  zero : ∀ q ∈ fr.zero, rowEq [(1, edgeVar q.1 q.2)] 0 ∈ fr.rows
  one : ∀ q ∈ fr.one, ∃ p ∈ eqEntries g k seqs, q = (p.1, p.2.1)
    ∧ (rowEq [(1, edgeVar p.1 p.2.1)] 1 ∈ fr.rows ∨ (edgeVar p.1 p.2.1, 1) ∈ fr.fixed)
  cons : ∀ q ∈ fr.constraints, q ∈ safe ∨ q ∈ seqs

theorem safetyExtra_shape (s : STGraph) (k : Nat) (safe seqs : List (List Edge)) (zs : List (Edge × Nat))
    (o : SafetyOpts) : FragShape s.g k safe seqs zs (safetyExtra s k safe seqs zs o) := by
  have hempty : ∀ cs : List (List Edge), (∀ q ∈ cs, q ∈ safe ∨ q ∈ seqs) →
      FragShape s.g k safe seqs zs { constraints := cs } := fun cs h =>
    ⟨fun _ h => (List.not_mem_nil h).elim, fun _ h => (List.not_mem_nil h).elim, fun _ h => (List.not_mem_nil h).elim, fun _ h => (List.not_mem_nil h).elim,
     fun _ h => (List.not_mem_nil h).elim, h⟩
  have hzrow : ∀ r ∈ zeroRows (if o.fixZero = true then zs else []),
      ∃ p ∈ zs, r = rowEq [(1, edgeVar p.1 p.2)] 0 := fun r hr =>
    have ⟨p, hp, e⟩ := List.mem_map.1 hr
    ⟨p, mem_of_mem_ite_nil hp, e.symm⟩
  have hzkey : ∀ q ∈ (if o.fixZero = true then zs else []),
      rowEq [(1, edgeVar q.1 q.2)] 0 ∈ zeroRows (if o.fixZero = true then zs else []) :=
    fun q hq => List.mem_map.2 ⟨q, hq, rfl⟩
  fun_cases safetyExtra s k safe seqs zs o with
  | case1 => exact hempty [] (fun _ h => (List.not_mem_nil h).elim)
  | case2 => exact hempty safe (fun _ h => Or.inl h)
  | case3 =>
    exact ⟨fun r hr => Or.inl (hzrow r hr), fun _ h => (List.not_mem_nil h).elim,
      fun _ h => (List.not_mem_nil h).elim, hzkey, fun _ h => (List.not_mem_nil h).elim, fun _ h => Or.inr h⟩
  | case4 =>
    refine ⟨fun r hr => Or.inl (hzrow r hr), fun x hx => ?_, fun x hx => ?_, hzkey, fun q hq => ?_,
      fun _ h => (List.not_mem_nil h).elim⟩
    · have ⟨p, hp, e⟩ := List.mem_map.1 hx
      exact ⟨p, mem_of_mem_ite_nil hp, e.symm⟩
    · have ⟨p, hp, e⟩ := List.mem_map.1 hx
      exact ⟨p, hp, e.symm⟩
    · have ⟨p, hp, e⟩ := List.mem_map.1 hq
      exact ⟨p, hp, e.symm, Or.inr (List.mem_map.2 ⟨p, hp, rfl⟩)⟩
  | case5 =>
    refine ⟨fun r hr => ?_, fun _ h => (List.not_mem_nil h).elim, fun _ h => (List.not_mem_nil h).elim,
      fun q hq => List.mem_append_left _ (List.mem_append_left _ (hzkey q hq)), fun q hq => ?_,
      fun _ h => (List.not_mem_nil h).elim⟩
    · rcases List.mem_append.1 hr with hr | hr
      · rcases List.mem_append.1 hr with hr | hr
        · exact Or.inl (hzrow r hr)
        · have ⟨p, hp, e⟩ := List.mem_map.1 (mem_of_mem_ite_nil hr)
          exact Or.inr (Or.inl ⟨p, hp, e.symm⟩)
      · have ⟨p, hp, e⟩ := List.mem_map.1 hr
        exact Or.inr (Or.inr ⟨p, hp, e.symm⟩)
    · have ⟨p, hp, e⟩ := List.mem_map.1 hq
      exact ⟨p, hp, e.symm, Or.inl (List.mem_append_right _ (List.mem_map.2 ⟨p, hp, rfl⟩))⟩

namespace FragShape
variable {g : Graph} {k : Nat} {safe seqs : List (List Edge)} {zs : List (Edge × Nat)} {fr : SafetyFrag}

theorem of_mem_asRows (h : FragShape g k safe seqs zs fr) : ∀ r ∈ fr.asRows,
    (∃ p ∈ zs, r = rowEq [(1, edgeVar p.1 p.2)] 0)
    ∨ (∃ p ∈ geqEntries g k seqs, r = rowGe [(1, edgeVar p.1 p.2.1)] (p.2.2 : Rat))
    ∨ (∃ p ∈ eqEntries g k seqs, r = rowEq [(1, edgeVar p.1 p.2.1)] 1) := by
  intro r hr
  rcases (mem_asRows fr r).1 hr with hr | ⟨x, hx, rfl⟩ | ⟨x, hx, rfl⟩
  · exact h.rows r hr
  · obtain ⟨p, hp, rfl⟩ := h.lower x hx
    exact Or.inr (Or.inl ⟨p, hp, rfl⟩)
  · obtain ⟨p, hp, rfl⟩ := h.fixed x hx
    exact Or.inr (Or.inr ⟨p, hp, rfl⟩)

theorem asRows_congr (h : FragShape g k safe seqs zs fr) {a a' : Asg}
    (hE : ∀ e i, a' (edgeVar e i) = a (edgeVar e i)) {r : Row} (hr : r ∈ fr.asRows) (hh : r.holds a) :
    r.holds a' := by
  refine (Row.holds_congr a a' r fun t ht => ?_).2 hh
  rcases h.of_mem_asRows r hr with ⟨p, _, rfl⟩ | ⟨p, _, rfl⟩ | ⟨p, _, rfl⟩ <;>
    (cases List.mem_singleton.1 ht; exact hE _ _)

section
variable (h : FragShape g k safe seqs zs fr) {a : Asg} (hrows : ∀ r ∈ fr.asRows, r.holds a) {q : Edge × Nat}
include h hrows

theorem zero_val (hq : q ∈ fr.zero) : a (edgeVar q.1 q.2) = 0 :=
  (rowEq_single_holds _ _ _).1 (hrows _ ((mem_asRows fr _).2 (Or.inl (h.zero q hq))))

theorem one_val (hq : q ∈ fr.one) : a (edgeVar q.1 q.2) = 1 := by
  refine (rowEq_single_holds _ _ _).1 (hrows _ ((mem_asRows fr _).2 ?_))
  obtain ⟨p, _, rfl, hp | hp⟩ := h.one q hq
  · exact Or.inl hp
  · exact Or.inr (Or.inr ⟨_, hp, rfl⟩)

end

/-- a key of `edges_set_to_one` comes from a slot, so there is a slot -/
theorem seqs_ne_nil_of_one (h : FragShape g k safe seqs zs fr) {q : Edge × Nat} (hq : q ∈ fr.one) :
    seqs ≠ [] := by
  obtain ⟨p, hp, _⟩ := h.one q hq
  obtain ⟨hj, _, _⟩ := (mem_seqEntries k seqs p.1 p.2.1 p.2.2).1 (List.mem_filter.1 hp).1
  intro h0
  rw [h0] at hj
  exact absurd hj (by simp)

end FragShape

end FP
