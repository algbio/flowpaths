import FP.Proofs.KLAEGiven
/-!
A given-weights instance of k-Least-Absolute-Errors on which the bound `w_max` of the error columns cuts off
the optimum. User DAG `a → b`, `b → c → c2`, `b → d → d2` with `f(a,b) = 0` and `f = 10` on the four branch edges,
`k = 2`, `weight_type = int`, `solution_weights_superset = [12, 12]` — so `w_max = max(2·10, 12) = 20`.

* one route (`a b c c2`, weight 12) has errors `12, 2, 2, 10, 10`: total `36`, a bounded choice;
* both routes (`a b c c2` and `a b d d2`, weights 12 and 12) have errors `24, 2, 2, 2, 2`: total `32` —
  but `24 > w_max`, so the error column of `(a,b)` cannot take that value: the choice is cut off;
* every satisfying assignment of the LP the constructor builds has objective at least `36`.
-/
namespace FP.GivenExample
open FP FP.Spec FP.Spec.LAE

def base : Graph :=
  { nodes := ["a", "b", "c", "c2", "d", "d2"],
    edges := [("a", "b"), ("b", "c"), ("c", "c2"), ("b", "d"), ("d", "d2")] }

theorem base_wf : BaseWF base := by decide +kernel

def rank : Node → Nat := fun v =>
  if v = "a" then 0 else if v = "b" then 1 else if v = "c" then 2 else if v = "d" then 2 else 3
theorem base_acyclic : Acyclic base := ⟨rank, by decide⟩

/-- the user's call: `k = 2`, no empty paths requested -/
def fi0 : FlowInput :=
  { base := base,
    flow := [(("a", "b"), 0), (("b", "c"), 10), (("c", "c2"), 10), (("b", "d"), 10), (("d", "d2"), 10)],
    weightInt := true, cfg := { k := 2 } }

def ws : List Rat := [12, 12]

/-- what the constructor makes of it: `k = len(ws)`, empty paths allowed -/
def inp : ErrInput := ({ fi := fi0 } : ErrInput).forGiven ws

def pc : List Node := ["a", "b", "c", "c2"]
def pd : List Node := ["a", "b", "d", "d2"]
/-- one of the given weights used -/
def P1 : Nat → List Node := fun i => if i = 0 then pc else []
/-- both used -/
def P2 : Nat → List Node := fun i => if i = 0 then pc else pd

theorem k2 : inp.k = 2 := rfl
theorem allow : inp.fi.cfg.allowEmpty = true := rfl
def aug : STGraph :=
  { g := { nodes := ["a", "b", "c", "c2", "d", "d2", "source", "sink"],
           edges := [("a", "b"), ("b", "c"), ("b", "d"), ("c", "c2"), ("c2", "sink"), ("d", "d2"),
                     ("d2", "sink"), ("source", "a")] },
    source := "source", sink := "sink" }
/-- the finite facts about `inp` as components of one theorem: a single kernel evaluation builds the augmented graph
and `basicEdges` once, where one evaluation per fact builds them each time; the errors of the two choices are listed in
the order of `basicEdges` -/
theorem table : inp.st.g = aug.g ∧
    inp.basicEdges = [("a", "b"), ("b", "c"), ("b", "d"), ("c", "c2"), ("d", "d2")] ∧
    inp.wmax (some ws) = 20 ∧
    inp.basicEdges.map (absErr inp P1 (givenW ws)) = [12, 2, 10, 2, 10] ∧
    inp.basicEdges.map (absErr inp P2 (givenW ws)) = [24, 2, 2, 2, 2] ∧
    ∀ e ∈ inp.basicEdges, inp.fi.f e = ((inp.fi.f e).num : Int) := by decide +kernel

theorem st_eq : inp.st = aug :=
  congrArg (fun g => ({ g := g, source := "source", sink := "sink" } : STGraph)) table.1
theorem basic : inp.basicEdges = [("a", "b"), ("b", "c"), ("b", "d"), ("c", "c2"), ("d", "d2")] := table.2.1
theorem f_ab : inp.fi.f ("a", "b") = 0 := by decide
theorem f_bc : inp.fi.f ("b", "c") = 10 := by decide
theorem f_bd : inp.fi.f ("b", "d") = 10 := by decide
theorem f_cc : inp.fi.f ("c", "c2") = 10 := by decide
theorem f_dd : inp.fi.f ("d", "d2") = 10 := by decide
theorem scale1 (e : Edge) : inp.scale e = 1 := rfl
theorem gw (i : Nat) (hi : i < 2) : givenW ws i = 12 := by
  have : i = 0 ∨ i = 1 := by omega
  rcases this with rfl | rfl <;> rfl
theorem wmax20 : inp.wmax (some ws) = 20 := table.2.2.1

theorem valid_pc : ValidRoute base [] [] pc := validRoute_of_check _ _ _ _ (by decide +kernel)
theorem valid_pd : ValidRoute base [] [] pd := validRoute_of_check _ _ _ _ (by decide +kernel)

theorem route_pc : Route inp.st true pc := route_of_validRoute [] [] base_wf base_acyclic true valid_pc

theorem choice2 : GivenChoice inp 2 P2 where
  routes := by
    intro i _
    by_cases h : i = 0
    · simp only [P2, h, if_true]; exact route_pc
    · simp only [P2, h, if_false]
      exact route_of_validRoute [] [] base_wf base_acyclic true valid_pd
  cap := by decide

theorem errs1 : inp.basicEdges.map (absErr inp P1 (givenW ws)) = [12, 2, 10, 2, 10] := table.2.2.2.1
theorem errs2 : inp.basicEdges.map (absErr inp P2 (givenW ws)) = [24, 2, 2, 2, 2] := table.2.2.2.2.1

theorem total_of_errs (P : Nat → List Node) (l : List Rat)
    (h : inp.basicEdges.map (absErr inp P (givenW ws)) = l) : totalErr inp P (givenW ws) = l.sum := by
  rw [← h]
  unfold totalErr
  simp only [scale1, Rat.one_mul]

theorem bounded1 : GivenBounded inp ws 2 P1 where
  routes := by
    intro i _
    by_cases h : i = 0
    · simp only [P1, h, if_true]; exact route_pc
    · simp only [P1, h, if_false]; exact Or.inl ⟨rfl, rfl⟩
  cap := by decide
  errle := by
    rw [wmax20]
    exact (List.forall_mem_map (f := absErr inp P1 (givenW ws)) (P := (· ≤ 20))).1
      (by rw [errs1]; decide +kernel)

theorem total1 : totalErr inp P1 (givenW ws) = 36 :=
  (total_of_errs P1 _ errs1).trans (by decide +kernel)

theorem total2 : totalErr inp P2 (givenW ws) = 32 :=
  (total_of_errs P2 _ errs2).trans (by decide +kernel)

/-- the error `24` on `(a,b)` exceeds `w_max = 20` -/
theorem not_bounded2 : ¬ GivenBounded inp ws 2 P2 := by
  intro hb
  have := hb.errle ("a", "b") (by rw [basic]; decide)
  have h24 : absErr inp P2 (givenW ws) ("a", "b") = 24 := by
    have h := errs2
    rw [basic] at h
    exact List.head_eq_of_cons_eq h
  rw [h24, wmax20] at this
  exact absurd this (by decide)

theorem flows_int : inp.fi.weightInt = true →
    (∀ e ∈ inp.basicEdges, IsInt (inp.fi.f e)) ∧ ∀ i, i < inp.k → IsInt (givenW ws i) :=
  fun _ => ⟨fun e he => ⟨_, table.2.2.2.2.2 e he⟩, fun i hi => by rw [gw i hi]; exact ⟨12, by decide⟩⟩

theorem scale_nonneg : ∀ e ∈ inp.basicEdges, 0 ≤ inp.scale e := by
  intro e _; rw [scale1]; decide

theorem sat36 : ∃ a : Asg, Sat a (klaeGivenLP inp ws 2) ∧ evalTerms a (klaeGivenLP inp ws 2).obj = 36 := by
  obtain ⟨a, hsat, _, _, hobj⟩ :=
    klae_given_complete inp ws 2 P1 base_wf base_acyclic rfl rfl flows_int bounded1
  exact ⟨a, hsat, by rw [hobj, total1]⟩

/-- the arithmetic core: `B`, `D` layers through `(b,c)` and `(b,d)`, all of them through `(a,b)`, whose error may not
exceed `w_max = 20 < 24`: at most one layer is used -/
theorem arith (B D : Nat) (hB : B ≤ 2) (hD : D ≤ 2) (h : (0 - (12 * (B : Rat) + 12 * (D : Rat))).abs ≤ 20) :
    36 ≤ (0 - (12 * (B : Rat) + 12 * (D : Rat))).abs + ((10 - 12 * (B : Rat)).abs + ((10 - 12 * (D : Rat)).abs
      + ((10 - 12 * (B : Rat)).abs + ((10 - 12 * (D : Rat)).abs + 0)))) := by
  have hB' : B = 0 ∨ B = 1 ∨ B = 2 := by omega
  have hD' : D = 0 ∨ D = 1 ∨ D = 2 := by omega
  rcases hB' with rfl | rfl | rfl <;> rcases hD' with rfl | rfl | rfl <;> revert h <;> decide +kernel

/-- every bounded choice has total error at least `36`: the explained value is a flow (`(a,b)` carries what `(b,c)`
and `(b,d)` carry together) in multiples of `12` -/
theorem lower_bound (P : Nat → List Node) (hb : GivenBounded inp ws 2 P) : 36 ≤ totalErr inp P (givenW ws) := by
  have hwf : STWF aug := st_eq ▸ augment_wf base [] [] base_wf base_acyclic
  have hr : ∀ i, i < 2 → Route aug true (P i) ∧ givenW ws i = 12 := fun i hi => ⟨st_eq ▸ hb.routes i hi, gw i hi⟩
  have hE : explained inp.st inp.k P (givenW ws) = explained aug 2 P (givenW ws) := by rw [st_eq]; rfl
  have flow := conserved_at fun v hv h1 h2 =>
    explained_flow hwf P (givenW ws) v hv h1 h2 2 fun i hi => (hr i hi).1
  have cb := flow "b" ["a"] ["c", "d"] (by decide)
  have cc := flow "c" ["b"] ["c2"] (by decide)
  have cd := flow "d" ["b"] ["d2"] (by decide)
  obtain ⟨B, hB, eB⟩ := explained_const hwf P (givenW ws) 12 ("b", "c") 2 hr
  obtain ⟨D, hD, eD⟩ := explained_const hwf P (givenW ws) 12 ("b", "d") 2 hr
  simp only [List.map_cons, List.map_nil, List.sum_cons, List.sum_nil, Rat.add_zero, eB, eD] at cb cc cd
  have hab := hb.errle ("a", "b") (by rw [basic]; decide)
  unfold totalErr
  unfold absErr at hab ⊢
  rw [wmax20, hE, cb, f_ab] at hab
  rw [basic]
  simp only [List.map_cons, List.map_nil, List.sum_cons, List.sum_nil, scale1, Rat.one_mul, hE, cb, ← cc, ← cd, eB, eD,
    f_ab, f_bc, f_bd, f_cc, f_dd]
  exact arith B D hB hD hab

theorem lp_lower_bound (a : Asg) (hsat : Sat a (klaeGivenLP inp ws 2)) :
    36 ≤ evalTerms a (klaeGivenLP inp ws 2).obj := by
  obtain ⟨ps, _, _, hch, _, _, herr, _⟩ := klae_given_sound inp ws 2 a base_wf base_acyclic hsat
  exact Rat.le_trans (lower_bound _ ⟨hch, fun e he => Rat.le_trans (herr e he).1 (herr e he).2.1⟩)
    (klaeObj_ge inp a _ _ scale_nonneg fun e he => (herr e he).1)

end FP.GivenExample
