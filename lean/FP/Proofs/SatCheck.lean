import FP.Model.Enc.KFDCWitness
/-!
The boolean checker `satCheck` is sound for `Sat`. The feasibility of a concrete LP under a concrete assignment is a
finite fact: the example modules evaluate `satCheck` in the kernel and conclude `Sat` by `satCheck_sound`. Two concrete
LPs are told apart by the bound of one edge column (`NX.nxcCapOf`, `NX.ne_of_capOf`).
-/
namespace FP

theorem rowOk_iff (a : Asg) (r : Row) : rowOk a r = true ↔ r.holds a := by
  unfold rowOk Row.holds
  rw [Bool.and_eq_true]
  refine and_congr ?_ ?_
  · cases r.lo <;> simp
  · cases r.hi <;> simp

/-- a satisfying assignment passes the boolean row check (used to show on a concrete LP that an assignment does
*not* satisfy it) -/
theorem rowOk_of_sat (a : Asg) (lp : LP) (h : Sat a lp) : lp.rows.all (rowOk a) = true :=
  List.all_eq_true.2 fun r hr => (rowOk_iff a r).2 (h.2 r hr)

/-- an integral column is checked by comparing the value with its floor -/
theorem colOk_sound (a : Asg) (c : Col) (h : colOk a c = true) : c.holds a := by
  unfold colOk at h
  rw [Bool.and_eq_true, Bool.and_eq_true] at h
  refine ⟨by simpa using h.1.1, ?_, ?_⟩
  · intro u hu
    have h2 := h.1.2
    rw [hu] at h2
    simpa using h2
  · intro hint
    have h3 := h.2
    rw [hint] at h3
    exact ⟨(a c.v).floor, by simpa using h3⟩

theorem satCheck_sound (a : Asg) (lp : LP) (h : satCheck a lp = true) : Sat a lp :=
  have h := Bool.and_eq_true_iff.1 h
  ⟨fun c hm => colOk_sound a c (List.all_eq_true.1 h.1 c hm),
   fun r hm => (rowOk_iff a r).1 (List.all_eq_true.1 h.2 r hm)⟩

namespace NX

/-- upper bound of the column `edge(e, 0)` -/
def nxcCapOf (lp : LP) (e : Edge) : Option (Option Rat) :=
  (lp.cols.find? (fun c => c.v = edgeVar e 0)).map (·.ub)

theorem ne_of_capOf {p q : LP} {e : Edge} {x y : Rat} (hp : nxcCapOf p e = some (some x))
    (hq : nxcCapOf q e = some (some y)) (hxy : x ≠ y) : p ≠ q := fun h =>
  hxy (Option.some.inj (Option.some.inj (hp.symm.trans (h ▸ hq))))

end NX

end FP
