import FP.Proofs.LP
import FP.Model.Enc.KFDCWitness
/-!
# FP.Proofs.WrapperIntProd — `numBits` and the integer × continuous product fragment

`prodFrag` is the block `add_integer_continuous_product_constraint` emits, with the number of bit
columns as a parameter; `intProd` and `intProdQ` are instances of it. `sat_prodFrag_iff` reads the
block as statements about its columns, `sat_prodFrag_vals` (with the continuous factor inside its bounds) about
their values alone. Soundness (`prodFrag_sound`, `intProdQ_prod`) needs no bound on the continuous factor; completeness follows from the second reading. For the block `intProdQ` of a rational bound: the bit columns
cap the integer factor (`intProdQ_factor_lt`), and explicit values with the binary digits on the auxiliary columns satisfy it (`intProdQ_sat_of_bits`).
For completeness the bit and component columns get the digits of the integer factor: `klaecProdAsg`, for a family of
blocks with pairwise different names (a single block is the family `[()]`).
-/
namespace FP

theorem numBitsAux_spec (ub : Nat) (fuel n : Nat) : ub + 1 ≤ n + fuel →
    (∀ m, m < n → ¬ (ub + 1 ≤ 2 ^ m)) →
    ub + 1 ≤ 2 ^ numBitsAux fuel ub n ∧ ∀ m, ub + 1 ≤ 2 ^ m → numBitsAux fuel ub n ≤ m := by
  fun_induction numBitsAux fuel ub n with
  | case1 ub n =>
    intro hn hinv
    have h1 : n < 2 ^ n := Nat.lt_two_pow_self
    exact ⟨by omega, fun m hm => Nat.le_of_not_lt fun hlt => hinv m hlt hm⟩
  | case2 fuel ub n h => exact fun _ hinv => ⟨h, fun m hm => Nat.le_of_not_lt fun hlt => hinv m hlt hm⟩
  | case3 fuel ub n h ih =>
    refine fun hn hinv => ih (by omega) fun m hm => ?_
    by_cases hmn : m = n
    · subst hmn; exact h
    · exact hinv m (by omega)

theorem numBits_spec (ub : Nat) :
    ub + 1 ≤ 2 ^ numBits ub ∧ ∀ n, ub + 1 ≤ 2 ^ n → numBits ub ≤ n :=
  numBitsAux_spec ub (ub+1) 0 (by omega) (fun m hm => by omega)

theorem lt_two_pow_numBits (k N : Nat) (h : k ≤ N) : k < 2 ^ numBits N :=
  Nat.lt_of_lt_of_le (Nat.lt_succ_of_le h) (numBits_spec N).1

theorem bitOf_01 (k i : Nat) : bitOf k i = 0 ∨ bitOf k i = 1 := by
  rcases Nat.mod_two_eq_zero_or_one (k / 2^i) with h | h <;> simp [bitOf, h]

theorem sum_bitOf_mod (k : Nat) : ∀ n,
    ((List.range n).map fun i => (2:Rat)^i * bitOf k i).sum = ((k % 2^n : Nat) : Rat) := by
  intro n
  induction n with
  | zero => simp [Nat.mod_one]
  | succ n ih =>
    rw [List.range_succ, List.map_append, List.sum_append, ih, Nat.mod_pow_succ]
    simp [bitOf, Rat.natCast_add, Rat.natCast_mul, Rat.natCast_pow, Rat.add_zero]

theorem sum_bitOf (k nb : Nat) (h : k < 2 ^ nb) :
    ((List.range nb).map fun i => (2:Rat)^i * bitOf k i).sum = (k : Rat) := by
  rw [sum_bitOf_mod, Nat.mod_eq_of_lt h]

/-- the shape shared by `intProd` and both branches of `intProdQ` -/
def prodFrag (n c p : Var) (lb ub : Rat) (name : String) (nb : Nat) : LP :=
  let bits := List.range nb
  { cols := bits.map (fun i => { v := bitVar name i, lb := 0, ub := some 1, isInt := true })
         ++ bits.map (fun i => { v := compVar name i, lb := lb, ub := some ub, isInt := false }),
    rows := [rowEq (bits.map (fun i => (((2:Rat)^i), bitVar name i)) ++ [(-1, n)]) 0]
         ++ bits.flatMap (fun i => binProd (bitVar name i) c (compVar name i) lb ub)
         ++ [rowEq (bits.map (fun i => (((2:Rat)^i), compVar name i)) ++ [(-1, p)]) 0] }

theorem intProd_eq_prodFrag (n c p : Var) (lb : Rat) (ubN : Nat) (name : String) :
    intProd n c p lb ubN name = prodFrag n c p lb ubN name (numBits ubN) := rfl

/-- `ceil(log2(ub + 1))` as `add_integer_continuous_product_constraint` computes it: the number of bit columns of `intProdQ`,
the least `n` with `⌈ub⌉ + 1 ≤ 2^n` -/
def klaecBitsOf (ub : Rat) : Nat := numBits ub.ceil.toNat

theorem intProdQ_eq_frag (n c p : Var) (lb ub : Rat) (name : String) :
    intProdQ n c p lb ub name = prodFrag n c p lb ub name (klaecBitsOf ub) := by
  unfold intProdQ klaecBitsOf
  split
  · next h =>
    have hc : ub.ceil = ub.num := by unfold Rat.ceil; rw [if_pos h.1]
    rw [intProd_eq_prodFrag, rat_of_den_one ub h.1 h.2, hc]
  · rfl

theorem lt_two_pow_klaecBitsOf (ub : Rat) (k : Nat) (h : (k : Rat) ≤ ub) : k < 2 ^ klaecBitsOf ub := by
  apply lt_two_pow_numBits
  have h2 : ((k : Int) : Rat) ≤ ((ub.ceil : Int) : Rat) := by
    rw [Rat.intCast_natCast]; exact Rat.le_trans h Rat.le_ceil
  have h3 : (k : Int) ≤ ub.ceil := Rat.intCast_le_intCast.1 h2
  omega

theorem one_lt_two_pow_klaecBits (ub : Rat) (h : 0 < ub) : 1 < 2 ^ klaecBitsOf ub := by
  unfold klaecBitsOf
  apply lt_two_pow_numBits
  have h2 : ((0 : Int) : Rat) < ((ub.ceil : Int) : Rat) := by
    have := Rat.le_ceil (x := ub)
    grind
  have := Rat.intCast_lt_intCast.1 h2
  omega

theorem rowEq_def_holds (a : Asg) (ts : Terms) (v : Var) :
    (rowEq (ts ++ [(-1, v)]) 0).holds a ↔ evalTerms a ts = a v := by
  rw [rowEq_holds, evalTerms_append, evalTerms_single]
  constructor <;> intro h <;> grind

theorem sat_prodFrag_iff (a : Asg) (n c p : Var) (lb ub : Rat) (name : String) (nb : Nat) :
    Sat a (prodFrag n c p lb ub name nb) ↔
      (∀ i ∈ List.range nb, (a (bitVar name i) = 0 ∨ a (bitVar name i) = 1) ∧
        (lb ≤ a (compVar name i) ∧ a (compVar name i) ≤ ub) ∧
        ∀ r ∈ binProd (bitVar name i) c (compVar name i) lb ub, r.holds a) ∧
      ((List.range nb).map fun i => (2:Rat)^i * a (bitVar name i)).sum = a n ∧
      ((List.range nb).map fun i => (2:Rat)^i * a (compVar name i)).sum = a p := by
  simp only [Sat, prodFrag, List.forall_mem_append, List.forall_mem_map, List.forall_mem_singleton,
    List.forall_mem_flatMap, col01_holds_iff, rowEq_def_holds, evalTerms_map]
  simp only [col_holds_iff, Bool.false_eq_true, false_imp_iff, and_true]
  constructor
  · rintro ⟨⟨hb, hc⟩, ⟨hn, hm⟩, hp⟩
    exact ⟨fun i hi => ⟨hb i hi, hc i hi, hm i hi⟩, hn, hp⟩
  · rintro ⟨h, hn, hp⟩
    exact ⟨⟨fun i hi => (h i hi).1, fun i hi => (h i hi).2.1⟩, ⟨hn, fun i hi => (h i hi).2.2⟩, hp⟩

/-- the block on the values of its columns: with `c` inside its bounds the four McCormick rows of a bit say
`comp = bit · c` (`binProd_exact`) -/
theorem sat_prodFrag_vals (a : Asg) (n : Var) {c : Var} (p : Var) {lb ub : Rat} (name : String) (nb : Nat)
    (hc : lb ≤ a c ∧ a c ≤ ub) :
    Sat a (prodFrag n c p lb ub name nb) ↔
      (∀ i ∈ List.range nb, (a (bitVar name i) = 0 ∨ a (bitVar name i) = 1) ∧
        (lb ≤ a (compVar name i) ∧ a (compVar name i) ≤ ub) ∧
        a (compVar name i) = a (bitVar name i) * a c) ∧
      ((List.range nb).map fun i => (2:Rat)^i * a (bitVar name i)).sum = a n ∧
      ((List.range nb).map fun i => (2:Rat)^i * a (compVar name i)).sum = a p := by
  rw [sat_prodFrag_iff]
  refine and_congr_left' (forall_congr' fun i => forall_congr' fun _ => ?_)
  exact ⟨fun ⟨h1, h2, h3⟩ => ⟨h1, h2, (binProd_exact a _ c _ lb ub h1 hc).1 h3⟩,
    fun ⟨h1, h2, h3⟩ => ⟨h1, h2, (binProd_exact a _ c _ lb ub h1 hc).2 h3⟩⟩

/-- no box on the continuous factor: a binary bit forces `comp = bit · c` whatever `c` is (`binProd_sound`) -/
theorem prodFrag_sound (a : Asg) (n : Var) {c : Var} (p : Var) {lb ub : Rat} (name : String) {nb : Nat}
    (h : Sat a (prodFrag n c p lb ub name nb)) : a p = a n * a c := by
  obtain ⟨hbits, hn, hp⟩ := (sat_prodFrag_iff a n c p lb ub name nb).1 h
  rw [← hp, ← hn, ← sum_map_mul_right]
  exact congrArg List.sum (List.map_congr_left fun i hi => by
    rw [binProd_sound c _ (hbits i hi).1 (hbits i hi).2.2, Rat.mul_assoc])

/-- completeness from explicit values of the columns: bit `j` is the `j`-th binary digit of `k = n`,
component `j` is that digit times `c` -/
theorem prodFrag_sat_of_values (a : Asg) {n c p : Var} {lb ub : Rat} (name : String) {nb k : Nat}
    (hk : a n = k) (hknb : k < 2 ^ nb) (hlb : lb ≤ 0) (hub0 : 0 ≤ ub) (hc : lb ≤ a c ∧ a c ≤ ub)
    (hp : a p = a n * a c)
    (hbit : ∀ j, a (bitVar name j) = bitOf k j)
    (hcomp : ∀ j, a (compVar name j) = bitOf k j * a c) :
    Sat a (prodFrag n c p lb ub name nb) := by
  refine (sat_prodFrag_vals a n p name nb hc).2 ⟨fun i _ => ⟨?_, ?_, ?_⟩, ?_, ?_⟩
  · rw [hbit]; exact bitOf_01 k i
  · rw [hcomp]; exact mul01_bounds (bitOf_01 k i) hlb hub0 hc.1 hc.2
  · rw [hcomp, hbit]
  · simp only [hbit]; rw [sum_bitOf k nb hknb, hk]
  · simp only [hcomp, ← Rat.mul_assoc]
    rw [sum_map_mul_right, sum_bitOf k nb hknb, hp, hk]

theorem binary_ne_comp (s t : String) : "binary_" ++ s ≠ "comp_" ++ t := by
  intro h
  have := congrArg String.toList h
  simp [String.toList_append] at this

theorem binary_ne_weights (s : String) : "binary_" ++ s ≠ "weights" := by
  intro h
  have := congrArg String.toList h
  simp [String.toList_append] at this

theorem comp_ne_weights (s : String) : "comp_" ++ s ≠ "weights" := by
  intro h
  have := congrArg String.toList h
  simp [String.toList_append] at this

theorem binary_ne_slack (s : String) : "binary_" ++ s ≠ "slack" := by
  intro h
  have := congrArg String.toList h
  simp [String.toList_append] at this

theorem comp_ne_slack (s : String) : "comp_" ++ s ≠ "slack" := by
  intro h
  have := congrArg String.toList h
  simp [String.toList_append] at this

/-- a name ending in `"_i=" ++ i` determines `i` and what stands before it: decimal digits contain no `'_'` -/
theorem index_suffix_inj {x y : List Char} {i j : Nat}
    (h : x ++ "_i=".toList ++ Nat.toDigits 10 i = y ++ "_i=".toList ++ Nat.toDigits 10 j) :
    x = y ∧ i = j := by
  rw [List.append_assoc, List.append_assoc] at h
  obtain ⟨hl, hr⟩ := split_at_last '_' x y ('i' :: '=' :: Nat.toDigits 10 i) ('i' :: '=' :: Nat.toDigits 10 j)
    (by simp [Nat.underscore_not_in_toDigits]) (by simp [Nat.underscore_not_in_toDigits]) h
  exact ⟨hl, toDigits_inj (List.cons.inj (List.cons.inj hr).2).2⟩

theorem intProdQ_prod {a : Asg} {n c p : Var} {lb ub : Rat} {name : String}
    (h : Sat a (intProdQ n c p lb ub name)) : a p = a n * a c :=
  prodFrag_sound a n p name (intProdQ_eq_frag .. ▸ h)

/-- `add_integer_continuous_product_constraint` as the walk models call it: `ub = w_max`, possibly fractional -/
theorem intProdQ_sound (a : Asg) (n c p : Var) (lb ub : Rat) (name : String)
    (hc : lb ≤ a c ∧ a c ≤ ub) (h : Sat a (intProdQ n c p lb ub name)) : a p = a n * a c :=
  have _ := hc -- not needed (`intProdQ_prod`)
  intProdQ_prod h

theorem bits_sum_le (nb : Nat) (f : Nat → Rat) (h01 : ∀ i, i < nb → f i = 0 ∨ f i = 1) :
    ((List.range nb).map fun i => (2:Rat)^i * f i).sum ≤ (2:Rat)^nb - 1 := by
  induction nb with
  | zero => simp; decide +kernel
  | succ nb ih =>
    rw [List.range_succ, List.map_append, List.sum_append]
    have := ih (fun i hi => h01 i (by omega))
    have hp : (2:Rat)^(nb+1) = (2:Rat)^nb * 2 := Rat.pow_succ ..
    have hpos : (0:Rat) ≤ (2:Rat)^nb := Rat.pow_nonneg (by decide)
    simp only [List.map_cons, List.map_nil, List.sum_cons, List.sum_nil]
    rcases h01 nb (by omega) with h | h <;> rw [h, hp] <;> grind

theorem intProdQ_factor_lt {a : Asg} {n c p : Var} {lb ub : Rat} {name : String}
    (h : Sat a (intProdQ n c p lb ub name)) {k : Nat} (hk : a n = k) : k < 2 ^ klaecBitsOf ub := by
  rw [intProdQ_eq_frag] at h
  obtain ⟨hb, hn, _⟩ := (sat_prodFrag_iff a n c p lb ub name (klaecBitsOf ub)).1 h
  generalize klaecBitsOf ub = nb at hb hn ⊢
  -- the bit columns sum to the integer factor
  have hle : (k : Rat) ≤ (2:Rat)^nb - 1 := by
    rw [← hk, ← hn]
    exact bits_sum_le nb (fun i => a (bitVar name i)) (fun i hi => (hb i (List.mem_range.2 hi)).1)
  have h1 : ((2^nb : Nat) : Rat) = (2:Rat)^nb := by rw [Rat.natCast_pow]; rfl
  have h2 : ((k + 1 : Nat) : Rat) ≤ ((2^nb : Nat) : Rat) := by
    rw [h1, Rat.natCast_add]; simp; grind
  exact Rat.natCast_le_natCast.1 h2

theorem intProdQ_sat_of_bits (a : Asg) (n c p : Var) (ub : Rat) (name : String) (k : Nat)
    (hk : a n = k) (hkb : k < 2 ^ klaecBitsOf ub) (hc : 0 ≤ a c ∧ a c ≤ ub)
    (hp : a p = a n * a c)
    (hbit : ∀ j, a (bitVar name j) = bitOf k j)
    (hcomp : ∀ j, a (compVar name j) = bitOf k j * a c) :
    Sat a (intProdQ n c p 0 ub name) := by
  rw [intProdQ_eq_frag]
  exact prodFrag_sat_of_values a name hk hkb Rat.le_refl (Rat.le_trans hc.1 hc.2) hc hp
    hbit hcomp

/-- values for the bit and component columns of the product blocks `idx` (block `p` has the name
`name p`, the integer factor `mult p` and the continuous factor `cont p`); every other column as in
`base` -/
def klaecProdAsg {ι : Type} (idx : List ι) (name : ι → String) (mult : ι → Nat) (cont : ι → Rat)
    (base : Asg) : Asg := fun v =>
  match v with
  | .ix pfx j =>
    match idx.find? (fun p => pfx = "binary_" ++ name p) with
    | some p => bitOf (mult p) j
    | none =>
      match idx.find? (fun p => pfx = "comp_" ++ name p) with
      | some p => bitOf (mult p) j * cont p
      | none => base v
  | _ => base v

theorem find?_prefixed_name {ι : Type} {idx : List ι} {name : ι → String}
    (hinj : ∀ p ∈ idx, ∀ q ∈ idx, name p = name q → p = q) (pre : String) {p : ι} (hp : p ∈ idx) :
    idx.find? (fun q => pre ++ name p = pre ++ name q) = some p :=
  find?_unique idx _ p hp (decide_eq_true rfl) fun q hq hqe =>
    hinj q hq p hp ((String.append_right_inj _).1 (of_decide_eq_true hqe)).symm

/-- companion of `find?_prefixed_name`: no name with the prefix `pre` is `pfx` -/
theorem find?_prefix_none {ι : Type} (idx : List ι) (name : ι → String) {pre pfx : String}
    (h : ∀ s, pre ++ s ≠ pfx) : idx.find? (fun q => pfx = pre ++ name q) = none :=
  find?_none_of_forall _ _ fun q _ => decide_eq_false fun hq => h (name q) hq.symm

section ProdAsg
variable {ι : Type} (idx : List ι) (name : ι → String) (mult : ι → Nat) (cont : ι → Rat) (base : Asg)

theorem klaecProdAsg_uvi (pfx u v : String) (i : Nat) :
    klaecProdAsg idx name mult cont base (.uvi pfx u v i) = base (.uvi pfx u v i) := rfl

theorem klaecProdAsg_uv (pfx u v : String) :
    klaecProdAsg idx name mult cont base (.uv pfx u v) = base (.uv pfx u v) := rfl

theorem klaecProdAsg_vi (pfx u : String) (i : Nat) :
    klaecProdAsg idx name mult cont base (.vi pfx u i) = base (.vi pfx u i) := rfl

theorem klaecProdAsg_ij (pfx : String) (i j : Nat) :
    klaecProdAsg idx name mult cont base (.ij pfx i j) = base (.ij pfx i j) := rfl

theorem klaecProdAsg_ix_other (pfx : String) (j : Nat)
    (h1 : ∀ s, "binary_" ++ s ≠ pfx) (h2 : ∀ s, "comp_" ++ s ≠ pfx) :
    klaecProdAsg idx name mult cont base (.ix pfx j) = base (.ix pfx j) := by
  unfold klaecProdAsg
  simp only
  rw [find?_prefix_none _ _ h1, find?_prefix_none _ _ h2]

theorem klaecProdAsg_bit (hinj : ∀ p ∈ idx, ∀ q ∈ idx, name p = name q → p = q)
    (p : ι) (hp : p ∈ idx) (j : Nat) :
    klaecProdAsg idx name mult cont base (bitVar (name p) j) = bitOf (mult p) j := by
  unfold klaecProdAsg bitVar
  simp only
  rw [find?_prefixed_name hinj "binary_" hp]

theorem klaecProdAsg_comp (hinj : ∀ p ∈ idx, ∀ q ∈ idx, name p = name q → p = q)
    (p : ι) (hp : p ∈ idx) (j : Nat) :
    klaecProdAsg idx name mult cont base (compVar (name p) j) = bitOf (mult p) j * cont p := by
  unfold klaecProdAsg compVar
  simp only
  rw [find?_prefix_none _ _ fun s => binary_ne_comp s _, find?_prefixed_name hinj "comp_" hp]

theorem klaecProdAsg_other (v : Var) (h : ∀ p ∈ idx, ∀ j, v ≠ bitVar (name p) j ∧ v ≠ compVar (name p) j) :
    klaecProdAsg idx name mult cont base v = base v := by
  cases v with
  | ix pfx j =>
    unfold klaecProdAsg
    simp only
    rw [find?_none_of_forall _ _ (fun p hp => decide_eq_false fun (e : pfx = _) => (h p hp j).1 (e ▸ rfl)),
      find?_none_of_forall _ _ (fun p hp => decide_eq_false fun (e : pfx = _) => (h p hp j).2 (e ▸ rfl))]
  | _ => rfl

end ProdAsg

end FP
