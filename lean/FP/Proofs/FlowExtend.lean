import FP.Spec.ErrorFlow
import FP.Proofs.Augment
/-!
A non-negative edge function on the user's graph extends to a flow on the s-t augmentation: the excess a node emits
enters through its source edge, the excess it absorbs leaves through its sink edge (`extendUser`, `isFlow_extendUser`),
provided no excess is asked of a synthetic edge that is absent. Integrality carries over (`isInt_extendUser`).
Conversely a flow on the augmentation balances every node of the user's graph once its synthetic edges are counted
(`aug_balance`).
-/
namespace FP
open FP.Spec

def posPart (q : Rat) : Rat := if 0 ≤ q then q else 0

theorem posPart_nonneg (q : Rat) : 0 ≤ posPart q := by
  unfold posPart; split
  · assumption
  · exact Rat.le_refl

theorem posPart_int (q : Rat) (h : ∃ z : Int, q = z) : ∃ z : Int, posPart q = z := by
  unfold posPart; split
  · exact h
  · exact ⟨0, by simp⟩

theorem posPart_sub_of_le {a b : Rat} (h : a ≤ b) : posPart (a - b) = 0 := by
  unfold posPart; split
  · rw [Rat.le_antisymm h ((Rat.le_iff_sub_nonneg b a).2 ‹_›), Rat.sub_self]
  · rfl

/-- a node is balanced once its emitted excess comes in through the source edge and its absorbed excess
goes out through the sink edge; an edge that is absent would carry `0` -/
theorem posPart_balance (i o : Rat) (s t : Bool) (h1 : t = false → i ≤ o) (h2 : s = false → o ≤ i) :
    i + (if s then posPart (o - i) else 0) = o + (if t then posPart (i - o) else 0) := by
  have hs : (if s then posPart (o - i) else 0) = posPart (o - i) := by
    cases s
    · exact (posPart_sub_of_le (h2 rfl)).symm
    · rfl
  have ht : (if t then posPart (i - o) else 0) = posPart (i - o) := by
    cases t
    · exact (posPart_sub_of_le (h1 rfl)).symm
    · rfl
  rw [hs, ht]
  unfold posPart; grind

/-- values of the synthetic edges: the excess a node emits comes from the source, the excess it absorbs
goes to the sink -/
def extendUser (b : Graph) (y : Edge → Rat) : Edge → Rat := fun e =>
  if e.1 = srcName then posPart (outSum b y e.2 - inSum b y e.2)
  else if e.2 = snkName then posPart (inSum b y e.1 - outSum b y e.1)
  else y e

section Extend
variable {b : Graph} (hwf : BaseWF b) (y : Edge → Rat)

include hwf in
theorem extendUser_base (e : Edge) (he : e ∈ b.edges) : extendUser b y e = y e := by
  have hc := hwf.closed e he
  have n1 : e.1 ≠ srcName := fun h => hwf.freshSrc (h ▸ hc.1)
  have n2 : e.2 ≠ snkName := fun h => hwf.freshSnk (h ▸ hc.2)
  simp [extendUser, n1, n2]

theorem extendUser_src (v : Node) :
    extendUser b y (srcName, v) = posPart (outSum b y v - inSum b y v) := by
  simp [extendUser]

include hwf in
theorem extendUser_snk (v : Node) (hv : v ∈ b.nodes) :
    extendUser b y (v, snkName) = posPart (inSum b y v - outSum b y v) := by
  have : v ≠ srcName := fun h => hwf.freshSrc (h ▸ hv)
  simp [extendUser, this]

include hwf in
/-- what holds of `y` on the user's edges and of every excess holds of `extendUser` on the model graph -/
theorem extendUser_forall {st en : List Node} (P : Rat → Prop) (hb : ∀ e ∈ b.edges, P (y e))
    (hp : ∀ v, P (posPart (outSum b y v - inSum b y v)) ∧ P (posPart (inSum b y v - outSum b y v))) :
    ∀ e ∈ (augment b st en).g.edges, P (extendUser b y e) := by
  intro e he
  rcases (aug_mem_edges hwf).1 he with h | h | h
  · rw [extendUser_base hwf y e h]; exact hb e h
  · obtain ⟨h1, h2, _⟩ := mem_snkEdges.1 h
    have : e = (e.1, snkName) := Prod.ext rfl h1
    rw [this, extendUser_snk hwf y _ h2]; exact (hp _).2
  · obtain ⟨h1, _, _⟩ := mem_srcEdges.1 h
    have : e = (srcName, e.2) := Prod.ext h1 rfl
    rw [this, extendUser_src]; exact (hp _).1

end Extend

theorem isFlow_extendUser {b : Graph} {st en : List Node} (hwf : BaseWF b) (y : Edge → Rat)
    (hnn : ∀ e ∈ b.edges, 0 ≤ y e)
    (h1 : ∀ v ∈ b.nodes, b.outEdges v ≠ [] → v ∉ en → inSum b y v ≤ outSum b y v)
    (h2 : ∀ v ∈ b.nodes, b.inEdges v ≠ [] → v ∉ st → outSum b y v ≤ inSum b y v) :
    IsFlow (augment b st en).g (extendUser b y) := by
  have hbase := extendUser_base hwf y
  have hin : ∀ v, ((b.inEdges v).map (extendUser b y)).sum = inSum b y v := inflow_congr hbase
  have hout : ∀ v, ((b.outEdges v).map (extendUser b y)).sum = outSum b y v := outflow_congr hbase
  refine ⟨extendUser_forall hwf y (0 ≤ ·) hnn fun v => ⟨posPart_nonneg _, posPart_nonneg _⟩, ?_⟩
  intro v hv hi ho
  rcases aug_mem_nodes.1 hv with hb | ⟨rfl, _⟩ | ⟨rfl, _⟩
  · refine (aug_inEdges_sum hwf _ v hb).trans (.trans ?_ (aug_outEdges_sum hwf _ v hb).symm)
    rw [hin, hout, extendUser_src, extendUser_snk hwf y v hb]
    exact posPart_balance _ _ _ _
      (fun hf => have ⟨a, c⟩ := isEnd_eq_false_iff.1 hf; h1 v hb a c)
      (fun hf => have ⟨a, c⟩ := isStart_eq_false_iff.1 hf; h2 v hb a c)
  · obtain ⟨e, he⟩ := List.exists_mem_of_ne_nil _ hi
    have hm := List.mem_filter.1 he
    exact absurd (by simpa using hm.2) (aug_srcNoIn hwf e hm.1)
  · obtain ⟨e, he⟩ := List.exists_mem_of_ne_nil _ ho
    have hm := List.mem_filter.1 he
    exact absurd (by simpa using hm.2) (aug_snkNoOut hwf e hm.1)

theorem isInt_extendUser {b : Graph} {st en : List Node} (hwf : BaseWF b) (y : Edge → Rat)
    (hint : ∀ e ∈ b.edges, ∃ z : Int, y e = z) :
    ∀ e ∈ (augment b st en).g.edges, ∃ z : Int, extendUser b y e = z := by
  have hsumi : ∀ v, ∃ z : Int, inSum b y v = z := fun v =>
    sum_map_isInt (fun e he => hint e (List.mem_filter.1 he).1)
  have hsumo : ∀ v, ∃ z : Int, outSum b y v = z := fun v =>
    sum_map_isInt (fun e he => hint e (List.mem_filter.1 he).1)
  have hsub : ∀ p q : Rat, (∃ z : Int, p = z) → (∃ z : Int, q = z) → ∃ z : Int, posPart (p - q) = z :=
    fun p q hp hq => posPart_int _ (sub_isInt hp hq)
  exact extendUser_forall hwf y (fun q => ∃ z : Int, q = z) hint fun v =>
    ⟨hsub _ _ (hsumo v) (hsumi v), hsub _ _ (hsumi v) (hsumo v)⟩

section Balance
variable {b : Graph} {st en : List Node} (hwf : BaseWF b) (x : Edge → Rat)
  (hx : IsFlow (augment b st en).g x)

include hwf hx in
/-- a flow on the s-t augmentation balances every node of the user's graph once the node's synthetic
edges are counted -/
theorem aug_balance (v : Node) (hv : v ∈ b.nodes) :
    inSum b x v + (if isStart b st v then x (srcName, v) else 0)
      = outSum b x v + (if isEnd b en v then x (v, snkName) else 0) := by
  have hvA : v ∈ (augment b st en).g.nodes := aug_mem_nodes.2 (Or.inl hv)
  have hinner := aug_inner (st := st) (en := en) hwf v hvA
    (fun h => hwf.freshSrc (h ▸ hv)) (fun h => hwf.freshSnk (h ▸ hv))
  have hc := hx.cons v hvA (fun h => hinner.1 (List.map_eq_nil_iff.2 h))
    (fun h => hinner.2 (List.map_eq_nil_iff.2 h))
  exact (aug_inEdges_sum hwf x v hv).symm.trans (hc.trans (aug_outEdges_sum hwf x v hv))

include hwf hx in
theorem aug_synth_nonneg (v : Node) (hv : v ∈ b.nodes) :
    0 ≤ (if isStart b st v then x (srcName, v) else 0) ∧
    0 ≤ (if isEnd b en v then x (v, snkName) else 0) := by
  constructor
  · split
    · rename_i h
      exact hx.nonneg _ ((aug_mem_edges hwf).2
        (Or.inr (Or.inr (mem_srcEdges.2 ⟨rfl, hv, isStart_iff.1 h⟩))))
    · exact Rat.le_refl
  · split
    · rename_i h
      exact hx.nonneg _ ((aug_mem_edges hwf).2
        (Or.inr (Or.inl (mem_snkEdges.2 ⟨rfl, hv, isEnd_iff.1 h⟩))))
    · exact Rat.le_refl

end Balance

end FP
