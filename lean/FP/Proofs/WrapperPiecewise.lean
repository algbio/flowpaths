import FP.Proofs.LP
/-!
# FP.Proofs.WrapperPiecewise — the rows of `piecewise` (`add_piecewise_constant_constraint`)

One selector row plus a four-row big-M block per range; `pwAsg` sets the selector for completeness.
-/
namespace FP

def pwBlock (x y : Var) (M My : Rat) (name : String) (t : Nat × (Rat × Rat) × Rat) : List Row :=
  [ rowGe [(1, x), (-M, zVar name t.1)] (t.2.1.1 - M),
    rowLe [(1, x), (M, zVar name t.1)] (t.2.1.2 + M),
    rowLe [(1, y), (My, zVar name t.1)] (t.2.2 + My),
    rowGe [(1, y), (-My, zVar name t.1)] (t.2.2 - My) ]

theorem piecewise_rows (x y : Var) (ranges : List (Rat × Rat)) (constants : List Rat) (name : String) :
    (piecewise x y ranges constants name).rows =
      [rowEq ((List.range ranges.length).map (fun i => ((1:Rat), zVar name i))) 1]
      ++ ((List.range ranges.length).zip (ranges.zip constants)).flatMap
          (pwBlock x y (bigM ranges) (bigMy constants) name) := rfl

theorem pwBlock_holds (a : Asg) (x y : Var) (M My : Rat) (name : String)
    (t : Nat × (Rat × Rat) × Rat) :
    (∀ r ∈ pwBlock x y M My name t, r.holds a) ↔
      (t.2.1.1 - M ≤ a x + -M * a (zVar name t.1) ∧ a x + M * a (zVar name t.1) ≤ t.2.1.2 + M ∧
       a y + My * a (zVar name t.1) ≤ t.2.2 + My ∧ t.2.2 - My ≤ a y + -My * a (zVar name t.1)) := by
  simp only [pwBlock, List.forall_mem_cons, List.not_mem_nil, false_imp_iff, implies_true, and_true,
    rowGe_holds, rowLe_holds, evalTerms_cons, evalTerms_nil, Rat.add_zero, Rat.one_mul]

/-- `bigM` exceeds the distance between any two points of the covered interval -/
theorem sub_le_bigM (ranges : List (Rat × Rat)) {u v : Rat} (hu : u ≤ listMax (ranges.map (·.2)))
    (hv : listMin (ranges.map (·.1)) ≤ v)
    (hne : listMin (ranges.map (·.1)) ≤ listMax (ranges.map (·.2))) : u - v ≤ bigM ranges := by
  unfold bigM; grind

theorem sub_le_bigMy (constants : List Rat) {u v : Rat} (hu : u ∈ constants) (hv : v ∈ constants) :
    u - v ≤ bigMy constants := by
  have h1 := le_listMax hu
  have h2 := listMin_le hv
  unfold bigMy; grind

def pwAsg (a : Asg) (name : String) (j : Nat) : Asg := fun v =>
  match v with
  | .ix pfx i => if pfx = "z_" ++ name then (if i = j then 1 else 0) else a v
  | v => a v

theorem pwAsg_z (a : Asg) (name : String) (j i : Nat) :
    pwAsg a name j (zVar name i) = if i = j then 1 else 0 := by
  simp [pwAsg, zVar]

theorem pwAsg_other (a : Asg) (name : String) (j : Nat) (v : Var) (hv : ∀ i, v ≠ zVar name i) :
    pwAsg a name j v = a v := by
  cases v with
  | ix pfx i =>
    have h1 : pfx ≠ "z_" ++ name := by
      intro h; exact hv i (by simp [zVar, h])
    simp [pwAsg, h1]
  | _ => rfl

end FP
