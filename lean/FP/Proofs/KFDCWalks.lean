import FP.Proofs.KFDCComplete
import FP.Proofs.WalkWitness
import FP.Proofs.KFDCSearch
import FP.Proofs.Reach
/-!
Completeness of `kfdcLP` stated for walks: the assignment of a family `WalkDecompWithin` satisfies the LP (`kfdcWalkAsg_sat`). When the caps are the floored flow values (`CapsAreFlows`), a decomposition with weights
`≥ 1` is such a family without any cap hypothesis (`within_of_int`).

The product blocks of the k-models have pairwise different names (`nameInj_withK`) under a condition on the
edges alone: `kfdcProdName e i` is `"i=" ++ i ++ "_u=" ++ e.1 ++ "_v=" ++ e.2 ++ "_10"`, the decimal digits of
`i` contain no `'_'`, so the name determines `i`; node names are arbitrary strings, so it determines `e` only
if `e.1 ++ "_v=" ++ e.2` does.
-/
namespace FP
open FP.Spec

/-- a family of `inp.k` weighted walks that the k-model can represent -/
structure WalkDecompWithin (inp : WalkInput) (walk : Nat → List Node) (w : Nat → Rat) : Prop where
  isWalk : ∀ i, i < inp.k → IsWalkIn inp.st.g (inp.st.source :: walk i ++ [inp.st.sink])
  /-- every walk respects the repetition caps (floor of the own flow value inside an SCC, 1 outside) -/
  withinCap : ∀ i, i < inp.k → ∀ e ∈ inp.st.g.edges,
    (traversals (inp.st.source :: walk i ++ [inp.st.sink]) e : Rat) ≤ kfdcCap inp e
  weights : ∀ i, i < inp.k → 0 ≤ w i ∧ w i ≤ inp.wmax false ∧ (inp.weightInt = true → ∃ z : Int, w i = z)
  /-- no walk runs through a non-ignored edge more than `w_max` times (implied by the caps when every
  flow value is at most `w_max`) -/
  multBits : ∀ i, i < inp.k → ∀ e ∈ inp.activeEdges false,
    (traversals (inp.st.source :: walk i ++ [inp.st.sink]) e : Rat) ≤ inp.wmax false
  flowLe : ∀ e ∈ inp.activeEdges false, inp.f e ≤ inp.wmax false
  decomposes : IsWalkDecomp inp.st.source inp.st.sink (inp.activeEdges false) inp.f inp.k walk w
  covered : ∀ j (hj : j < inp.cfg.constraints.length), ∃ i, i < inp.k ∧
    coversB (multsOf inp.st.source inp.st.sink walk i) inp.cfg.constraints[j] inp.cfg.coverage = true

theorem kfdcWalkAsg_sat (inp : WalkInput) (walk : Nat → List Node) (w : Nat → Rat)
    (hb : BaseWF inp.base) (hinj : NameInj inp) (h : WalkDecompWithin inp walk w) :
    Sat (kfdcAsg inp (multsOf inp.st.source inp.st.sink walk) w
      (fun i => walkSel (inp.st.source :: walk i ++ [inp.st.sink]))
      (fun i => walkDist inp.st.g.nodes (inp.st.source :: walk i ++ [inp.st.sink]))) (kfdcLP inp none) :=
  have hwf : STWFc inp.st := hb.stwfc
  kfdcAsg_sat inp _ w _ _ hwf hinj
    { layer := fun i hi => walk_layer_witness inp.st hwf _ _ (h.isWalk i hi) (h.withinCap i hi)
      weights := h.weights
      multBits := h.multBits
      flowLe := h.flowLe
      explains := h.decomposes
      covered := h.covered }

theorem feasible_of_walks (inp : WalkInput) (j : Nat) (walk : Nat → List Node) (w : Nat → Rat)
    (hb : BaseWF inp.base) (hinj : NameInj (inp.withK j))
    (h : WalkDecompWithin (inp.withK j) walk w) : KfdcFeasible inp j :=
  ⟨_, kfdcWalkAsg_sat (inp.withK j) walk w hb hinj h⟩

def CapsAreFlows (inp : WalkInput) : Prop :=
  ∀ e ∈ inp.st.g.edges, isSccEdge inp.st.g e = true →
    e ∈ inp.activeEdges false ∧ kfdcCap inp e = (((inp.f e).floor : Int) : Rat)

theorem mem_activeEdges_false (inp : WalkInput) (e : Edge) :
    e ∈ inp.activeEdges false ↔
      e ∈ inp.st.g.edges ∧ e.1 ≠ inp.st.source ∧ e.2 ≠ inp.st.sink ∧ e ∉ inp.ignore := by
  simp only [WalkInput.activeEdges, WalkInput.ignored, STGraph.sourceSinkEdges, STGraph.sourceEdges,
    STGraph.sinkEdges, Graph.outEdges, Graph.inEdges, Bool.false_and, Bool.or_false, Bool.not_eq_true',
    Bool.or_eq_false_iff, List.contains_eq_mem, List.mem_append, List.mem_filter, decide_eq_false_iff_not,
    decide_eq_true_eq, not_or, not_and]
  exact ⟨fun ⟨he, ⟨h1, h2⟩, h3⟩ => ⟨he, h1 he, h2 he, h3⟩, fun ⟨he, h1, h2, h3⟩ => ⟨he, ⟨fun _ => h1, fun _ => h2⟩, h3⟩⟩

section Caps
variable (inp : WalkInput) (hb : BaseWF inp.base)
include hb

theorem kfdcr_active_base (e : Edge) (he : e ∈ inp.activeEdges false) :
    e ∈ inp.st.g.edges ∧ e ∈ inp.base.edges :=
  have h := (mem_activeEdges_false inp e).1 he
  ⟨h.1, (aug_inner_edge_iff hb).1 ⟨h.1, h.2.1, h.2.2.1⟩⟩

/-- the synthetic endpoints lie on no cycle, so an SCC edge joins two vertices of the user's graph -/
theorem scc_edge_inner {e : Edge} (he : e ∈ inp.st.g.edges) (hscc : isSccEdge inp.st.g e = true) :
    e.1 ≠ inp.st.source ∧ e.2 ≠ inp.st.sink := by
  obtain ⟨⟨e1, he1, h1⟩, e2, he2, h2⟩ := scc_edge_in_out inp.st.g hb.stwfc.closed e he hscc
  exact ⟨h1 ▸ hb.stwfc.srcNoIn e1 he1, h2 ▸ hb.stwfc.snkNoOut e2 he2⟩

theorem kfdcr_cap_attr (hattr : ∀ e ∈ inp.base.edges, ∃ q, inp.fOpt e = some q) (k : Nat) (e : Edge)
    (he : e ∈ inp.st.g.edges) :
    kfdcCap (inp.withK k) e = if isSccEdge inp.st.g e then (((inp.f e).floor : Int) : Rat) else 1 := by
  rw [kfdcCap_eq (inp := inp.withK k) he]
  show (if isSccEdge inp.st.g e then ((((inp.fOpt e).getD ((inp.withK k).wmax false)).floor : Int) : Rat) else 1) = _
  cases hscc : isSccEdge inp.st.g e with
  | false => rfl
  | true =>
    obtain ⟨h1, h2⟩ := scc_edge_inner inp hb he hscc
    obtain ⟨q, hq⟩ := hattr e ((aug_inner_edge_iff hb).1 ⟨he, h1, h2⟩)
    simp [WalkInput.f, hq]

end Caps

/-- every edge of the user's graph carries the flow attribute, in a form a concrete input decides -/
theorem attr_of_all (inp : WalkInput) (h : inp.base.edges.all (fun e => (inp.fOpt e).isSome) = true) :
    ∀ e ∈ inp.base.edges, ∃ q, inp.fOpt e = some q :=
  fun e he => Option.isSome_iff_exists.1 (List.all_eq_true.1 h e he)

/-- A plain flow instance (nothing ignored, every edge of the user's graph carries its flow value) has
`CapsAreFlows`: the synthetic edges are never SCC edges. -/
theorem caps_are_flows (inp : WalkInput) (hb : BaseWF inp.base) (hign : inp.ignore = [])
    (hattr : ∀ e ∈ inp.base.edges, ∃ q, inp.fOpt e = some q) : CapsAreFlows inp := by
  intro e he hscc
  obtain ⟨h1, h2⟩ := scc_edge_inner inp hb he hscc
  have hcap := kfdcr_cap_attr inp hb hattr inp.k e he
  rw [hscc] at hcap
  exact ⟨(mem_activeEdges_false inp e).2 ⟨he, h1, h2, by rw [hign]; exact List.not_mem_nil⟩, hcap⟩

/-- at most `floor (f e)` traversals on an SCC edge (`cap_adequate_floor`), at most one elsewhere
(`nonScc_once`) -/
theorem withinCap_of_int (inp : WalkInput) (walk : Nat → List Node) (w : Nat → Rat)
    (hb : BaseWF inp.base) (hcaps : CapsAreFlows inp)
    (hwalk : ∀ i, i < inp.k → IsWalkIn inp.st.g (inp.st.source :: walk i ++ [inp.st.sink]))
    (hw : ∀ i, i < inp.k → 1 ≤ w i)
    (hdec : IsWalkDecomp inp.st.source inp.st.sink (inp.activeEdges false) inp.f inp.k walk w) :
    ∀ i, i < inp.k → ∀ e ∈ inp.st.g.edges,
      (traversals (inp.st.source :: walk i ++ [inp.st.sink]) e : Rat) ≤ kfdcCap inp e := by
  intro i hi e he
  cases hs : isSccEdge inp.st.g e with
  | true =>
    obtain ⟨hact, hcap⟩ := hcaps e he hs
    rw [hcap]
    exact cap_adequate_floor inp.k (multsOf inp.st.source inp.st.sink walk) w (inp.f e) e
      (fun j hj => Rat.le_trans (by decide) (hw j hj)) (hdec e hact) i hi (hw i hi)
  | false =>
    rw [kfdcCap_eq he, hs]
    exact natCast_le_one.2 (nonScc_once inp.st.g hb.stwfc.closed _ (hwalk i hi) e he hs)

/-- Weights `≥ 1` need no cap hypothesis: `k` walks of the augmented graph with weights in `[1, w_max]`,
decomposing a flow whose values are at most `w_max`, on an input whose caps are the floored flow values, are
within the caps — a natural number of traversals below the flow value is below its floor. -/
theorem within_of_int (inp : WalkInput) (walk : Nat → List Node) (w : Nat → Rat)
    (hb : BaseWF inp.base) (hcaps : CapsAreFlows inp)
    (hwalk : ∀ i, i < inp.k → IsWalkIn inp.st.g (inp.st.source :: walk i ++ [inp.st.sink]))
    (hw : ∀ i, i < inp.k → 1 ≤ w i ∧ w i ≤ inp.wmax false ∧ (inp.weightInt = true → ∃ z : Int, w i = z))
    (hflow : ∀ e ∈ inp.activeEdges false, inp.f e ≤ inp.wmax false)
    (hdec : IsWalkDecomp inp.st.source inp.st.sink (inp.activeEdges false) inp.f inp.k walk w)
    (hcov : ∀ j (hj : j < inp.cfg.constraints.length), ∃ i, i < inp.k ∧
      coversB (multsOf inp.st.source inp.st.sink walk i) inp.cfg.constraints[j] inp.cfg.coverage = true) :
    WalkDecompWithin inp walk w := by
  have hcap := withinCap_of_int inp walk w hb hcaps hwalk (fun i hi => (hw i hi).1) hdec
  refine ⟨hwalk, hcap, fun i hi => ⟨Rat.le_trans (by decide) (hw i hi).1, (hw i hi).2⟩, ?_, hflow, hdec, hcov⟩
  -- the caps are at most `w_max`: a floored flow value, or `1 ≤ w i`
  intro i hi e he
  have hee : e ∈ inp.st.g.edges := (List.mem_filter.1 he).1
  refine Rat.le_trans (hcap i hi e hee) ?_
  cases hs : isSccEdge inp.st.g e with
  | true =>
    rw [(hcaps e hee hs).2]
    exact Rat.le_trans (Rat.floor_le _) (hflow e he)
  | false =>
    rw [kfdcCap_eq hee, hs]
    exact Rat.le_trans (hw i hi).1 (hw i hi).2.1

theorem kfdcProdName_inj {e e' : Edge} {i j : Nat} (h : kfdcProdName e i = kfdcProdName e' j) :
    i = j ∧ e.1 ++ "_v=" ++ e.2 = e'.1 ++ "_v=" ++ e'.2 := by
  have h := congrArg String.toList h
  simp only [kfdcProdName, String.toList_append, Nat.toString_eq_repr, Nat.toList_repr,
    List.append_assoc] at h
  obtain ⟨hd, hr⟩ := split_at_first '_' _ _ _ _ Nat.underscore_not_in_toDigits
    Nat.underscore_not_in_toDigits (List.append_cancel_left h)
  refine ⟨toDigits_inj hd, String.toList_inj.1 ?_⟩
  simp only [String.toList_append, List.append_assoc]
  have hr := List.append_cancel_left (as := ['u', '=']) hr
  simp only [← List.append_assoc] at hr ⊢
  exact List.append_cancel_right hr

theorem nameInj_withK (inp : WalkInput)
    (h : ∀ e ∈ inp.activeEdges false, ∀ e' ∈ inp.activeEdges false,
      e.1 ++ "_v=" ++ e.2 = e'.1 ++ "_v=" ++ e'.2 → e = e') (k : Nat) : NameInj (inp.withK k) := by
  rintro ⟨e, i⟩ hp ⟨e', j⟩ hq hn
  obtain ⟨rfl, hee⟩ := kfdcProdName_inj (e := e) (i := i) (e' := e') (j := j) hn
  rw [h e (mem_kfdcProds.1 hp).1 e' (mem_kfdcProds.1 hq).1 hee]

end FP
