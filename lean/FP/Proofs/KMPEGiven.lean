import FP.Proofs.KLAEGiven
import FP.Proofs.KMPE
/-!
k-Min-Path-Error with `solution_weights_superset` on DAGs. `kmpeGivenLP inp ws originalK` is the LP of
`_encode_minpatherror_decomposition_with_given_weights` followed by `_encode_objective`. There are no weight or
`pi` columns: rows 9aa / 9ab multiply the edge columns by the given numbers; `gamma(e,i) = x(e,i) · slack_i` (the
length-scaled slack when `path_length_factors` is given), and the row `max_paths_original_k_paths` caps the number
of used layers.
-/
namespace FP
open FP.Spec FP.Spec.MPE

theorem kmpeg_sat_iff (inp : MpeInput) (ws : List Rat) (ok : Nat) (a : Asg) :
    Sat a (kmpeGivenLP inp ws ok) ↔
    Sat a (encodePaths inp.ei.st inp.ei.fi.cfg) ∧
    ((∀ i, i < inp.ei.k → 0 ≤ a (slackVar i) ∧ a (slackVar i) ≤ inp.ei.wmax (some ws) ∧
        (inp.ei.fi.weightInt = true → IsInt (a (slackVar i)))) ∧
      (∀ i, i < inp.ei.k → ∀ e ∈ inp.ei.st.g.edges,
        0 ≤ a (gammaVar e i) ∧ a (gammaVar e i) ≤ inp.ei.wmax (some ws))) ∧
    Sat a (factorBlock inp inp.ei.k (inp.ei.wmax (some ws))) ∧
    (∀ e ∈ inp.ei.basicEdges, ∀ i, i < inp.ei.k →
      ∀ r ∈ binProd (edgeVar e i) (inp.slackFor i) (gammaVar e i) 0 (inp.ei.wmax (some ws)), r.holds a) ∧
    (∀ e ∈ inp.ei.basicEdges, ∀ r ∈ errRows (inp.ei.fi.f e) (inp.ei.scale e)
        (klaegSumW inp.ei ws e) (ones (List.range inp.ei.k) (gammaVar e)), r.holds a) ∧
    evalTerms a ((List.range inp.ei.k).flatMap fun i =>
        ones (inp.ei.st.g.succ inp.ei.st.source) (fun v => edgeVar (inp.ei.st.source, v) i)) ≤ ok := by
  unfold kmpeGivenLP
  rw [sat_append_iff, sat_append_iff, sat_append_iff, and_assoc, and_assoc]
  refine and_congr_right' (and_congr ?_ (and_congr_right' ?_))
  · simp only [Sat, slackCols, gammaCols, List.forall_mem_append, List.forall_mem_flatMap,
      List.forall_mem_map, List.mem_range, col_holds_iff, List.not_mem_nil, false_imp_iff, implies_true,
      and_true, Bool.false_eq_true]
    exact Iff.rfl
  · simp only [Sat, List.forall_mem_append, List.forall_mem_flatMap, coupleBin_holds, List.forall_mem_cons,
      List.not_mem_nil, false_imp_iff, implies_true, true_and, and_true, and_assoc]
    rw [rowLe_holds]
    exact Iff.rfl

theorem kmpe_given_sound (inp : MpeInput) (ws : List Rat) (ok : Nat) (a : Asg)
    (h : BaseWF inp.ei.fi.base) (hac : Acyclic inp.ei.fi.base) (hfac : inp.factors = [])
    (hsat : Sat a (kmpeGivenLP inp ws ok)) :
    ∃ ps : List (List Node),
      decodePaths inp.ei.st (fun e i => a (edgeVar e i)) inp.ei.k = some ps ∧ ps.length = inp.ei.k ∧
      GivenBounded inp.ei ws ok (fun i => ps.getD i []) (fun i => a (slackVar i)) ∧
      (∀ i, i < inp.ei.k → ps.getD i [] ≠ [] →
        ValidRoute inp.ei.fi.base inp.ei.fi.starts inp.ei.fi.ends (ps.getD i []) ∧ (ps.getD i []).Nodup) ∧
      (∀ i, i < inp.ei.k → ∀ e ∈ inp.ei.st.g.edges, a (edgeVar e i) = trav inp.ei.st (ps.getD i []) e) ∧
      (∀ e ∈ inp.ei.basicEdges, ∀ i, i < inp.ei.k →
        a (gammaVar e i) = a (edgeVar e i) * a (slackVar i)) ∧
      evalTerms a (kmpeGivenLP inp ws ok).obj = totalSlack inp.ei.k (fun i => a (slackVar i)) := by
  have hwf : STWF inp.ei.st := h.stwf hac
  obtain ⟨henc, ⟨hsc, _⟩, _, hbins, herr, hcap⟩ := (kmpeg_sat_iff inp ws ok a).1 hsat
  obtain ⟨ps, hps, hlen, hroutes, hvalid, htrav⟩ := decode_valid_routes a h hac henc
  simp only [slackFor_nil inp hfac] at hbins
  have hs := fun e he => coupled_sound _ inp.ei.k _ slackVar (gammaVar e) hwf hroutes
    (mem_basicEdges he) htrav (hbins e he)
  refine ⟨ps, hps, hlen, ?_, hvalid, htrav, fun e he => (hs e he).1, mpeObj_eval inp.ei.k a⟩
  refine { routes := hroutes, cap := ?_, nonneg := fun i hi => (hsc i hi).1,
           integral := fun hint i hi => (hsc i hi).2.2 hint, slackOK := fun e he => ?_,
           sle := fun i hi => (hsc i hi).2.1 }
  · exact (capRow_iff_usedCount _ a _ ok hwf hroutes htrav).1 hcap
  · unfold SlackOK
    rw [← klaegSumW_explained ws a _ (mem_basicEdges he) htrav, ← (hs e he).2]
    exact errRows_sound a _ _ _ _ (herr e he)

/-- with `path_length_factors`, rows 9aa / 9ab see the length-scaled slacks while the objective sums the
unscaled ones -/
theorem kmpe_given_factors_sound (inp : MpeInput) (ws : List Rat) (ok : Nat) (a : Asg)
    (h : BaseWF inp.ei.fi.base) (hac : Acyclic inp.ei.fi.base)
    (hne : inp.factors ≠ []) (hlen : inp.ranges.length = inp.factors.length)
    (hLU : ∀ r ∈ inp.ranges, r.1 ≤ r.2)
    (hfb : 0 ≤ listMin inp.factors ∧
      listMax inp.factors ≤ inp.ei.wmax (some ws) * listMax inp.factors)
    (hsat : Sat a (kmpeGivenLP inp ws ok)) :
    ∃ ps : List (List Node),
      decodePaths inp.ei.st (fun e i => a (edgeVar e i)) inp.ei.k = some ps ∧ ps.length = inp.ei.k ∧
      (∀ i, i < inp.ei.k → Route inp.ei.st inp.ei.fi.cfg.allowEmpty (ps.getD i [])) ∧
      (∀ i, i < inp.ei.k → ps.getD i [] ≠ [] →
        ValidRoute inp.ei.fi.base inp.ei.fi.starts inp.ei.fi.ends (ps.getD i []) ∧ (ps.getD i []).Nodup) ∧
      usedCount inp.ei.k (fun i => ps.getD i []) ≤ ok ∧
      (∀ i, i < inp.ei.k → ∀ e ∈ inp.ei.st.g.edges, a (edgeVar e i) = trav inp.ei.st (ps.getD i []) e) ∧
      (∀ i, i < inp.ei.k → 0 ≤ a (slackVar i) ∧ a (slackVar i) ≤ inp.ei.wmax (some ws) ∧
        (inp.ei.fi.weightInt = true → IsInt (a (slackVar i)))) ∧
      (∀ i, i < inp.ei.k → ∃ j, ∃ hj : j < inp.ranges.length,
        (inp.ranges[j]).1 ≤ a (lenVar i) ∧ a (lenVar i) ≤ (inp.ranges[j]).2 ∧
        a (scaledSlackVar i) = a (slackVar i) * inp.factors[j]'(hlen ▸ hj)) ∧
      (∀ e ∈ inp.ei.basicEdges, ∀ i, i < inp.ei.k →
        a (gammaVar e i) = a (edgeVar e i) * a (scaledSlackVar i) ∧
        a (gammaVar e i) ≤ inp.ei.wmax (some ws)) ∧
      (∀ e ∈ inp.ei.basicEdges,
        (inp.ei.fi.f e - explained inp.ei.st inp.ei.k (fun i => ps.getD i []) (givenW ws) e).abs
            * inp.ei.scale e
          ≤ explained inp.ei.st inp.ei.k (fun i => ps.getD i []) (fun i => a (scaledSlackVar i)) e) ∧
      evalTerms a (kmpeGivenLP inp ws ok).obj = totalSlack inp.ei.k (fun i => a (slackVar i)) := by
  have _ := hfb -- not needed (`factorBlock_sound`)
  have hwf : STWF inp.ei.st := h.stwf hac
  obtain ⟨henc, ⟨hsc, hgc⟩, hFB, hbins, herr, hcap⟩ := (kmpeg_sat_iff inp ws ok a).1 hsat
  obtain ⟨ps, hps, hlenps, hroutes, hvalid, htrav⟩ := decode_valid_routes a h hac henc
  simp only [slackFor_cons inp hne] at hbins
  have hs := fun e he => coupled_sound _ inp.ei.k _ scaledSlackVar (gammaVar e) hwf hroutes
    (mem_basicEdges he) htrav (hbins e he)
  refine ⟨ps, hps, hlenps, hroutes, hvalid, ?_, htrav, hsc, ?_, fun e he i hi => ?_, fun e he => ?_,
    mpeObj_eval inp.ei.k a⟩
  · exact (capRow_iff_usedCount _ a _ ok hwf hroutes htrav).1 hcap
  · exact factorBlock_sound a hne hlen hLU hFB
  · exact ⟨(hs e he).1 i hi, (hgc i hi e (mem_basicEdges he)).2⟩
  · rw [← klaegSumW_explained ws a _ (mem_basicEdges he) htrav, ← (hs e he).2]
    exact errRows_sound a _ _ _ _ (herr e he)

theorem kmpe_given_complete (inp : MpeInput) (ws : List Rat) (ok : Nat) (P : Nat → List Node)
    (sl : Nat → Rat) (h : BaseWF inp.ei.fi.base) (hac : Acyclic inp.ei.fi.base) (hfac : inp.factors = [])
    (hcons : inp.ei.fi.cfg.constraints = []) (hlen : inp.ei.fi.cfg.lengths = none)
    (hscale : ∀ e ∈ inp.ei.basicEdges, 0 ≤ inp.ei.scale e)
    (hb : GivenBounded inp.ei ws ok P sl) :
    ∃ a : Asg, Sat a (kmpeGivenLP inp ws ok) ∧
      (∀ i, i < inp.ei.k → ∀ e ∈ inp.ei.st.g.edges, a (edgeVar e i) = trav inp.ei.st (P i) e) ∧
      (∀ i, i < inp.ei.k → a (slackVar i) = sl i) ∧
      evalTerms a (kmpeGivenLP inp ws ok).obj = totalSlack inp.ei.k sl := by
  have hwf : STWF inp.ei.st := h.stwf hac
  let σ : ErrSol := { P := P, w := givenW ws, sl := sl }
  have hedge : ∀ i, i < inp.ei.k → ∀ e ∈ inp.ei.st.g.edges,
      solAsg inp.ei.st σ (edgeVar e i) = trav inp.ei.st (P i) e :=
    fun i _ e _ => solAsg_edge inp.ei.st σ e i
  obtain ⟨hsc, hgc, hbins, hsums⟩ := coupled_complete (solAsg inp.ei.st σ) _ inp.ei.k P slackVar
    gammaVar sl (inp.ei.wmax (some ws)) inp.ei.fi.weightInt hwf hb.routes (solAsg_edge inp.ei.st σ)
    (solAsg_slack inp.ei.st σ) (solAsg_gamma inp.ei.st σ)
    fun i hi => ⟨hb.nonneg i hi, hb.sle i hi, fun hint => hb.integral hint i hi⟩
  refine ⟨solAsg inp.ei.st σ, ?_, hedge, fun i _ => solAsg_slack inp.ei.st σ i,
    mpeObj_solAsg inp.ei.st σ inp.ei.k⟩
  refine (kmpeg_sat_iff inp ws ok _).2
    ⟨solAsg_sat_paths hwf hb.routes hcons hlen,
      ⟨hsc, fun i hi e he => ⟨(hgc i hi e he).1, (hgc i hi e he).2.1⟩⟩,
      factorBlock_nil inp _ _ hfac ▸ sat_empty _,
      fun e he i hi => slackFor_nil inp hfac i ▸ hbins e (mem_basicEdges he) i hi,
      fun e he => ?_, ?_⟩
  · refine errRows_complete _ _ _ _ _ (hscale e he) ?_
    rw [klaegSumW_explained ws _ P (mem_basicEdges he) hedge, hsums]
    exact hb.slackOK e he
  · exact (capRow_iff_usedCount _ _ P ok hwf hb.routes hedge).2 hb.cap

theorem kmpe_given_opt_transfer (inp : MpeInput) (ws : List Rat) (ok : Nat) (a : Asg)
    (h : BaseWF inp.ei.fi.base) (hac : Acyclic inp.ei.fi.base) (hfac : inp.factors = [])
    (hcons : inp.ei.fi.cfg.constraints = []) (hlen : inp.ei.fi.cfg.lengths = none)
    (hscale : ∀ e ∈ inp.ei.basicEdges, 0 ≤ inp.ei.scale e)
    (hsat : Sat a (kmpeGivenLP inp ws ok))
    (hopt : ∀ a', Sat a' (kmpeGivenLP inp ws ok) →
      evalTerms a (kmpeGivenLP inp ws ok).obj ≤ evalTerms a' (kmpeGivenLP inp ws ok).obj) :
    ∃ ps : List (List Node),
      decodePaths inp.ei.st (fun e i => a (edgeVar e i)) inp.ei.k = some ps ∧
      GivenBounded inp.ei ws ok (fun i => ps.getD i []) (fun i => a (slackVar i)) ∧
      (∀ P' sl', GivenBounded inp.ei ws ok P' sl' →
        totalSlack inp.ei.k (fun i => a (slackVar i)) ≤ totalSlack inp.ei.k sl') ∧
      evalTerms a (kmpeGivenLP inp ws ok).obj = totalSlack inp.ei.k (fun i => a (slackVar i)) := by
  obtain ⟨ps, hps, _, hbd, _, _, _, hobj⟩ := kmpe_given_sound inp ws ok a h hac hfac hsat
  refine ⟨ps, hps, hbd, fun P' sl' hb' => ?_, hobj⟩
  obtain ⟨a', hsat', _, _, hobj'⟩ := kmpe_given_complete inp ws ok P' sl' h hac hfac hcons hlen hscale hb'
  have := hopt a' hsat'
  rw [hobj, hobj'] at this
  exact this

end FP
