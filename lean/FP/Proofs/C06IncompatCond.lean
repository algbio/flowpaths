import FP.Proofs.SafetyIncompat
import FP.Proofs.CondWalkCoverNames
import FP.Proofs.Reach
/-!
`Cond.expandedEdge` sends a graph edge to its edge of the expanded condensation
(`stDiGraph._edge_to_condensation_expanded_edge`). The edge set of the expanded condensation built by
`_build_condensation_expanded` is taken to be the image of the graph edges (`condExpEdges`): a member edge of a
component gives `(str(c), str(c) + "_expanded")`, an edge between components `(out-name, str(c'))`. That is read off
the python code; it is not proved against `CondInput.expanded` (`FP/Model/Width.lean`), which models the same routine
for the walk-cover bound, and `FP.Props.C06.antichain_contract` takes the inclusion as a hypothesis.

Reachability in the digraph projects to reachability in the expanded condensation. So if `mapping` numbers the
strongly connected components (`SccLabelling`) and the members of the antichain are pairwise unreachable in the
expanded condensation (`CondAntichain`, the contract that C17 proves for the extraction of
`compute_max_edge_antichain`), no source-to-sink walk traverses two graph edges of two different members, nor
two parallel graph edges of one inter-SCC member (`AntichainHyp`).
-/
namespace FP.Safety
open FP.Spec

/-- `mapping` numbers the strongly connected components: two nodes of the graph carry the same number iff they
are mutually reachable (the contract of `nx.condensation(G).graph["mapping"]`) -/
def SccLabelling (c : Cond) : Prop :=
  ∀ u ∈ c.g.nodes, ∀ v ∈ c.g.nodes, (c.scc u = c.scc v ↔ Reach c.g.edges u v ∧ Reach c.g.edges v u)

/-- the edges of the expanded condensation (`self._condensation_expanded` before its own source / sink are
added): the images of the graph edges -/
def condExpEdges (c : Cond) : List (String × String) := c.g.edges.map c.expandedEdge

/-- the members are pairwise unreachable in the expanded condensation: the head of none reaches the tail of
another one -/
def CondAntichain (c : Cond) (anti : List (String × String)) : Prop :=
  ∀ a ∈ anti, ∀ b ∈ anti, a ≠ b → ¬ Reach (condExpEdges c) a.2 b.1

/-- name under which a component is entered -/
def inName (c : Cond) (v : Node) : String := toString (c.scc v)
/-- name under which a component is left -/
def outName (c : Cond) (v : Node) : String :=
  if c.nontrivial (c.scc v) then expandedName (c.scc v) else toString (c.scc v)

theorem c06i_expandedEdge_inter {c : Cond} {e : Edge} (h : c.scc e.1 ≠ c.scc e.2) :
    c.expandedEdge e = (outName c e.1, inName c e.2) := by
  unfold Cond.expandedEdge outName inName
  simp only [ne_eq, h, not_false_eq_true, if_true]

theorem c06i_expandedEdge_intra {c : Cond} {e : Edge} (h : c.scc e.1 = c.scc e.2) :
    c.expandedEdge e = (inName c e.1, expandedName (c.scc e.1)) := by
  unfold Cond.expandedEdge inName
  simp only [ne_eq, h, not_true_eq_false, if_false]

theorem c06i_isSccEdge_intra {c : Cond} {e : Edge} (h : c.scc e.1 = c.scc e.2) :
    Cond.isSccEdge (c.expandedEdge e) = true := by
  rw [c06i_expandedEdge_intra h]
  unfold Cond.isSccEdge inName expandedName
  simp

theorem c06i_scc_ne_of_not_sccEdge (c : Cond) {e : Edge} (hns : Cond.isSccEdge (c.expandedEdge e) = false) :
    c.scc e.1 ≠ c.scc e.2 := fun h => by
  rw [c06i_isSccEdge_intra h] at hns; cases hns

/-- through `cwcName_inj` of the walk-cover modules: `expandedName` (`FP/Model/SafetyFix.lean`) and `CondInput.cexp`
(`FP/Model/Width.lean`) are the same string function, by unfolding -/
theorem c06i_outName_inj (c : Cond) {u v : Node} (h : outName c u = outName c v) : c.scc u = c.scc v :=
  have key : ∀ w, outName c w = cwcName (c.scc w, c.nontrivial (c.scc w)) := fun w => by
    unfold outName; cases c.nontrivial (c.scc w) <;> rfl
  congrArg Prod.fst (cwcName_inj ((key u).symm.trans (h.trans (key v))))

theorem c06i_scc_eq_of_same_member (c : Cond) {e e' : Edge} (hsame : c.expandedEdge e' = c.expandedEdge e)
    (hns : Cond.isSccEdge (c.expandedEdge e) = false) : c.scc e'.1 = c.scc e.1 ∧ c.scc e'.2 = c.scc e.2 := by
  have h' := c06i_scc_ne_of_not_sccEdge c (hsame ▸ hns)
  rw [c06i_expandedEdge_inter (c06i_scc_ne_of_not_sccEdge c hns), c06i_expandedEdge_inter h'] at hsame
  exact ⟨c06i_outName_inj c (congrArg Prod.fst hsame), cwc_cname_inj (congrArg Prod.snd hsame)⟩

theorem c06i_no_back (c : Cond) (hg : GraphWF c.g) (hscc : SccLabelling c) {e : Edge} (he : e ∈ c.g.edges)
    (h : c.scc e.1 ≠ c.scc e.2) : ¬ Reach c.g.edges e.2 e.1 := fun hr =>
  h ((hscc _ (hg e he).1 _ (hg e he).2).2 ⟨Reach.single he, hr⟩)

theorem c06i_outName_intra (c : Cond) (e : Edge) (he : e ∈ c.g.edges) (h : c.scc e.1 = c.scc e.2) :
    outName c e.2 = expandedName (c.scc e.1) := by
  have hnt : c.nontrivial (c.scc e.1) = true := by
    unfold Cond.nontrivial
    exact List.any_eq_true.2 ⟨e, he, by simp [h]⟩
  unfold outName
  rw [← h, hnt]
  simp

theorem c06i_in_out (c : Cond) (v : Node) : Reach (condExpEdges c) (inName c v) (outName c v) := by
  fun_cases outName c v with
  | case1 hn =>
    unfold Cond.nontrivial at hn
    obtain ⟨e, he, hh⟩ := List.any_eq_true.1 hn
    simp only [Bool.and_eq_true, decide_eq_true_eq] at hh
    have hintra : c.scc e.1 = c.scc e.2 := hh.1.trans hh.2.symm
    have hmem : c.expandedEdge e ∈ condExpEdges c := List.mem_map.2 ⟨e, he, rfl⟩
    rw [c06i_expandedEdge_intra hintra] at hmem
    unfold inName at hmem ⊢
    rw [hh.1] at hmem
    exact Reach.step (Reach.refl _) hmem
  | case2 => exact Reach.refl _

/-- In-name to in-name, out-name to out-name, and, unless the two nodes carry the same number, out-name to
in-name. -/
theorem c06i_proj (c : Cond) {x y : Node} (h : Reach c.g.edges x y) :
    Reach (condExpEdges c) (inName c x) (inName c y) ∧ Reach (condExpEdges c) (outName c x) (outName c y) ∧
      (c.scc x = c.scc y ∨ Reach (condExpEdges c) (outName c x) (inName c y)) := by
  induction h with
  | refl => exact ⟨Reach.refl _, Reach.refl _, Or.inl rfl⟩
  | @step y z _ he ih =>
    obtain ⟨h1, h2, h3⟩ := ih
    by_cases hyz : c.scc y = c.scc z
    · have hin : inName c z = inName c y := by unfold inName; rw [hyz]
      have hout : outName c z = outName c y := by unfold outName; rw [hyz]
      rw [hin, hout]
      exact ⟨h1, h2, by rw [← hyz]; exact h3⟩
    · have hmem : c.expandedEdge (y, z) ∈ condExpEdges c := List.mem_map.2 ⟨(y, z), he, rfl⟩
      rw [c06i_expandedEdge_inter hyz] at hmem
      have hoi : Reach (condExpEdges c) (outName c x) (inName c z) := Reach.step h2 hmem
      exact ⟨Reach.step (Reach.trans h1 (c06i_in_out c y)) hmem, Reach.trans hoi (c06i_in_out c z), Or.inr hoi⟩

theorem c06i_members_reach (c : Cond) (e1 e2 : Edge) (he1 : e1 ∈ c.g.edges)
    (hr : Reach c.g.edges e1.2 e2.1) (hab : c.expandedEdge e1 ≠ c.expandedEdge e2) :
    Reach (condExpEdges c) (c.expandedEdge e1).2 (c.expandedEdge e2).1 := by
  obtain ⟨p1, p2, p3⟩ := c06i_proj c hr
  -- the head of an SCC member is the out-name of its component, the head of an inter-SCC member the in-name of the
  -- component it enters; likewise for the tails: four cases, each one conjunct of `c06i_proj`
  by_cases h1 : c.scc e1.1 = c.scc e1.2
  · rw [c06i_expandedEdge_intra h1]
    simp only
    rw [← c06i_outName_intra c e1 he1 h1]
    by_cases h2 : c.scc e2.1 = c.scc e2.2
    · rw [c06i_expandedEdge_intra h2]
      simp only
      rcases p3 with p3 | p3
      · exfalso; apply hab
        rw [c06i_expandedEdge_intra h1, c06i_expandedEdge_intra h2]
        unfold inName
        rw [h1, p3]
      · exact p3
    · rw [c06i_expandedEdge_inter h2]; exact p2
  · rw [c06i_expandedEdge_inter h1]
    simp only
    by_cases h2 : c.scc e2.1 = c.scc e2.2
    · rw [c06i_expandedEdge_intra h2]; exact p1
    · rw [c06i_expandedEdge_inter h2]; exact Reach.trans p1 (c06i_in_out c _)

theorem c06i_parallel_not_comparable (c : Cond) (hg : GraphWF c.g) (hscc : SccLabelling c) (e1 e2 : Edge)
    (he1 : e1 ∈ c.g.edges) (he2 : e2 ∈ c.g.edges) (hsame : c.expandedEdge e1 = c.expandedEdge e2)
    (hns : Cond.isSccEdge (c.expandedEdge e1) = false) : ¬ Reach c.g.edges e1.2 e2.1 := by
  intro hr
  -- `e2.2 ⇝ e1.2 ⇝ e2.1`
  have hback := ((hscc _ (hg e2 he2).2 _ (hg e1 he1).2).1 (c06i_scc_eq_of_same_member c hsame.symm hns).2).1
  exact c06i_no_back c hg hscc he2 (c06i_scc_ne_of_not_sccEdge c (hsame ▸ hns)) (Reach.trans hback hr)

theorem c06i_antichainHyp (c : Cond) (s t : Node) (anti : List (String × String)) (hg : GraphWF c.g)
    (hscc : SccLabelling c) (hanti : CondAntichain c anti) : AntichainHyp c s t anti := by
  intro a ha b hb e1 he1 e2 he2 hc1 hc2 hne hor
  rintro ⟨w, hw, hm1, hm2⟩
  have hord := reach_of_common_walk c.g w hw.walk e1 e2 hm1 hm2 hne
  by_cases hab : a = b
  · subst hab
    rcases hor with hns | hns
    · rcases hord with hr | hr
      · exact c06i_parallel_not_comparable c hg hscc e1 e2 he1 he2 (hc1.trans hc2.symm) (by rw [hc1]; exact hns) hr
      · exact c06i_parallel_not_comparable c hg hscc e2 e1 he2 he1 (hc2.trans hc1.symm) (by rw [hc2]; exact hns) hr
    · exact hns rfl
  · rcases hord with hr | hr
    · have := c06i_members_reach c e1 e2 he1 hr (by rw [hc1, hc2]; exact hab)
      rw [hc1, hc2] at this
      exact hanti a ha b hb hab this
    · have := c06i_members_reach c e2 e1 he2 hr (by rw [hc1, hc2]; exact fun h => hab h.symm)
      rw [hc1, hc2] at this
      exact hanti b hb a ha (fun h => hab h.symm) this

/-! `SccLabelling` and `CondAntichain` of a concrete input are decided by the model's own reachability (`reachFrom`). -/

/-- executable form of `SccLabelling` -/
def sccCheck (c : Cond) : Bool :=
  c.g.nodes.all fun u => c.g.nodes.all fun v =>
    decide (c.scc u = c.scc v) == ((reachFrom c.g u).contains v && (reachFrom c.g v).contains u)

theorem c06i_sccLabelling_of_check (c : Cond) (hg : GraphWF c.g) (h : sccCheck c = true) : SccLabelling c := by
  intro u hu v hv
  unfold sccCheck at h
  have h1 := List.all_eq_true.1 (List.all_eq_true.1 h u hu) v hv
  rw [← mem_reachFrom c.g hg hu, ← mem_reachFrom c.g hg hv, ← List.contains_iff_mem, ← List.contains_iff_mem,
    ← Bool.and_eq_true, ← beq_iff_eq.1 h1, decide_eq_true_eq]

/-- the expanded condensation as a graph: its nodes are the end points of its edges -/
def condExpGraph (c : Cond) : Graph :=
  { nodes := (condExpEdges c).flatMap fun e => [e.1, e.2], edges := condExpEdges c }

/-- executable form of `CondAntichain` -/
def condAntiCheck (c : Cond) (anti : List (String × String)) : Bool :=
  anti.all fun a => anti.all fun b =>
    a == b || ((condExpGraph c).nodes.contains a.2 && !(reachFrom (condExpGraph c) a.2).contains b.1)

theorem c06i_condAntichain_of_check (c : Cond) (anti : List (String × String))
    (h : condAntiCheck c anti = true) : CondAntichain c anti := by
  intro a ha b hb hab hr
  unfold condAntiCheck at h
  have h1 := List.all_eq_true.1 (List.all_eq_true.1 h a ha) b hb
  simp only [Bool.or_eq_true, beq_iff_eq, Bool.and_eq_true, List.contains_eq_mem, decide_eq_true_eq,
    Bool.not_eq_eq_eq_not, Bool.not_true, decide_eq_false_iff_not] at h1
  rcases h1 with h1 | ⟨hn, hnr⟩
  · exact hab h1
  · have hwf : GraphWF (condExpGraph c) := by
      intro e he
      constructor
      · exact List.mem_flatMap.2 ⟨e, he, by simp⟩
      · exact List.mem_flatMap.2 ⟨e, he, by simp⟩
    exact hnr (reachFrom_complete hwf b.1 hn hr)

end FP.Safety
