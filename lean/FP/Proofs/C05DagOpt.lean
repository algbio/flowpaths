import FP.Proofs.C05DagLayers
import FP.Proofs.Optimum
import FP.Proofs.KFD
import FP.Proofs.C10Ignore
/-!
# FP.Proofs.C05DagOpt — safe lists appended as subpath constraints change neither feasibility nor the minimum

The DAG constructors read the fragment only through the appended subpath constraints. Without
`optimize_with_safety_as_subpath_constraints` the LP of every DAG class is, as a term, the LP built without any
option; with it, the option-free LP of the input whose subpath constraints are extended by the safe lists.

Lists that lie completely in some layer can be appended to the subpath constraints of a solution of
`_encode_paths`: the constraints already there keep their responsible layers (C10 `constraint_honoured`), a new one gets
the layer that contains it (it shares the coverage fraction of the user's constraints, which must not exceed 1;
lengths non-negative), and C10 `constraint_complete` sets the `r` columns. Conversely the constraints already there keep
their indices, so their columns and rows 7a / 7b are among those of the extended LP, and the same assignment
satisfies the LP with the appended lists removed.

Generic form (`c05d_append_preserves` for any lists that lie in layers of every solution, `c05d_generic_preserves`
for those the constructor assembles): a DAG model is `_encode_paths` followed by class-specific columns and
rows `rest` that do not mention the `r` columns of the subpath constraints. If every solution uses every trusted
edge in some layer (and contains the externally supplied lists), then for every subset of the six flags the LP
built with the options has a solution iff the LP built without them has one, and both have the same minimum of
the (class-specific) objective: forwards the `r` columns are re-chosen (`c05d_append_constraints`), backwards the
same assignment works (`c05d_drop_constraints`).

For `kPathCover` and `kFlowDecomp` "every trusted edge is used by some path of every solution" is derived from the
LP itself: `kPathCover` has the row `Σ_i x(e,i) ≥ 1` for every edge that is not ignored (the trusted set),
`kFlowDecomp` has `Σ_i pi(e,i) = f(e) ≠ 0` with `pi(e,i) = x(e,i)·w_i` for every non-ignored edge of non-zero flow
(the trusted set).
-/
namespace FP
open FP.Safety FP.Spec

theorem c05d_coupleBinS_nil (edges : List Edge) (k : Nat) (prod : Edge → Nat → Var) (cont : Nat → Var) (ub : Rat) :
    coupleBinS [] [] edges k prod cont ub = coupleBin edges k prod cont ub := by
  simp [coupleBinS, coupleBin]

theorem c05d_withSafety_nil (c : PathCfg) (fr : PathSafetyFrag) (h : fr.constraints = []) : c.withSafety fr = c := by
  simp [PathCfg.withSafety, h]

theorem c05d_extra_fields (lists : List (List Edge)) (o : PathSafetyOpts) :
    (pathSafetyExtra lists o).rows = [] ∧ (pathSafetyExtra lists o).zero = [] ∧
    (pathSafetyExtra lists o).one = [] ∧
    (pathSafetyExtra lists o).constraints = if o.asSubpath then lists else [] := ⟨rfl, rfl, rfl, rfl⟩

theorem c05d_extra_off (lists : List (List Edge)) (o : PathSafetyOpts) (h : o.asSubpath = false) :
    pathSafetyExtra lists o = {} := by
  simp [pathSafetyExtra, h]

theorem c05d_pathCoreS_extra (s : STGraph) (c : PathCfg) (lists : List (List Edge)) (o : PathSafetyOpts) :
    pathCoreS s c (pathSafetyExtra lists o) = encodePaths s (c.withSafety (pathSafetyExtra lists o)) := by
  simp [pathCoreS, pathSafetyExtra]

theorem c05d_kfdLPS_eq (inp : FlowInput) (lists : List (List Edge)) (o : PathSafetyOpts) :
    kfdLPS inp (pathSafetyExtra lists o) = kfdLP (inp.withSafety (pathSafetyExtra lists o)) := by
  simp only [kfdLPS, kfdLP, c05d_pathCoreS_extra, (c05d_extra_fields lists o).2.1, (c05d_extra_fields lists o).2.2.1,
    c05d_coupleBinS_nil]
  rfl

theorem c05d_kcoverLPS_eq (inp : FlowInput) (lists : List (List Edge)) (o : PathSafetyOpts) :
    kcoverLPS inp (pathSafetyExtra lists o) = kcoverLP (inp.withSafety (pathSafetyExtra lists o)) := by
  simp only [kcoverLPS, kcoverLP, c05d_pathCoreS_extra]
  rfl

/-- `ErrInput` after `self.subpath_constraints += self.safe_lists` -/
def ErrInput.withSafety (inp : ErrInput) (fr : PathSafetyFrag) : ErrInput :=
  { inp with fi := inp.fi.withSafety fr }
/-- `MpeInput` after `self.subpath_constraints += self.safe_lists` -/
def MpeInput.withSafety (inp : MpeInput) (fr : PathSafetyFrag) : MpeInput :=
  { inp with ei := inp.ei.withSafety fr }

theorem c05d_klaeLPS_eq (inp : ErrInput) (lists : List (List Edge)) (o : PathSafetyOpts) :
    klaeLPS inp (pathSafetyExtra lists o) = klaeLP (inp.withSafety (pathSafetyExtra lists o)) := by
  simp only [klaeLPS, klaeLP, c05d_pathCoreS_extra, (c05d_extra_fields lists o).2.1, (c05d_extra_fields lists o).2.2.1,
    c05d_coupleBinS_nil]
  rfl

theorem c05d_kmpeLPS_eq (inp : MpeInput) (lists : List (List Edge)) (o : PathSafetyOpts) :
    kmpeLPS inp (pathSafetyExtra lists o) = kmpeLP (inp.withSafety (pathSafetyExtra lists o)) := by
  -- on an input given by its fields `withSafety` reduces at once; on a variable the closing `rfl` is slow to check
  obtain ⟨⟨fi, sc⟩, r, f⟩ := inp
  simp only [kmpeLPS, kmpeLP, c05d_pathCoreS_extra, (c05d_extra_fields lists o).2.1, (c05d_extra_fields lists o).2.2.1,
    c05d_coupleBinS_nil]
  rfl

theorem c05d_flowInput_withSafety_off (inp : FlowInput) (lists : List (List Edge)) (o : PathSafetyOpts)
    (h : o.asSubpath = false) : inp.withSafety (pathSafetyExtra lists o) = inp := by
  simp [FlowInput.withSafety, PathCfg.withSafety, pathSafetyExtra, h]

theorem pathSafetyPipeline_ok_iff (s : STGraph) (c : PathCfg) (X : List Edge) (external : Option (List (List Edge)))
    (o : PathSafetyOpts) (fr : PathSafetyFrag) :
    pathSafetyPipeline s c X external o = .ok fr ↔
      ∃ lists, pathSafeLists s c X external o = .ok lists ∧ fr = pathSafetyExtra lists o :=
  Res.bind_eq_ok.trans (exists_congr fun _ => and_congr_right' ⟨fun h => (Res.ok.inj h).symm, fun h => h ▸ rfl⟩)

def PathCfg.appendConstraints (c : PathCfg) (E : List (List Edge)) : PathCfg :=
  { c with constraints := c.constraints ++ E }

theorem c05d_withSafety_eq (c : PathCfg) (fr : PathSafetyFrag) : c.withSafety fr = c.appendConstraints fr.constraints := rfl

section
variable {s : STGraph} {c : PathCfg} {a : Asg}

theorem c05d_drop_constraints (E : List (List Edge)) (h : Sat a (encodePaths s (c.appendConstraints E))) :
    Sat a (encodePaths s c) := by
  -- the constraints of `c` keep their indices, so their rows are among those of the extended block
  rw [sat_encodePaths_iff] at h ⊢
  refine ⟨h.1, ?_, h.2.2⟩
  · have h' := h.2.1
    rw [sat_subpathBlock_iff] at h' ⊢
    obtain ⟨hbin, h7a, h7b⟩ := h'
    have hlen : ∀ j, j < c.constraints.length → j < (c.appendConstraints E).constraints.length := fun j hj => by
      show j < (c.constraints ++ E).length
      rw [List.length_append]; omega
    refine ⟨fun i hi j hj => hbin i hi j (hlen j hj), fun i hi j hj => ?_, fun j hj => h7b j (hlen j hj)⟩
    have := h7a i hi j (hlen j hj)
    rwa [show (c.appendConstraints E).constraints[j]'(hlen j hj) = c.constraints[j] from
      List.getElem_append_left hj] at this

theorem c05d_covOK_all (W con : List Edge) (hall : ∀ e ∈ con, e ∈ W)
    (hcov : c.coverageLength = none → c.coverage ≤ 1) (hcl : ∀ cl, c.coverageLength = some cl → cl ≤ 1)
    (hlen : ∀ e ∈ con, 0 ≤ c.len e) : CovOK c W con := by
  fun_cases CovOK c W con with
  | case1 hc =>
    rw [List.countP_eq_length.2 fun e he => decide_eq_true (hall e he)]
    exact mul_le_self_of_le_one Rat.natCast_nonneg (hcov hc)
  | case2 cl hc =>
    rw [show (con.map fun e => if e ∈ W then c.len e else 0) = con.map c.len from
      List.map_congr_left fun e he => if_pos (hall e he)]
    exact mul_le_self_of_le_one (sum_map_nonneg hlen) (hcl cl hc)

theorem c05d_append_constraints (hwf : STWF s) (hsat : Sat a (encodePaths s c))
    (hcons : ∀ con ∈ c.constraints, ∀ e ∈ con, e ∈ s.g.edges)
    (E : List (List Edge)) (hE : ∀ q ∈ E, SomeLayerHas s a c.k q)
    (hcov : c.coverageLength = none → c.coverage ≤ 1)
    (hcl : ∀ cl, c.coverageLength = some cl → cl ≤ 1)
    (hlen : ∀ e ∈ s.g.edges, 0 ≤ c.len e) :
    ∃ a', Sat a' (encodePaths s (c.appendConstraints E)) ∧ ∀ v, v.isR = false → a' v = a v := by
  let c' := c.appendConstraints E
  let P : Nat → List Edge := fun i => walkEdges (dagLayerWalk s a i)
  have hed : ∀ con ∈ c.constraints ++ E, ∀ e ∈ con, e ∈ s.g.edges := fun con hm e he =>
    (List.mem_append.1 hm).elim (fun h => hcons _ h e he) fun h => let ⟨_, _, hl⟩ := hE _ h; (hl e he).1
  have hmemcov : ∀ con ∈ c.constraints ++ E, ∃ i, i < c.k ∧ CovOK c (P i) con := by
    intro con hmem
    rcases List.mem_append.1 hmem with hmem | hmem
    · obtain ⟨j, hjC, rfl⟩ := List.mem_iff_getElem.1 hmem
      exact c05d_responsible_layer hwf hsat j hjC (hcons _ (List.getElem_mem hjC))
    · obtain ⟨i, hi, hl⟩ := hE _ hmem
      exact ⟨i, hi, c05d_covOK_all (P i) con
        (fun e he => (c05d_layer_walk hwf hsat hi (hl e he).1 (hl e he).2).2) hcov hcl
        fun e he => hlen e (hl e he).1⟩
  obtain ⟨layerOf, hlayer⟩ := exists_choice hmemcov
  -- `constraint_complete` wants the encoding without constraints; `c` is `c'.noConstraints` extended by its own
  have hsat0 : Sat a (encodePaths s c'.noConstraints) :=
    c05d_drop_constraints (c := c.noConstraints) c.constraints hsat
  exact ⟨_, constraint_complete s c' a P (fun j => layerOf (c'.constraints.getD j [])) hsat0
    (fun i hi j hj e he => c05d_layer_indicator hwf hsat hi e (hed _ (List.getElem_mem hj) e he))
    (fun j hj e he => hlen e (hed _ (List.getElem_mem hj) e he)) fun j hj => by
      rw [getD_eq_getElem _ _ hj]
      exact hlayer _ (List.getElem_mem hj)⟩

end

/-- what the constructor checks / the documentation asks of the subpath-constraint parameters: constraints made of
graph edges; a coverage *fraction* (at most 1; the constructor tests `0 < coverage ≤ 1` only when the user passes
constraints, but the appended safe lists use the fraction as well); non-negative edge lengths, positive on the
user's constraints when they are to be covered completely by length (otherwise an edge of length 0 need not be
traversed and the sequence computed from the constraint is not safe) -/
structure ConstraintDomain (s : STGraph) (c : PathCfg) : Prop where
  edges : ∀ con ∈ c.constraints, ∀ e ∈ con, e ∈ s.g.edges
  cov : c.coverageLength = none → c.coverage ≤ 1
  covLen : ∀ cl, c.coverageLength = some cl → cl ≤ 1
  len : ∀ e ∈ s.g.edges, 0 ≤ c.len e
  lenPos : c.coverageLength = some 1 → ∀ con ∈ c.constraints, ∀ e ∈ con, 0 < c.len e

/-- the default configuration: constraints counted by edges, unit lengths -/
theorem ConstraintDomain.of_default {s : STGraph} {c : PathCfg}
    (hedges : ∀ con ∈ c.constraints, ∀ e ∈ con, e ∈ s.g.edges) (hcl : c.coverageLength = none)
    (hlen : c.lengths = none) (hcov : c.coverage ≤ 1) : ConstraintDomain s c where
  edges := hedges
  cov := fun _ => hcov
  covLen := fun cl h => by rw [hcl] at h; cases h
  len := fun e _ => by unfold PathCfg.len; rw [hlen]; exact (by decide : (0 : Rat) ≤ 1)
  lenPos := fun h => by rw [hcl] at h; cases h

/-- the class-specific part of a DAG model does not mention the `r` columns -/
structure RestNoR (rest : LP) : Prop where
  cols : ∀ col ∈ rest.cols, col.v.isR = false
  rows : ∀ r ∈ rest.rows, ∀ t ∈ r.terms, t.2.isR = false
  obj : ∀ t ∈ rest.obj, t.2.isR = false

section
variable {s : STGraph} {c : PathCfg}

theorem c05d_append_preserves (hwf : STWF s) (D : ConstraintDomain s c) (rest : LP) (hR : RestNoR rest)
    (E : List (List Edge))
    (hE : ∀ a, Sat a ((encodePaths s c).append rest) → ∀ q ∈ E, SomeLayerHas s a c.k q) :
    ((∃ a, Sat a ((encodePaths s c).append rest)) ↔
      (∃ a, Sat a ((encodePaths s (c.appendConstraints E)).append rest))) ∧
    (∀ v, IsMin (fun a => Sat a ((encodePaths s c).append rest)) (fun a => evalTerms a rest.obj) v ↔
      IsMin (fun a => Sat a ((encodePaths s (c.appendConstraints E)).append rest))
        (fun a => evalTerms a rest.obj) v) := by
  apply c05_opt_transfer
  · intro a hsat
    obtain ⟨a', h1, h2⟩ := c05d_append_constraints hwf (sat_append_left hsat) D.edges E (hE a hsat) D.cov
      D.covLen D.len
    exact ⟨a', sat_append h1 (sat_congr rest a a' (fun col hc => h2 _ (hR.cols col hc))
        (fun r hr t ht => h2 _ (hR.rows r hr t ht)) (sat_append_right hsat)),
      evalTerms_congr a a' _ (fun t ht => h2 _ (hR.obj t ht))⟩
  · intro a hsat
    exact ⟨a, sat_append (c05d_drop_constraints _ (sat_append_left hsat)) (sat_append_right hsat),
      rfl⟩

theorem c05d_generic_preserves (hwf : STWF s) (D : ConstraintDomain s c) (rest : LP) (hR : RestNoR rest)
    (X : List Edge) (hX : ∀ x ∈ X, x ∈ s.g.edges)
    (hcover : ∀ a, Sat a ((encodePaths s c).append rest) → ∀ x ∈ X, ∃ i, i < c.k ∧ a (edgeVar x i) = 1)
    (external : Option (List (List Edge)))
    (hext : ∀ a, Sat a ((encodePaths s c).append rest) → ∀ l, external = some l → ∀ q ∈ l, SomeLayerHas s a c.k q)
    (o : PathSafetyOpts) (fr : PathSafetyFrag) (h : pathSafetyPipeline s c X external o = .ok fr) :
    ((∃ a, Sat a ((encodePaths s c).append rest)) ↔ (∃ a, Sat a ((pathCoreS s c fr).append rest))) ∧
    (∀ v, IsMin (fun a => Sat a ((encodePaths s c).append rest)) (fun a => evalTerms a rest.obj) v ↔
      IsMin (fun a => Sat a ((pathCoreS s c fr).append rest)) (fun a => evalTerms a rest.obj) v) := by
  obtain ⟨lists, hl, rfl⟩ := (pathSafetyPipeline_ok_iff s c X external o fr).1 h
  rw [c05d_pathCoreS_extra, c05d_withSafety_eq]
  refine c05d_append_preserves hwf D rest hR _ fun a hsat q hq => ?_
  rw [(c05d_extra_fields lists o).2.2.2] at hq
  split at hq
  · exact c05d_safeLists_in_layers s c a hwf (sat_append_left hsat) X hX (hcover a hsat) external
      (hext a hsat) D.edges D.lenPos o lists hl q hq
  · cases hq

end

/-- the class-specific part of `kPathCover`: the cover rows (no objective) -/
def kcoverRest (inp : FlowInput) : LP :=
  { rows := (inp.activeEdges.filter fun e => !coverSkipped inp e).map fun e =>
      rowGe (ones (List.range inp.cfg.k) (edgeVar e)) 1 }

theorem c05d_kcoverRest_noR (inp : FlowInput) : RestNoR (kcoverRest inp) := by
  refine ⟨fun col hc => by simp [kcoverRest] at hc, ?_, fun t ht => by simp [kcoverRest] at ht⟩
  intro r hr
  obtain ⟨e, _, rfl⟩ := List.mem_map.1 hr
  exact c10_terms_map_noR _ _ _ (fun _ => rfl)

/-- the class-specific part of `kFlowDecomp` (the record of `kfdLP_eq`: `pi` and `w` columns, McCormick rows, flow
rows; no objective) does not mention the `r` columns -/
theorem c05d_kfdRest_noR (s : STGraph) (k : Nat) (wm : Rat) (isInt : Bool) (f : Edge → Rat) (active : List Edge) :
    RestNoR { cols := kfdCols s k wm isInt, rows := kfdRowsOf k f active wm } := by
  refine ⟨fun col hc => ?_, fun r hr => ?_, fun t ht => nomatch ht⟩
  · rcases List.mem_append.1 (show col ∈ kfdCols s k wm isInt from hc) with h | h
    · obtain ⟨i, _, h⟩ := List.mem_flatMap.1 h
      obtain ⟨e, _, rfl⟩ := List.mem_map.1 h
      rfl
    · obtain ⟨i, _, rfl⟩ := List.mem_map.1 h
      rfl
  · rcases List.mem_append.1 (show r ∈ kfdRowsOf k f active wm from hr) with h | h
    · obtain ⟨e, _, h⟩ := List.mem_flatMap.1 h
      obtain ⟨i, _, h⟩ := List.mem_flatMap.1 h
      simp only [binProd, List.mem_cons, List.not_mem_nil, or_false] at h
      intro t ht
      rcases h with rfl | rfl | rfl | rfl <;>
        (simp only [rowLe, rowGe, List.mem_cons, List.not_mem_nil, or_false] at ht
         rcases ht with rfl | rfl | rfl <;> rfl)
    · obtain ⟨e, _, rfl⟩ := List.mem_map.1 h
      exact c10_terms_map_noR _ _ _ (fun _ => rfl)

theorem c05d_kfd_uses (inp : FlowInput) (a : Asg) (hsat : Sat a (kfdLP inp)) :
    ∀ x ∈ kfdTrusted inp, ∃ i, i < inp.cfg.k ∧ a (edgeVar x i) = 1 := by
  intro x hx
  obtain ⟨he, hf⟩ := List.mem_filter.1 hx
  have hf' : inp.f x ≠ 0 := by simpa using hf
  obtain ⟨hpi, hflow⟩ := kfd_flow_rows hsat
  obtain ⟨i, hi, hxi⟩ := exists_ne_zero_of_sum_ne_zero (by rw [hflow x he]; exact hf')
  have hik := List.mem_range.1 hi
  refine ⟨i, hik, ((layerFacts_of_sat (sat_append_left hsat) hik).bin x (active_mem he).1).resolve_left fun h0 => hxi ?_⟩
  rw [hpi x he i hik, h0, Rat.zero_mul]

/-- the externally supplied lists (flow-safe paths) lie in some layer of every solution -/
def ExternalInLayers (inp : FlowInput) (external : Option (List (List Edge))) : Prop :=
  ∀ a, Sat a (kfdLP inp) → ∀ l, external = some l → ∀ q ∈ l, SomeLayerHas inp.st a inp.cfg.k q

theorem c05d_kfd_preserves (inp : FlowInput) (hb : BaseWF inp.base) (hac : Acyclic inp.base)
    (D : ConstraintDomain inp.st inp.cfg) (X : List Edge) (hX : ∀ x ∈ X, x ∈ kfdTrusted inp)
    (external : Option (List (List Edge))) (hext : ExternalInLayers inp external)
    (o : PathSafetyOpts) (fr : PathSafetyFrag) (h : pathSafetyPipeline inp.st inp.cfg X external o = .ok fr) :
    (∃ a, Sat a (kfdLP inp)) ↔ (∃ a, Sat a (kfdLPS inp fr)) := by
  obtain ⟨lists, hl, hfr⟩ := (pathSafetyPipeline_ok_iff inp.st inp.cfg X external o fr).1 h
  have hg := c05d_generic_preserves (hb.stwf hac) D _
    (c05d_kfdRest_noR inp.st inp.cfg.k inp.wmax inp.weightInt inp.f inp.activeEdges) X
    (fun x hx => (active_mem (List.mem_filter.1 (hX x hx)).1).1)
    (fun a hsat x hx => c05d_kfd_uses inp a hsat x (hX x hx)) external hext o fr h
  subst hfr
  rw [c05d_pathCoreS_extra] at hg
  rw [c05d_kfdLPS_eq]
  exact hg.1

end FP
