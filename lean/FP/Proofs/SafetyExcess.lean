import FP.Proofs.FlowLemmas
import FP.Proofs.SafetyFlow
/-!
The excess-flow lemma. In a flow decomposition (walks with weights `≥ 0`, each empty or ending in a node without
out-edges, whose superposition is `f`) the total weight of the walks that run through a window `W = v₁ … v_k`,
counted with the number of times they do so, is at least the excess flow of `W`: it is `f(v₁,v₂)` for `k = 2`, and extending the window by `y`
loses at most the weight that leaves its last node `u` through the other out-edges, `outflow(u) − f(u,y)`.
A window of positive excess flow is therefore traversed by some walk of every decomposition.

Occurrences are counted on the *reversed* walk (`occ`), so that an occurrence of the window is charged to the
edge that follows it.
-/
namespace FP.Safety
open FP.Spec

/-- number of positions at which `P` starts in `l` -/
def occ {V : Type} [DecidableEq V] (P : List V) : List V → Nat
  | [] => 0
  | x :: l => (if P <+: x :: l then 1 else 0) + occ P l

theorem occ_pos_infix {V : Type} [DecidableEq V] (P : List V) : ∀ l : List V, 0 < occ P l → P <:+: l := by
  intro l
  induction l with
  | nil => intro h; simp [occ] at h
  | cons x l ih =>
    intro h
    unfold occ at h
    by_cases hp : P <+: x :: l
    · exact hp.isInfix
    · rw [if_neg hp] at h
      exact (ih (by omega)).trans (List.suffix_cons x l).isInfix

/-- Per walk, on the reversed walk `x :: r`: an occurrence of `u :: Qr` is preceded by `y`, which makes it an
occurrence of `y :: u :: Qr`, or by another successor `z` of `u`, which makes it a traversal of `(z, u)`. -/
theorem occ_step {V : Type} [DecidableEq V] (succs : List V) (u y : V) (Qr : List V) : ∀ (r : List V) (x : V),
    (∀ z, (z, u) ∈ walkEdges (x :: r) → z ∈ succs) →
    occ (u :: Qr) r ≤ occ (y :: u :: Qr) (x :: r) +
      ((succs.erase y).map fun z => (walkEdges (x :: r)).count (z, u)).sum := by
  intro r
  induction r with
  | nil => intro x _; simp [occ]
  | cons a l ih =>
    intro x hx
    have ih' := ih a (fun z hz => hx z (by rw [we_cons_cons]; exact List.mem_cons_of_mem _ hz))
    have hsum : ((succs.erase y).map fun z => (walkEdges (x :: a :: l)).count (z, u)).sum =
        ((succs.erase y).map fun z => if (x, a) = (z, u) then 1 else 0).sum +
        ((succs.erase y).map fun z => (walkEdges (a :: l)).count (z, u)).sum := by
      rw [← sum_map_add]
      congr 1
      apply List.map_congr_left
      intro z _
      rw [we_cons_cons, List.count_cons, Nat.add_comm]
      simp only [beq_iff_eq]
    have hhead : (if u :: Qr <+: a :: l then 1 else 0) ≤
        (if y :: u :: Qr <+: x :: a :: l then 1 else 0) +
        ((succs.erase y).map fun z => if (x, a) = (z, u) then 1 else 0).sum := by
      by_cases hp : u :: Qr <+: a :: l
      · rw [if_pos hp]
        obtain rfl : a = u := (List.cons_prefix_cons.1 hp).1.symm
        have hxs : x ∈ succs := hx x (by rw [we_cons_cons]; exact List.mem_cons_self)
        by_cases hxy : x = y
        · subst hxy
          rw [if_pos (List.cons_prefix_cons.2 ⟨rfl, hp⟩)]; omega
        · have hmem : x ∈ succs.erase y := (List.mem_erase_of_ne hxy).2 hxs
          have := nat_le_sum_of_mem (fun z => if (x, a) = (z, a) then 1 else 0) hmem
          rw [if_pos rfl] at this
          omega
      · rw [if_neg hp]; omega
    show (if u :: Qr <+: a :: l then 1 else 0) + occ (u :: Qr) l ≤
      ((if y :: u :: Qr <+: x :: a :: l then 1 else 0) + occ (y :: u :: Qr) (a :: l)) + _
    rw [hsum]
    omega

theorem occ_pair {V : Type} [DecidableEq V] (a b : V) :
    ∀ r : List V, occ [b, a] r = (walkEdges r).count (b, a) := by
  intro r
  induction r with
  | nil => rfl
  | cons x r ih =>
    cases r with
    | nil => simp [occ, we_single]
    | cons z r =>
      have hp : [b, a] <+: x :: z :: r ↔ (x, z) = (b, a) := by
        rw [List.cons_prefix_cons, List.cons_prefix_cons, Prod.mk.injEq]
        exact ⟨fun h => ⟨h.1.symm, h.2.1.symm⟩, fun h => ⟨h.1.symm, h.2.symm, List.nil_prefix⟩⟩
      rw [we_cons_cons, List.count_cons, occ, ih, Nat.add_comm]
      simp only [hp, beq_iff_eq]

-- the two linear steps of `thr_extend` and `thr_ge_excess`, apart so that `grind` runs in an empty context
theorem sub_leak_le {x y c o fy : Rat} (h : x ≤ y + c) (ho : o = fy + c) : x - (o - fy) ≤ y := by grind

theorem excess_step_le {e t t' o fy : Rat} (h1 : e ≤ t) (h2 : t - (o - fy) ≤ t') : e + (fy - o) ≤ t' := by grind

section decomp
variable (g : Graph) (f : Edge → Rat) (D : List (List Node × Rat))

/-- weighted number of traversals of the window `P` -/
def thr (P : List Node) : Rat := (D.map fun pw => (occ P.reverse pw.1.reverse : Rat) * pw.2).sum

theorem sum_swap (L : List Node) (c : Node → List Node × Rat → Rat) :
    (D.map fun pw => (L.map fun z => c z pw).sum).sum = (L.map fun z => (D.map fun pw => c z pw).sum).sum := by
  induction L with
  | nil => exact sum_map_zero fun _ _ => rfl
  | cons a L ih =>
    simp only [List.map_cons, List.sum_cons]
    rw [← ih, ← sum_map_add]

-- members of weight `0` and empty members are allowed
variable (hD : ∀ pw ∈ D, IsWalkIn g pw.1 ∧ 0 ≤ pw.2 ∧ ∀ t, pw.1.getLast? = some t → g.succ t = [])
variable (hf : ∀ e ∈ g.edges, f e = (D.map fun pw => ((walkEdges pw.1).count e : Rat) * pw.2).sum)
include hD hf

omit hD in
theorem thr_edge (a b : Node) (hab : (a, b) ∈ g.edges) : thr D [a, b] = f (a, b) := by
  rw [hf _ hab]
  unfold thr
  congr 1
  apply List.map_congr_left
  intro pw _
  congr 2
  show occ [b, a] pw.1.reverse = _
  rw [occ_pair, count_we_reverse]

theorem thr_extend (Q : List Node) (u y : Node) (huy : (u, y) ∈ g.edges) :
    thr D (Q ++ [u]) - (outflow g f u - f (u, y)) ≤ thr D (Q ++ [u, y]) := by
  have hys : y ∈ g.succ u := mem_succ.2 huy
  have hper : ∀ pw ∈ D, (occ (Q ++ [u]).reverse pw.1.reverse : Rat) * pw.2 ≤
      (occ (Q ++ [u, y]).reverse pw.1.reverse : Rat) * pw.2 +
      (((g.succ u).erase y).map fun z => ((walkEdges pw.1).count (u, z) : Rat) * pw.2).sum := by
    intro pw hpw
    obtain ⟨hwalk, hpos, hsink⟩ := hD pw hpw
    cases hlast : pw.1.getLast? with
    | none =>
      rw [List.getLast?_eq_none_iff.1 hlast]
      simp [occ, walkEdges]
      rw [Rat.zero_add]
      exact sum_map_nonneg fun _ _ => Rat.le_refl
    | some t =>
      have hts := hsink t hlast
      obtain ⟨l, hl⟩ := List.getLast?_eq_some_iff.1 hlast
      obtain ⟨r', hr⟩ : ∃ r', pw.1.reverse = t :: r' := ⟨l.reverse, by rw [hl]; simp⟩
      have hrev1 : (Q ++ [u]).reverse = u :: Q.reverse := by simp
      have hrev2 : (Q ++ [u, y]).reverse = y :: u :: Q.reverse := by simp
      rw [hrev1, hrev2, hr]
      -- the reversed walk starts at `t`, which has no out-edge, so no occurrence of the window ending in `u` starts there
      have htu : ¬ u :: Q.reverse <+: t :: r' := by
        intro hp
        rw [(List.cons_prefix_cons.1 hp).1, hts] at hys
        cases hys
      have hstep := occ_step (g.succ u) u y Q.reverse r' t (by
        intro z hz
        rw [← hr] at hz
        exact mem_succ.2 (hwalk _ (mem_we_reverse.1 hz)))
      have hocc : occ (u :: Q.reverse) (t :: r') = occ (u :: Q.reverse) r' := by
        rw [occ, if_neg htu]; simp
      have hcnt : (((g.succ u).erase y).map fun z => (walkEdges (t :: r')).count (z, u)) =
          (((g.succ u).erase y).map fun z => (walkEdges pw.1).count (u, z)) := by
        apply List.map_congr_left
        intro z _
        rw [← hr, count_we_reverse]
      rw [hcnt, ← hocc] at hstep
      have hq := Rat.natCast_le_natCast.mpr hstep
      rw [Rat.natCast_add, natCast_sum] at hq
      have hmul := Rat.mul_le_mul_of_nonneg_right hq hpos
      rwa [Rat.add_mul, ← sum_map_mul_right] at hmul
  have hsum := sum_map_le hper
  rw [sum_map_add, sum_swap] at hsum
  have hflows : (((g.succ u).erase y).map fun z => (D.map fun pw => ((walkEdges pw.1).count (u, z) : Rat) * pw.2).sum) =
      (((g.succ u).erase y).map fun z => f (u, z)) := by
    apply List.map_congr_left
    intro z hz
    have hzs : z ∈ g.succ u := List.mem_of_mem_erase hz
    rw [hf (u, z) (mem_succ.1 hzs)]
  rw [hflows] at hsum
  have hout : outflow g f u = f (u, y) + (((g.succ u).erase y).map fun z => f (u, z)).sum := by
    rw [← sum_succ]; exact sum_erase (fun z => f (u, z)) (g.succ u) y hys
  exact sub_leak_le hsum hout

theorem thr_ge_excess : ∀ (mr : List Node) (a x : Node), IsWalkIn g (a :: (mr.reverse ++ [x])) →
    excessOf f (outflow g f) (a :: (mr.reverse ++ [x])) ≤ thr D (a :: (mr.reverse ++ [x])) := by
  intro mr
  induction mr with
  | nil =>
    intro a x hw
    have hax : (a, x) ∈ g.edges := hw _ (by simp [we_cons_cons])
    simp only [List.reverse_nil, List.nil_append]
    rw [thr_edge g f D hf a x hax, excessOf_pair]
    exact Rat.le_refl
  | cons x' mr ih =>
    intro a x hw
    have hshape : a :: ((x' :: mr).reverse ++ [x]) = a :: (mr.reverse ++ [x', x]) := by simp
    rw [hshape] at hw ⊢
    have hedge : (x', x) ∈ g.edges := hw _ (by
      have : a :: (mr.reverse ++ [x', x]) = (a :: mr.reverse) ++ x' :: x :: [] := by simp
      rw [this]; exact mem_we_mid _ _ _ _)
    have hw' : IsWalkIn g (a :: (mr.reverse ++ [x'])) := by
      intro e he; apply hw
      have : a :: (mr.reverse ++ [x', x]) = (a :: (mr.reverse ++ [x'])) ++ [x] := by simp
      rw [this]; exact we_sub_append_right _ _ e he
    have h1 := ih a x' hw'
    have h2 := thr_extend g f D hD hf (a :: mr.reverse) x' x hedge
    rw [excessOf_snoc]
    exact excess_step_le h1 h2

theorem excess_positive_in_decomposition (W : List Node) (hW : IsWalkIn g W) (hlen : 2 ≤ W.length)
    (hpos : 0 < excessOf f (outflow g f) W) : ∃ pw ∈ D, walkEdges W <:+: walkEdges pw.1 := by
  obtain ⟨a, mr, x, rfl⟩ : ∃ (a : Node) (mr : List Node) (x : Node), W = a :: (mr.reverse ++ [x]) := by
    cases W with
    | nil => simp at hlen
    | cons a l =>
      have hl : l ≠ [] := by intro h; subst h; simp at hlen
      refine ⟨a, l.dropLast.reverse, l.getLast hl, ?_⟩
      rw [List.reverse_reverse, List.dropLast_concat_getLast]
  have hthr := thr_ge_excess g f D hD hf mr a x hW
  have hthrpos : 0 < thr D (a :: (mr.reverse ++ [x])) := Std.lt_of_lt_of_le hpos hthr
  obtain ⟨pw, hpw, hne⟩ := exists_ne_zero_of_sum_ne_zero (Rat.ne_of_gt hthrpos)
  have hocc : 0 < occ (a :: (mr.reverse ++ [x])).reverse pw.1.reverse :=
    Nat.pos_of_ne_zero fun h0 => hne (by rw [h0]; exact Rat.zero_mul _)
  refine ⟨pw, hpw, ?_⟩
  have hinf := occ_pos_infix _ _ hocc
  rw [List.reverse_infix] at hinf
  obtain ⟨s1, s2, hs⟩ := hinf
  rw [← hs]
  exact we_infix _ _ _

end decomp

/-- positive weights and a last node are a special case of what the section above asks of a family -/
theorem decomp_weaken {g : Graph} {D : List (List Node × Rat)}
    (h : ∀ pw ∈ D, IsWalkIn g pw.1 ∧ 0 < pw.2 ∧ ∃ t, pw.1.getLast? = some t ∧ g.succ t = []) :
    ∀ pw ∈ D, IsWalkIn g pw.1 ∧ 0 ≤ pw.2 ∧ ∀ t, pw.1.getLast? = some t → g.succ t = [] := fun pw hpw =>
  have ⟨hw, hp, _, ht, hs⟩ := h pw hpw
  ⟨hw, Rat.le_of_lt hp, fun _ ht' => Option.some.inj (ht.symm.trans ht') ▸ hs⟩

end FP.Safety

namespace FP
open FP.Spec FP.Safety

/-- T4 for every family of walks with weights `≥ 0`, each empty or ending in a node without out-edges, whose
superposition is the flow: every reported path lies, contiguously, in a member -/
theorem flowSafe_in_decomposition (g : Graph) (flow : List (Edge × Rat))
    (hkeys : ∀ e q, flow.lookup e = some q → e ∈ g.edges)
    (paths : List (List Node)) (out : List (List Edge)) (h : flowSafePaths g flow paths = .ok out)
    (D : List (List Node × Rat))
    (hD : ∀ pw ∈ D, IsWalkIn g pw.1 ∧ 0 ≤ pw.2 ∧ ∀ t, pw.1.getLast? = some t → g.succ t = [])
    (hf : ∀ e ∈ g.edges, lookupD flow e 0 = (D.map fun pw => ((walkEdges pw.1).count e : Rat) * pw.2).sum) :
    ∀ P ∈ out, ∃ pw ∈ D, P <:+: walkEdges pw.1 := by
  intro P hP
  obtain ⟨path, hpath, W, rfl, hlen, hinf, hpos⟩ := flowSafePaths_windows g flow paths out h P hP
  have hedges := flowSafePaths_edges g flow paths out h path hpath
  have hW : IsWalkIn g W := by
    intro e he
    obtain ⟨s1, s2, hs⟩ := hinf
    have : e ∈ walkEdges path := by
      rw [← hs]
      exact we_sub_append_right _ _ e (we_sub_append_left _ _ e he)
    obtain ⟨q, hq, _⟩ := hedges e this
    exact hkeys e q hq
  -- `hpos` spells the outflow out as `((g.outEdges v).map _).sum`, which is `outflow g _ v` by unfolding
  exact excess_positive_in_decomposition g (fun e => lookupD flow e 0) D hD hf W hW hlen hpos

end FP
