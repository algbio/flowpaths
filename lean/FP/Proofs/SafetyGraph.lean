import FP.Model.SafetyDag
import FP.Proofs.SafetyBridges
import FP.Proofs.Reach
import FP.Spec.Safety
/-! The edges of a `Graph` are edges of its adjacency dict `succAdj` and, reversed, of `predAdj`, so the bridges
`safe_sequences` finds on either side of an item lie on every walk of the graph through the item. First, what a
successful `>>=` and `mapRes` of the `Res` monad return. -/
namespace FP.Safety
open FP.Spec

theorem Res.bind_eq_ok {α β : Type} {x : Res α} {f : α → Res β} {b : β} :
    x >>= f = .ok b ↔ ∃ a, x = .ok a ∧ f a = .ok b := by
  cases x with
  | ok a => exact ⟨fun h => ⟨a, rfl, h⟩, fun ⟨_, h1, h2⟩ => by cases h1; exact h2⟩
  | raises w => exact ⟨fun h => (nomatch h), fun ⟨_, h, _⟩ => (nomatch h)⟩
  | fuel => exact ⟨fun h => (nomatch h), fun ⟨_, h, _⟩ => (nomatch h)⟩

theorem mapRes_mem {α β : Type} (f : α → Res β) : ∀ (l : List α) (r : List β), mapRes f l = .ok r →
    ∀ b ∈ r, ∃ a ∈ l, f a = .ok b := by
  intro l
  induction l with
  | nil => intro r h b hb; obtain rfl := Res.ok.inj h; cases hb
  | cons a l ih =>
    intro r h b hb
    unfold mapRes at h
    obtain ⟨b0, hfa, h⟩ := Res.bind_eq_ok.1 h
    obtain ⟨bs, hrest, h⟩ := Res.bind_eq_ok.1 h
    obtain rfl := Res.ok.inj h
    rcases List.mem_cons.1 hb with rfl | hb
    · exact ⟨a, List.mem_cons_self, hfa⟩
    · obtain ⟨a', ha', hf'⟩ := ih bs hrest b hb
      exact ⟨a', List.mem_cons_of_mem _ ha', hf'⟩

theorem out_mapAdj (ns : List Node) (f : Node → List Node) (u : Node) (hu : u ∈ ns) :
    out (ns.map fun v => (v, f v)) u = f u := by
  unfold out; rw [lookup_map_self f hu]; rfl

section
variable {g : Graph} (hg : GraphWF g) {a b : Node} {L : List Edge}
include hg

theorem thru_succAdj (h : Thru (fun e => e.2 ∈ out (succAdj g) e.1) a b L) : Thru (· ∈ g.edges) a b L :=
  h.mono fun e he => by
    rw [show out (succAdj g) e.1 = g.succ e.1 from out_mapAdj g.nodes g.succ e.1 (hg e he).1]; exact mem_succ.2 he

/-- what a search in the reversed graph finds from `b` back to `a` is met from `a` to `b` in the opposite order -/
theorem thru_predAdj (h : Thru (fun e => e.2 ∈ out (predAdj g) e.1) b a L) :
    Thru (· ∈ g.edges) a b (L.map fun e => (e.2, e.1)).reverse :=
  h.reverse.mono fun e he => by
    rw [show out (predAdj g) e.2 = g.pred e.2 from out_mapAdj g.nodes g.pred e.2 (hg e he).2]; exact mem_pred.2 he

end

/-- What `safe_sequences` builds for an item: the bridges to its left (found in the reversed graph), the item, the
bridges to its right. -/
theorem safeSequenceOf_ok (g : Graph) (hg : GraphWF g) (s t : Node) (item seq : List Edge)
    (h : safeSequenceOf g s t item = .ok seq) : ∃ a b L R, item.head? = some a ∧ item.getLast? = some b ∧
      seq = L ++ item ++ R ∧ Thru (· ∈ g.edges) s a.1 L ∧ Thru (· ∈ g.edges) b.2 t R := by
  unfold safeSequenceOf at h
  split at h
  · rename_i a b ha hb
    obtain ⟨⟨left, gl⟩, hL, h⟩ := Res.bind_eq_ok.1 h
    obtain ⟨⟨right, gr⟩, hR, h⟩ := Res.bind_eq_ok.1 h
    exact ⟨a, b, _, right, ha, hb, (Res.ok.inj h).symm,
      thru_predAdj hg (findAllBridges_ordered _ _ hL),
      thru_succAdj hg (findAllBridges_ordered _ _ hR)⟩
  · cases h

theorem forcedBy_of_thru {g : Graph} {s t : Node} {item L R : List Edge} {a b : Edge} (ha : item.head? = some a)
    (hb : item.getLast? = some b) (hL : Thru (· ∈ g.edges) s a.1 L) (hR : Thru (· ∈ g.edges) b.2 t R) :
    ForcedBy g s t item (L ++ item ++ R) := by
  intro w hw hocc
  obtain ⟨r0, hr0⟩ := List.getLast?_eq_some_iff.1 hb
  have h1 : (item ++ R).Sublist (walkEdges w) := by
    rw [hr0, List.append_assoc]; exact hR.after hw.walk hw.first hw.last (hr0 ▸ hocc)
  obtain ⟨r, hr⟩ : ∃ r, item = a :: r := by
    cases item with
    | nil => cases ha
    | cons a' r => cases ha; exact ⟨r, rfl⟩
  rw [hr] at h1
  show (L ++ item ++ R).Sublist _
  rw [hr, List.append_assoc]
  exact hL.before hw.walk hw.first hw.last h1

/-- every edge of the sequence `safe_sequences` computes for `item` lies on every source-to-sink walk that
contains the edges of `item`, whatever the order in which `item` lists them -/
theorem safeSequenceOf_members (g : Graph) (hg : GraphWF g) (s t : Node) (item seq : List Edge)
    (h : safeSequenceOf g s t item = .ok seq) (w : List Node) (hw : IsSTWalkG g s t w)
    (hit : ∀ e ∈ item, e ∈ walkEdges w) : ∀ e ∈ seq, e ∈ walkEdges w := by
  obtain ⟨a, b, L, R, ha, hb, rfl, hL, hR⟩ := safeSequenceOf_ok g hg s t item seq h
  intro e he
  rcases List.mem_append.1 he with he | he
  rcases List.mem_append.1 he with he | he
  · -- the left bridges dominate the part of `w` up to the item's first edge
    exact (hL.before (R := []) hw.walk hw.first hw.last
      (List.singleton_sublist.2 (hit a (List.mem_of_head? ha)))).subset (List.mem_append_left _ he)
  · exact hit e he
  · -- the right bridges the part after its last edge
    exact (hR.after (L := []) hw.walk hw.first hw.last
      (List.singleton_sublist.2 (hit b (List.mem_of_getLast? hb)))).subset (List.mem_cons_of_mem _ he)

theorem safeSequenceOf_forced (g : Graph) (hg : GraphWF g) (s t : Node) (item seq : List Edge)
    (h : safeSequenceOf g s t item = .ok seq) : ForcedBy g s t item seq := by
  obtain ⟨a, b, L, R, ha, hb, rfl, hL, hR⟩ := safeSequenceOf_ok g hg s t item seq h
  exact forcedBy_of_thru ha hb hL hR

end FP.Safety
