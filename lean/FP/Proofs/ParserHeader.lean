import FP.Spec.GraphFile
/-!
The header loop computes the first-appearance list of distinct `#S` sequences: it is the loop by which
`List.eraseDups` is defined (`scan_loop`).
-/
namespace FP.Parser
open FP.Spec.GraphFile
variable {S : Type}

theorem zip_tail_eq_nil (t : List S) : t.zip t.tail = [] ↔ ¬ 2 ≤ t.length := by
  match t with
  | [] => simp
  | [a] => simp
  | a :: b :: r => simp

theorem consOfSeqs_append (l l' : List (List S)) : consOfSeqs (l ++ l') = consOfSeqs l ++ consOfSeqs l' := by
  simp only [consOfSeqs, List.filter_append, List.map_append]

theorem consOfSeqs_singleton (t : List S) :
    consOfSeqs [t] = if t.zip t.tail = [] then [] else [t.zip t.tail] := by
  by_cases h : 2 ≤ t.length
  · rw [if_neg fun e => (zip_tail_eq_nil t).1 e h]; simp [consOfSeqs, h]
  · rw [if_pos ((zip_tail_eq_nil t).2 h)]; simp [consOfSeqs, h]

theorem mem_lineSeqs (hs : List (Line S)) (toks : List S) : toks ∈ lineSeqs hs ↔ Line.subpath toks ∈ hs := by
  induction hs with
  | nil => simp [lineSeqs]
  | cons l r ih => cases l <;> simp [lineSeqs, ih]

variable [DecidableEq S]

/-- `scanLine` on the `#S` lines runs the loop that defines `List.eraseDups`, on the accumulator `bs` (newest first):
`seen` is `bs` without the empty sequence, which python skips before looking it up, and `cons` is `consOfSeqs` of `bs`. -/
theorem scan_loop (hs : List (Line S)) (st : Hdr S) (bs : List (List S))
    (hseen : ∀ t, t ≠ [] → (t ∈ st.seen ↔ t ∈ bs)) (hcons : st.cons = consOfSeqs bs.reverse) :
    (hs.foldl scanLine st).headers = st.headers ++ lineHeaders hs ∧
    (hs.foldl scanLine st).cons = consOfSeqs (List.eraseDupsBy.loop (· == ·) (lineSeqs hs) bs) := by
  induction hs generalizing st bs with
  | nil => simpa [lineHeaders, lineSeqs, List.eraseDupsBy.loop] using hcons
  | cons l r ih =>
    rw [List.foldl_cons]
    cases l with
    | header t =>
      obtain ⟨h1, h2⟩ := ih (scanLine st (.header t)) bs hseen hcons
      exact ⟨by rw [h1]; simp [scanLine, lineHeaders], h2⟩
    | blank => exact ih st bs hseen hcons
    | data a b => exact ih st bs hseen hcons
    | subpath toks =>
      have hany : bs.any (toks == ·) = decide (toks ∈ bs) := by
        rw [Bool.eq_iff_iff]; simp
      have hsnoc : consOfSeqs (toks :: bs).reverse = consOfSeqs bs.reverse ++ consOfSeqs [toks] := by
        rw [List.reverse_cons, consOfSeqs_append]
      simp only [lineSeqs, lineHeaders, List.eraseDupsBy.loop, hany]
      by_cases hb : toks ∈ bs
      · have : scanLine st (.subpath toks) = st := by
          by_cases he : toks = []
          · simp [scanLine, he]
          · simp [scanLine, he, (hseen toks he).2 hb]
        rw [this, decide_eq_true hb]
        exact ih st bs hseen hcons
      · rw [decide_eq_false hb]
        by_cases he : toks = []
        · subst he
          exact ih st _ (fun t ht => by simp [hseen t ht, ht]) (by rw [hsnoc, hcons]; simp [consOfSeqs])
        · have hs : toks ∉ st.seen := fun h => hb ((hseen toks he).1 h)
          have := ih (scanLine st (.subpath toks)) (toks :: bs)
            (fun t ht => by simp [scanLine, he, hs, hseen t ht, or_comm])
            (by rw [hsnoc, consOfSeqs_singleton, ← hcons]
                by_cases hz : toks.zip toks.tail = [] <;> simp [scanLine, he, hs, hz])
          simpa [scanLine, he, hs] using this

theorem scanHeader_spec (hs : List (Line S)) :
    (scanHeader hs).headers = lineHeaders hs ∧
    (scanHeader hs).cons = consOfSeqs (lineSeqs hs).eraseDups :=
  scan_loop hs {} [] (by simp) rfl

theorem mem_cons_of_subpath (hs : List (Line S)) (toks : List S) (a b : S)
    (h : Line.subpath toks ∈ hs) (he : (a, b) ∈ toks.zip toks.tail) :
    ∃ c ∈ (scanHeader hs).cons, (a, b) ∈ c := by
  rw [(scanHeader_spec hs).2]
  refine ⟨toks.zip toks.tail, ?_, he⟩
  simp only [consOfSeqs, List.mem_map, List.mem_filter, List.mem_eraseDups, decide_eq_true_eq]
  refine ⟨toks, ⟨(mem_lineSeqs hs toks).2 h, ?_⟩, rfl⟩
  apply Classical.byContradiction
  intro h2
  rw [(zip_tail_eq_nil toks).2 h2] at he
  cases he

end FP.Parser
