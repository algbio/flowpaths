import FP.Model.Wrapper
/-!
# FP.Proofs.WrapperState — `flush` and `setObjective` column by column

`flush` is two folds of `setBounds`, over the queued fixes and then over the queued lower bounds (`flush_cols`);
`setObjective` rewrites every cost; both are read through `getElem?`.
-/
namespace FP

/-! A queue of bound updates `u` (column `ix u`, new bounds `lo u`, `hi u`) applied by a fold of `setBounds`:
with distinct column indices, exactly the listed columns change. -/
section
variable {α : Type} (ups : List α) (ix : α → Nat) (lo hi : α → Rat)

theorem foldl_setBounds_length : ∀ cs : List WCol,
    (ups.foldl (fun cs u => setBounds cs (ix u) (lo u) (hi u)) cs).length = cs.length := by
  induction ups with
  | nil => intro cs; rfl
  | cons u rest ih => intro cs; rw [List.foldl_cons, ih, setBounds, List.length_modify]

theorem foldl_setBounds_notin (i : Nat) : ∀ cs : List WCol, i ∉ ups.map ix →
    (ups.foldl (fun cs u => setBounds cs (ix u) (lo u) (hi u)) cs)[i]? = cs[i]? := by
  induction ups with
  | nil => intro cs _; rfl
  | cons u rest ih =>
    intro cs h
    simp only [List.map_cons, List.mem_cons, not_or] at h
    rw [List.foldl_cons, ih _ h.2, setBounds, List.getElem?_modify_ne _ _ (Ne.symm h.1)]

theorem foldl_setBounds_mem (hnd : (ups.map ix).Nodup) {u : α} (hu : u ∈ ups) : ∀ cs : List WCol,
    (ups.foldl (fun cs u => setBounds cs (ix u) (lo u) (hi u)) cs)[ix u]?
      = (cs[ix u]?).map (fun c => { c with lb := lo u, ub := hi u }) := by
  induction ups with
  | nil => simp at hu
  | cons w rest ih =>
    intro cs
    simp only [List.map_cons, List.nodup_cons] at hnd
    rw [List.foldl_cons]
    rcases List.mem_cons.1 hu with rfl | h
    · rw [foldl_setBounds_notin rest ix lo hi _ _ hnd.1, setBounds, List.getElem?_modify_eq]
      rfl
    · have hne : ix w ≠ ix u := fun he => hnd.1 (he ▸ List.mem_map_of_mem h)
      rw [ih hnd.2 h, setBounds, List.getElem?_modify_ne _ _ hne]

end

/-- `getCols` is read once, before any lower bound is written: the `zip` of the definition is a `map` -/
theorem flush_cols (f : GetColsField) (s : WState) :
    (flush f s).cols =
      s.pendingLb.foldl (fun cs iv => setBounds cs iv.1 iv.2 (fieldOf f
          ((s.pendingFix.foldl (fun cs iv => setBounds cs iv.1 iv.2 iv.2) s.cols).getD iv.1 default)))
        (s.pendingFix.foldl (fun cs iv => setBounds cs iv.1 iv.2 iv.2) s.cols) := by
  simp only [flush]
  generalize s.pendingFix.foldl (fun cs iv => setBounds cs iv.1 iv.2 iv.2) s.cols = cols1
  rw [show s.pendingLb.zip (s.pendingLb.map fun iv => fieldOf f (cols1.getD iv.1 default))
        = s.pendingLb.map (fun iv => (iv, fieldOf f (cols1.getD iv.1 default))) from by
      conv => lhs; arg 1; rw [← List.map_id s.pendingLb]
      rw [List.zip_map']; rfl, List.foldl_map]

theorem setObjective_getElem? (cols : List WCol) (t : List (Nat × Rat)) (i : Nat) :
    (setObjective cols t)[i]? =
      (cols[i]?).map (fun c => { c with cost := ((t.filter (·.1 = i)).map (·.2)).sum }) := by
  simp only [setObjective, List.getElem?_map, List.zip, List.getElem?_zipWith', List.length_map]
  by_cases hi : i < cols.length
  · simp [hi]
  · simp [hi]

theorem setObjective_replaces (cols : List WCol) (t1 t2 : List (Nat × Rat)) :
    setObjective (setObjective cols t1) t2 = setObjective cols t2 := by
  apply List.ext_getElem?
  intro i
  rw [setObjective_getElem?, setObjective_getElem?, setObjective_getElem?]
  cases cols[i]? <;> simp

end FP
