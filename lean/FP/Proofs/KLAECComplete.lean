import FP.Proofs.KLAECAsg
import FP.Proofs.WalkWitness
import FP.Proofs.KLAEC
/-!
Restricted completeness of the `kLeastAbsErrorsCycles` LP. `klaecAsg` turns multiplicities,
weights, error values and connectivity witnesses into an assignment of all columns of `klaecLP`; it satisfies
the LP under the hypotheses `KlaecFamily`. Two of these — every product `w_i · m_i(e)` and every error
`|f(e) − Σ_i w_i m_i(e)|` on a non-ignored edge is at most `w_max`, the bound of the `pi` and `ee` columns —
are what finding C07-laecycles-wmax-cuts-optimum is about: solutions that need a product or an error above
`w_max = k·max f` are not represented. The walk form is `klaecWalkAsg_sat` for families `LaecWithinCaps`; what
`klaecWalkAsg` carries (`klaecWalkAsg_mult`, `klaecWalkAsg_obj`) needs no hypothesis. With no empty walks and no subset
constraints the decoded family of a satisfying assignment is within the caps (`klaec_decoded_within_caps`), and its
total error is at most the objective (`klaec_obj_ge`).
-/
namespace FP
open FP.Spec

def klaecProds (inp : WalkInput) : List (Edge × Nat) :=
  (inp.activeEdges true).flatMap fun e => (List.range inp.k).map fun i => (e, i)

theorem mem_klaecProds {inp : WalkInput} {e : Edge} {i : Nat} :
    (e, i) ∈ klaecProds inp ↔ e ∈ inp.activeEdges true ∧ i < inp.k :=
  mem_flatMap_range

/-- the names of the product blocks are pairwise different (the model identifies a column with its
HiGHS name; in the Python code the blocks own their variables whatever the names are) -/
def KlaecNameInj (inp : WalkInput) : Prop :=
  ∀ p ∈ klaecProds inp, ∀ q ∈ klaecProds inp, klaecProdName p.1 p.2 = klaecProdName q.1 q.2 → p = q

theorem klaecProdName_inj {e e' : Edge} {i j : Nat} (h : klaecProdName e i = klaecProdName e' j) :
    i = j ∧ e.1 ++ "_v=" ++ e.2 = e'.1 ++ "_v=" ++ e'.2 := by
  have h := congrArg String.toList h
  simp only [klaecProdName, String.toList_append, Nat.toString_eq_repr, Nat.toList_repr] at h
  obtain ⟨hx, hi⟩ := index_suffix_inj (List.append_cancel_right h)
  refine ⟨hi, String.toList_inj.1 ?_⟩
  simp only [String.toList_append]
  simp only [List.append_assoc] at hx ⊢
  exact List.append_cancel_left hx

/-- node names are arbitrary strings, so the names are different when `u ++ "_v=" ++ v` is for distinct
non-ignored edges -/
theorem klaecNameInj_of_edges (inp : WalkInput)
    (h : ∀ e ∈ inp.activeEdges true, ∀ e' ∈ inp.activeEdges true,
      e.1 ++ "_v=" ++ e.2 = e'.1 ++ "_v=" ++ e'.2 → e = e') : KlaecNameInj inp := by
  rintro ⟨e, i⟩ hp ⟨e', j⟩ hq hn
  obtain ⟨rfl, hee⟩ := klaecProdName_inj (e := e) (i := i) (e' := e') (j := j) hn
  rw [h e (mem_klaecProds.1 hp).1 e' (mem_klaecProds.1 hq).1 hee]

def klaecAsg (inp : WalkInput) (m : Nat → Edge → Nat) (w : Nat → Rat) (ee : Edge → Rat)
    (sel : Nat → Edge → Bool) (dist : Nat → Node → Nat) : Asg :=
  klaecProdAsg (klaecProds inp) (fun p => klaecProdName p.1 p.2) (fun p => m p.2 p.1) (fun p => w p.2)
    (klaecBaseAsg inp m w (fun _ => 0) ee sel dist)

/-- the assignment of a family of weighted walks (inner vertex sequences), error columns tight -/
def klaecWalkAsg (inp : WalkInput) (walk : Nat → List Node) (w : Nat → Rat) : Asg :=
  klaecAsg inp (multsOf inp.st.source inp.st.sink walk) w (LAEC.absErr inp walk w)
    (fun i => walkSel (inp.st.source :: walk i ++ [inp.st.sink]))
    (fun i => walkDist inp.st.g.nodes (inp.st.source :: walk i ++ [inp.st.sink]))

section Asg
variable (inp : WalkInput) (m : Nat → Edge → Nat) (w : Nat → Rat) (ee : Edge → Rat)
  (sel : Nat → Edge → Bool) (dist : Nat → Node → Nat)

theorem klaecAsg_core : CoreCols inp (klaecAsg inp m w ee sel dist) m sel dist :=
  (klaecBaseAsg_core inp m w (fun _ => 0) ee sel dist).prodAsg _ _ _ _

theorem klaecAsg_chan : ChanCols inp (klaecAsg inp m w ee sel dist) m w (fun _ => 0) ee :=
  (klaecBaseAsg_chan inp m w (fun _ => 0) ee sel dist).prodAsg _ _ _ _

end Asg

structure KlaecFamily (inp : WalkInput) (m : Nat → Edge → Nat) (w : Nat → Rat)
    (sel : Nat → Edge → Bool) (dist : Nat → Node → Nat) : Prop where
  /-- per layer: conserved multiplicities leaving the source once, within the caps, with connectivity witnesses -/
  layer : ∀ i, i < inp.k → LayerWitness inp.st inp.cfg.allowEmpty (klaecCap inp) (m i) (sel i) (dist i)
  /-- weights in `[0, w_max]`, integral for `weight_type = int` -/
  weights : ∀ i, i < inp.k → 0 ≤ w i ∧ w i ≤ inp.wmax true ∧ (inp.weightInt = true → IsInt (w i))
  /-- the multiplicities fit into the bits of the product blocks (`⌈log2(w_max + 1)⌉` bits) -/
  multBits : ∀ i, i < inp.k → ∀ e ∈ inp.activeEdges true, m i e < 2 ^ klaecBits inp
  /-- weight × multiplicity does not exceed `w_max` (the bound of the `pi` columns) -/
  prodLe : ∀ i, i < inp.k → ∀ e ∈ inp.activeEdges true, w i * (m i e : Rat) ≤ inp.wmax true
  /-- the errors do not exceed `w_max` (the bound of the `ee` columns) -/
  errLe : ∀ e ∈ inp.activeEdges true, (inp.f e - explainedM inp.k m w e).abs ≤ inp.wmax true
  covered : ∀ j (hj : j < inp.cfg.constraints.length), ∃ i, i < inp.k ∧
    coversB (m i) inp.cfg.constraints[j] inp.cfg.coverage = true

theorem klaec_complete_mult (inp : WalkInput) (m : Nat → Edge → Nat) (w : Nat → Rat)
    (sel : Nat → Edge → Bool) (dist : Nat → Node → Nat)
    (hwf : STWFc inp.st) (hinj : KlaecNameInj inp)
    (hfint : inp.weightInt = true → ∀ e ∈ inp.activeEdges true, IsInt (inp.f e))
    (h : KlaecFamily inp m w sel dist) :
    Sat (klaecAsg inp m w (fun e => (inp.f e - explainedM inp.k m w e).abs) sel dist) (klaecLP inp) := by
  have hc := klaecAsg_core inp m w (fun e => (inp.f e - explainedM inp.k m w e).abs) sel dist
  have hv := klaecAsg_chan inp m w (fun e => (inp.f e - explainedM inp.k m w e).abs) sel dist
  obtain ⟨hch, hsum⟩ := WalkChan.of_values (all := inp.st.g.edges) (pi := inp.weightInt) m w hc.edge hv.weights hv.pi
    (fun i hi e he j => klaecProdAsg_bit _ _ _ _ _ hinj (e, i) (mem_klaecProds.2 ⟨he, hi⟩) j)
    (fun i hi e he j => klaecProdAsg_comp _ _ _ _ _ hinj (e, i) (mem_klaecProds.2 ⟨he, hi⟩) j)
    h.weights id h.multBits h.prodLe
  refine (sat_klaecLP_iff inp _).2 ⟨walkCore_sat inp (klaecCap inp) _ m sel dist hwf h.layer h.covered hc, hch,
    fun e he => ?_, fun e he => ?_⟩
  · rw [hv.ee]
    exact ⟨Rat.abs_nonneg, h.errLe e he, fun hint =>
      abs_isInt (sub_isInt (hfint hint e he)
        (sum_map_isInt fun i hi =>
          mul_isInt ((h.weights i (List.mem_range.1 hi)).2.2 hint) (natCast_isInt _)))⟩
  · rw [hv.ee, hsum e he]
    exact Rat.le_refl

/-- a family of `inp.k` weighted walks that the `kLeastAbsErrorsCycles` model can represent -/
structure LaecWithinCaps (inp : WalkInput) (walk : Nat → List Node) (w : Nat → Rat) : Prop where
  isWalk : ∀ i, i < inp.k → IsWalkIn inp.st.g (inp.st.source :: walk i ++ [inp.st.sink])
  /-- every walk respects the repetition caps (largest reachable flow value inside an SCC, 1 outside) -/
  withinCap : ∀ i, i < inp.k → ∀ e ∈ inp.st.g.edges,
    (traversals (inp.st.source :: walk i ++ [inp.st.sink]) e : Rat) ≤ klaecCap inp e
  /-- weights in `[0, w_max]`, integral for `weight_type = int` -/
  weights : ∀ i, i < inp.k → 0 ≤ w i ∧ w i ≤ inp.wmax true ∧ (inp.weightInt = true → IsInt (w i))
  /-- the traversal counts fit into the `⌈log2(w_max + 1)⌉` bits of the product blocks (true when they
  are at most `w_max`: `lt_two_pow_klaecBitsOf`) -/
  multBits : ∀ i, i < inp.k → ∀ e ∈ inp.activeEdges true,
    traversals (inp.st.source :: walk i ++ [inp.st.sink]) e < 2 ^ klaecBits inp
  /-- weight × number of traversals is at most `w_max` (the bound of the `pi` columns) -/
  prodLe : ∀ i, i < inp.k → ∀ e ∈ inp.activeEdges true,
    w i * (traversals (inp.st.source :: walk i ++ [inp.st.sink]) e : Rat) ≤ inp.wmax true
  /-- every absolute error is at most `w_max` (the bound of the `ee` columns) -/
  errLe : ∀ e ∈ inp.activeEdges true, LAEC.absErr inp walk w e ≤ inp.wmax true
  covered : ∀ j (hj : j < inp.cfg.constraints.length), ∃ i, i < inp.k ∧
    coversB (multsOf inp.st.source inp.st.sink walk i) inp.cfg.constraints[j] inp.cfg.coverage = true

theorem klaecWalkAsg_mult (inp : WalkInput) (walk : Nat → List Node) (w : Nat → Rat) (i : Nat) (e : Edge) :
    multOf (klaecWalkAsg inp walk w) i e = traversals (inp.st.source :: walk i ++ [inp.st.sink]) e :=
  multOf_of_eq _ i e _ ((klaecAsg_core inp _ w _ _ _).edge i e)

theorem klaecWalkAsg_obj (inp : WalkInput) (walk : Nat → List Node) (w : Nat → Rat) :
    evalTerms (klaecWalkAsg inp walk w) (klaecLP inp).obj = LAEC.totalErr inp walk w := by
  rw [klaecLP_obj]
  exact congrArg List.sum (List.map_congr_left fun e _ => congrArg _ ((klaecAsg_chan inp _ w _ _ _).ee e))

theorem klaecWalkAsg_sat (inp : WalkInput) (walk : Nat → List Node) (w : Nat → Rat)
    (hb : BaseWF inp.base) (hinj : KlaecNameInj inp)
    (hfint : inp.weightInt = true → ∀ e ∈ inp.activeEdges true, IsInt (inp.f e))
    (h : LaecWithinCaps inp walk w) : Sat (klaecWalkAsg inp walk w) (klaecLP inp) :=
  have hwf : STWFc inp.st := hb.stwfc
  klaec_complete_mult inp _ w _ _ hwf hinj hfint
    { layer := fun i hi => walk_layer_witness inp.st hwf _ _ (h.isWalk i hi) (h.withinCap i hi)
      weights := h.weights
      multBits := h.multBits
      prodLe := h.prodLe
      errLe := h.errLe
      covered := h.covered }

theorem klaec_mult_bits (inp : WalkInput) (a : Asg) (hsat : Sat a (klaecLP inp))
    (e : Edge) (he : e ∈ inp.activeEdges true) (i : Nat) (hi : i < inp.k) :
    multOf a i e < 2 ^ klaecBits inp :=
  ((sat_klaecLP_iff inp a).1 hsat).2.1.mult_lt he hi (edge_col (klaec_sat_enc hsat) hi (List.mem_filter.1 he).1)

theorem klaec_decoded_within_caps (inp : WalkInput) (a : Asg) (hb : BaseWF inp.base)
    (hae : inp.cfg.allowEmpty = false) (hcons : inp.cfg.constraints = [])
    (hsat : Sat a (klaecLP inp)) :
    LaecWithinCaps inp (decodeWalkLayer inp.st a) (fun i => a (weightsVar i)) := by
  have hlayer := walkcore_layer_mults inp.st _ a hb.stwfc (klaec_sat_enc hsat)
  obtain ⟨_, hc, heec, _⟩ := (sat_klaecLP_iff inp a).1 hsat
  refine { isWalk := fun i hi => decoded_isWalk inp.st inp.cfg _ a hb.stwfc (klaec_sat_enc hsat) hae i hi
           withinCap := decoded_withinCap inp.st _ a hb.stwfc (klaec_sat_enc hsat)
           weights := hc.contBox, multBits := ?_, prodLe := ?_, errLe := ?_, covered := ?_ }
  · intro i hi e he
    rw [(hlayer i hi e (List.mem_filter.1 he).1).1]
    exact klaec_mult_bits inp a hsat e he i hi
  · intro i hi e he
    rw [(hlayer i hi e (List.mem_filter.1 he).1).1, ← klaec_pi hsat he hi]
    exact (hc.prodBox i hi e (List.mem_filter.1 he).1).2.1
  · intro e he
    exact Rat.le_trans (klaec_err_le hb hsat he) (heec e he).2.1
  · intro j hj
    rw [hcons] at hj
    exact absurd hj (Nat.not_lt_zero j)

theorem klaec_obj_ge (inp : WalkInput) (a : Asg) (hb : BaseWF inp.base)
    (hscale : ∀ e ∈ inp.activeEdges true, 0 ≤ inp.scale e) (hsat : Sat a (klaecLP inp)) :
    LAEC.totalErr inp (decodeWalkLayer inp.st a) (fun i => a (weightsVar i))
      ≤ evalTerms a (klaecLP inp).obj := by
  rw [klaecLP_obj]
  unfold LAEC.totalErr
  apply sum_map_le
  intro e he
  exact Rat.mul_le_mul_of_nonneg_left (klaec_err_le hb hsat he) (hscale e he)

end FP
