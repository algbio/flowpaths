import FP.Proofs.C05Perm
import FP.Proofs.C05Frag
import FP.Spec.Safety
import FP.Proofs.SafetyFix
/-!
# FP.Proofs.C05Slots — every solution can be re-indexed so that it satisfies the safety rows

`a` satisfies `_encode_walks` and uses every trusted edge in some layer. The sequences handed to the slots are
safe for the trusted edges (`FP.Props.C06.maximal_safe_sequences_safe`) and pairwise incompatible
(`incompatible_sound`). Then the layers can be permuted so that slot `j`'s decoded walk contains `seqs[j]`
(`slots_perm`): a safe sequence is contained in the walk of some layer, two different slots never get the same
layer because one walk cannot contain two incompatible sequences, and an injection of the slots into the layers
extends to a permutation (exchange step by step).
Hence (`slotsFit_exists`) the permuted assignment has `x(e,j) ≥ multiplicity` on the edges of slot `j`'s
sequence, `x(e,j) = 1` on those outside the SCCs (`nonScc_once`), and `x(e,j) = 0` on every edge that
`_apply_safety_optimizations_fix_zero_edges` fixes in slot `j` (`zeroFix_sound`): all rows of `safetyExtra` hold
(`safetyRows_hold`).
-/
namespace FP
open FP.Spec FP.Safety

/-- the walk of layer `i` handed to the user, with the synthetic endpoints put back -/
def layerWalk (s : STGraph) (a : Asg) (i : Nat) : List Node := s.source :: decodeWalkLayer s a i ++ [s.sink]

def layerUsed (s : STGraph) (a : Asg) (i : Nat) : Bool := s.g.edges.any fun e => multOf a i e != 0

section Layer
variable {s : STGraph} {c : WalkCfg} {ub : Edge → Rat} {a : Asg}

/-- a layer that uses some edge is the first case of `walkcore_layer_cases` -/
theorem usedLayer_walk (hwf : STWFc s) (hsat : Sat a (encodeWalks s c ub)) {i : Nat} (hi : i < c.k)
    (hu : layerUsed s a i = true) :
    IsSTWalkG s.g s.source s.sink (layerWalk s a i) ∧
    ∀ e ∈ s.g.edges, traversals (layerWalk s a i) e = multOf a i e := by
  rcases walkcore_layer_cases s ub a hwf hsat hi with ⟨hW, htrav⟩ | ⟨_, _, hall⟩
  · exact ⟨⟨hW, rfl, (List.cons_append ▸ List.getLast?_concat :
      (s.source :: (decodeWalkLayer s a i ++ [s.sink])).getLast? = some s.sink)⟩, htrav⟩
  · obtain ⟨e, he, hne⟩ := List.any_eq_true.1 hu
    simp [hall e he] at hne

structure SlotOK (s : STGraph) (a : Asg) (q : List Edge) (i : Nat) : Prop where
  used : layerUsed s a i = true
  occ : Occurs q (layerWalk s a i)

theorem exists_layer_of_safe (hwf : STWFc s) (hsat : Sat a (encodeWalks s c ub)) (X : List Edge)
    (hX : ∀ x ∈ X, x ∈ s.g.edges) (hcover : ∀ x ∈ X, ∃ i, i < c.k ∧ 1 ≤ a (edgeVar x i))
    (q : List Edge) (hq : SafeFor s.g s.source s.sink X q) : ∃ i, i < c.k ∧ SlotOK s a q i := by
  let ws := ((List.range c.k).filter (layerUsed s a)).map (layerWalk s a)
  have hws : ∀ w ∈ ws, IsSTWalkG s.g s.source s.sink w := by
    intro w hw
    obtain ⟨i, hi, rfl⟩ := List.mem_map.1 hw
    obtain ⟨hi1, hi2⟩ := List.mem_filter.1 hi
    exact (usedLayer_walk hwf hsat (List.mem_range.1 hi1) hi2).1
  have hcov : CoversX ws X := by
    intro x hx
    obtain ⟨i, hi, h1⟩ := hcover x hx
    have hm := (edge_col_one_le_iff hsat hi (hX x hx)).1 h1
    have hu : layerUsed s a i = true := List.any_eq_true.2 ⟨x, hX x hx, by simpa using hm⟩
    refine ⟨layerWalk s a i, List.mem_map.2 ⟨i, List.mem_filter.2 ⟨List.mem_range.2 hi, hu⟩, rfl⟩, ?_⟩
    have htr := (usedLayer_walk hwf hsat hi hu).2 x (hX x hx)
    apply List.count_pos_iff.1
    unfold traversals at htr
    omega
  obtain ⟨w, hw, ho⟩ := hq ws hws hcov
  obtain ⟨i, hi, rfl⟩ := List.mem_map.1 hw
  obtain ⟨hi1, hi2⟩ := List.mem_filter.1 hi
  exact ⟨i, List.mem_range.1 hi1, hi2, ho⟩

theorem slots_perm (hwf : STWFc s) (hsat : Sat a (encodeWalks s c ub)) (X : List Edge)
    (hX : ∀ x ∈ X, x ∈ s.g.edges) (hcover : ∀ x ∈ X, ∃ i, i < c.k ∧ 1 ≤ a (edgeVar x i))
    (seqs : List (List Edge)) (hsafe : ∀ q ∈ seqs, SafeFor s.g s.source s.sink X q)
    (hinc : seqs.Pairwise fun p q => ¬ CoOccur s.g s.source s.sink p q) :
    ∀ n, n ≤ seqs.length → n ≤ c.k →
      ∃ π : LayerPerm c.k, ∀ j, j < n → SlotOK s a (seqs.getD j []) (π.fwd j) := by
  intro n
  induction n with
  | zero => intro _ _; exact ⟨LayerPerm.id c.k, fun j hj => by omega⟩
  | succ n ih =>
    intro hlen hk
    obtain ⟨π, hπ⟩ := ih (by omega) (by omega)
    have hn : n < seqs.length := by omega
    obtain ⟨i0, hi0, hok⟩ := exists_layer_of_safe hwf hsat X hX hcover (seqs.getD n [])
      (hsafe _ (getD_mem [] hn))
    have hp : π.bwd i0 < c.k := π.bwd_lt i0 hi0
    have hfp : π.fwd (π.bwd i0) = i0 := π.fwd_bwd i0 hi0
    -- `i0` serves no earlier slot: its walk would contain two incompatible sequences
    have hge : ¬ π.bwd i0 < n := by
      intro hlt
      have h1 := hπ (π.bwd i0) hlt
      rw [hfp] at h1
      have hw := (usedLayer_walk hwf hsat hi0 hok.used).1
      have hlt' : π.bwd i0 < seqs.length := by omega
      rw [getD_eq_getElem seqs [] hlt'] at h1
      rw [getD_eq_getElem seqs [] hn] at hok
      exact List.pairwise_iff_getElem.1 hinc _ _ hlt' hn hlt ⟨layerWalk s a i0, hw, h1.occ, hok.occ⟩
    refine ⟨π.swapRight n (π.bwd i0) (by omega) hp, ?_⟩
    intro j hj
    show SlotOK s a (seqs.getD j []) (π.fwd (LayerPerm.swapNat n (π.bwd i0) j))
    by_cases hjn : j = n
    · subst hjn
      have : LayerPerm.swapNat j (π.bwd i0) j = π.bwd i0 := by simp [LayerPerm.swapNat]
      rw [this, hfp]; exact hok
    · have hjlt : j < n := by omega
      have : LayerPerm.swapNat n (π.bwd i0) j = j := by
        unfold LayerPerm.swapNat
        rw [if_neg hjn, if_neg (by omega)]
      rw [this]; exact hπ j hjlt

theorem slot_values (hwf : STWFc s) (hsat : Sat a (encodeWalks s c ub)) {i : Nat} (hi : i < c.k)
    {q : List Edge} (hok : SlotOK s a q i) :
    (∀ e ∈ q, ((q.count e : Nat) : Rat) ≤ a (edgeVar e i)) ∧
    (∀ e ∈ q, isSccEdge s.g e = false → a (edgeVar e i) = 1) ∧
    (∀ e ∈ s.g.edges, (∀ w, IsWalkIn s.g w → Occurs q w → e ∉ walkEdges w) → a (edgeVar e i) = 0) := by
  obtain ⟨hw, htr⟩ := usedLayer_walk hwf hsat hi hok.used
  have hsub : q.Sublist (walkEdges (layerWalk s a i)) := hok.occ
  have hmem : ∀ e ∈ q, e ∈ s.g.edges := fun e he => hw.walk e (hsub.subset he)
  have hcnt : ∀ e ∈ q, q.count e ≤ multOf a i e := by
    intro e he
    have h1 := hsub.count_le e
    have h2 := htr e (hmem e he)
    unfold traversals at h2
    omega
  refine ⟨?_, ?_, ?_⟩
  · intro e he
    rw [edge_col hsat hi (hmem e he)]
    exact Rat.natCast_le_natCast.2 (hcnt e he)
  · intro e he hscc
    have h1 := nonScc_once s.g hwf.closed _ hw.walk e (hmem e he) hscc
    have h2 := htr e (hmem e he)
    have h3 : 0 < q.count e := List.count_pos_iff.2 he
    have h4 := hcnt e he
    have : multOf a i e = 1 := by omega
    rw [edge_col hsat hi (hmem e he), this]; simp
  · intro e he hno
    have h2 := htr e he
    have : traversals (layerWalk s a i) e = 0 := List.count_eq_zero.2 (hno _ hw.walk hok.occ)
    rw [edge_col hsat hi he, ← h2, this]; simp

theorem safe_edges_in_some_layer (hwf : STWFc s) (hsat : Sat a (encodeWalks s c ub)) (X : List Edge)
    (hX : ∀ x ∈ X, x ∈ s.g.edges) (hcover : ∀ x ∈ X, ∃ i, i < c.k ∧ 1 ≤ a (edgeVar x i))
    (q : List Edge) (hq : SafeFor s.g s.source s.sink X q) :
    ∃ i, i < c.k ∧ ∀ e ∈ q, e ∈ s.g.edges ∧ 1 ≤ a (edgeVar e i) := by
  obtain ⟨i, hi, hok⟩ := exists_layer_of_safe hwf hsat X hX hcover q hq
  refine ⟨i, hi, fun e he => ?_⟩
  obtain ⟨hw, _⟩ := usedLayer_walk hwf hsat hi hok.used
  have hsub : q.Sublist (walkEdges (layerWalk s a i)) := hok.occ
  refine ⟨hw.walk e (hsub.subset he), Rat.le_trans ?_ ((slot_values hwf hsat hi hok).1 e he)⟩
  have h2 : ((1 : Nat) : Rat) ≤ ((q.count e : Nat) : Rat) := Rat.natCast_le_natCast.2 (List.count_pos_iff.2 he)
  simpa using h2

end Layer

/-- `FP.Props.C06.zero_fix_sound` as a property of the zero-fixed keys: a key `(e, j)` names an edge of the graph and a
slot, and no walk of the graph that contains slot `j`'s sequence uses `e` -/
def ZeroSound (g : Graph) (seqs : List (List Edge)) (k : Nat) (zs : List (Edge × Nat)) : Prop :=
  ∀ e j, (e, j) ∈ zs → e ∈ g.edges ∧ j < seqs.length ∧ j < k ∧
    ∀ w, IsWalkIn g w → Occurs (seqs.getD j []) w → e ∉ walkEdges w

theorem zeroSound_of_zeroFix {g : Graph} (hg : GraphWF g) (seqs : List (List Edge)) {k : Nat}
    {zs : List (Edge × Nat)} (h : zeroFix g seqs k = .ok zs) : ZeroSound g seqs k zs := by
  intro e j hz
  obtain ⟨he, h1, h2, -⟩ := zeroFix_mem g seqs k zs h e j hz
  exact ⟨he, h1, h2, fun w hw ho => zeroFix_sound g hg seqs k zs h e j hz w hw fun _ hx => ho.subset hx⟩

theorem zeroSound_nil (g : Graph) (seqs : List (List Edge)) (k : Nat) : ZeroSound g seqs k [] :=
  fun _ _ h => by cases h

structure SlotsFit (s : STGraph) (a : Asg) (k : Nat) (seqs : List (List Edge)) (zs : List (Edge × Nat))
    (π : LayerPerm k) : Prop where
  geq : ∀ j, j < min seqs.length k → ∀ e ∈ seqs.getD j [],
    (((seqs.getD j []).count e : Nat) : Rat) ≤ a (edgeVar e (π.fwd j))
  one : ∀ j, j < min seqs.length k → ∀ e ∈ seqs.getD j [], isSccEdge s.g e = false →
    a (edgeVar e (π.fwd j)) = 1
  zero : ∀ e j, (e, j) ∈ zs → a (edgeVar e (π.fwd j)) = 0

/-- `safety_rows_satisfiable_after_perm`, on the values of the edge columns -/
theorem slotsFit_exists {s : STGraph} {c : WalkCfg} {ub : Edge → Rat} {a : Asg}
    (hwf : STWFc s) (hsat : Sat a (encodeWalks s c ub)) (X : List Edge)
    (hX : ∀ x ∈ X, x ∈ s.g.edges) (hcover : ∀ x ∈ X, ∃ i, i < c.k ∧ 1 ≤ a (edgeVar x i))
    (seqs : List (List Edge)) (hsafe : ∀ q ∈ seqs, SafeFor s.g s.source s.sink X q)
    (hinc : seqs.Pairwise fun p q => ¬ CoOccur s.g s.source s.sink p q)
    (zs : List (Edge × Nat)) (hzs : ZeroSound s.g seqs c.k zs) :
    ∃ π : LayerPerm c.k, SlotsFit s a c.k seqs zs π := by
  obtain ⟨π, hπ⟩ := slots_perm hwf hsat X hX hcover seqs hsafe hinc (min seqs.length c.k)
    (Nat.min_le_left _ _) (Nat.min_le_right _ _)
  refine ⟨π, ⟨?_, ?_, ?_⟩⟩
  · intro j hj e he
    exact (slot_values hwf hsat (π.fwd_lt j (by omega)) (hπ j hj)).1 e he
  · intro j hj e he hscc
    exact (slot_values hwf hsat (π.fwd_lt j (by omega)) (hπ j hj)).2.1 e he hscc
  · intro e j hz
    obtain ⟨he, hj1, hj2, hno⟩ := hzs e j hz
    have hj : j < min seqs.length c.k := by omega
    exact (slot_values hwf hsat (π.fwd_lt j hj2) (hπ j hj)).2.2 e he hno

/-- `safety_rows_satisfiable_after_perm`: every row of the fragment (in its row variant) holds for the permuted
assignment -/
theorem safetyRows_hold {s : STGraph} {a : Asg} {k : Nat} {safe seqs : List (List Edge)} {zs : List (Edge × Nat)}
    {π : LayerPerm k} (hfit : SlotsFit s a k seqs zs π) (P : Var → Var) (hP : IsLayerRenaming π.fwd P)
    {fr : SafetyFrag} (sh : FragShape s.g k safe seqs zs fr) : ∀ r ∈ fr.asRows, r.holds (a ∘ P) := by
  have hPe : ∀ e i, (a ∘ P) (edgeVar e i) = a (edgeVar e (π.fwd i)) :=
    fun e i => congrArg a (hP.edgeVar e i)
  intro r hr
  rcases sh.of_mem_asRows r hr with ⟨p, hp, rfl⟩ | ⟨p, hp, rfl⟩ | ⟨p, hp, rfl⟩
  · rw [rowEq_single_holds, hPe]
    exact hfit.zero p.1 p.2 hp
  · obtain ⟨hj, he, hm⟩ := (mem_seqEntries k seqs p.1 p.2.1 p.2.2).1 (List.mem_filter.1 hp).1
    rw [rowGe_single_holds, hPe, hm]
    exact hfit.geq p.2.1 hj p.1 he
  · obtain ⟨hp1, hp2⟩ := List.mem_filter.1 hp
    obtain ⟨hj, he, _⟩ := (mem_seqEntries k seqs p.1 p.2.1 p.2.2).1 hp1
    rw [rowEq_single_holds, hPe]
    exact hfit.one p.2.1 hj p.1 he (by simpa using hp2)

end FP
