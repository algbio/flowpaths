import FP.Proofs.DecompBounds
import FP.Proofs.Decomp
/-!
With subpath constraints the minimum can exceed the number of edges: the complete DAG on `v0 … v5` without `(v0,v5)`,
`(v0,v4)`, `(v1,v5)` has 12 edges and 13 source-to-sink paths. Flow = one unit per path, every path is a subpath
constraint. The minimum number of paths is 13, which lies outside `range(lb, |E| + 1)`; `MinFlowDecomp.solve` searches
`range(lb, |E| + #constraints + 1)` (fix e0ac661).
-/
namespace FP.DecompManyPaths
open FP FP.Spec

def base : Graph :=
  { nodes := ["v0", "v1", "v2", "v3", "v4", "v5"],
    edges := [("v0", "v1"), ("v0", "v2"), ("v0", "v3"), ("v1", "v2"), ("v1", "v3"), ("v1", "v4"), ("v2", "v3"), ("v2", "v4"), ("v2", "v5"), ("v3", "v4"), ("v3", "v5"), ("v4", "v5")] }

theorem base_wf : BaseWF base := by decide +kernel

def rank : Node → Nat := fun v =>
  if v = "v0" then 0 else if v = "v1" then 1 else if v = "v2" then 2 else if v = "v3" then 3
  else if v = "v4" then 4 else 5

theorem base_acyclic : Acyclic base := ⟨rank, by decide +kernel⟩

def paths : List (List Node) :=
  [["v0", "v1", "v2", "v3", "v4", "v5"], ["v0", "v1", "v2", "v3", "v5"], ["v0", "v1", "v2", "v4", "v5"], ["v0", "v1", "v2", "v5"], ["v0", "v1", "v3", "v4", "v5"], ["v0", "v1", "v3", "v5"], ["v0", "v1", "v4", "v5"], ["v0", "v2", "v3", "v4", "v5"], ["v0", "v2", "v3", "v5"], ["v0", "v2", "v4", "v5"], ["v0", "v2", "v5"], ["v0", "v3", "v4", "v5"], ["v0", "v3", "v5"]]

def inp : FlowInput :=
  { base := base,
    flow := [(("v0", "v1"), 7), (("v0", "v2"), 4), (("v0", "v3"), 2), (("v1", "v2"), 4), (("v1", "v3"), 2), (("v1", "v4"), 1), (("v2", "v3"), 4), (("v2", "v4"), 2), (("v2", "v5"), 2), (("v3", "v4"), 4), (("v3", "v5"), 4), (("v4", "v5"), 7)],
    weightInt := true,
    cfg := { k := 1, constraints := paths.map fun p => p.zip p.tail } }

theorem plain : PlainCfg inp where
  noEmpty := rfl
  coverage := rfl
  noCovLen := rfl
  noPos := rfl
  consEdges := by decide +kernel

def P : Nat → List Node := fun i => paths.getD i []
def w : Nat → Rat := fun _ => 1

theorem isDecomp : IsDecomp inp 13 P w where
  walk := by unfold IsWalkIn; decide +kernel
  wnonneg := fun _ _ => by show (0 : Rat) ≤ 1; decide
  wint := fun _ _ _ => ⟨1, by simp [w]⟩
  explains := by decide +kernel
  constraints := by decide +kernel

theorem wmax_eq : inp.wmax = 7 := by decide +kernel

theorem no_decomp_below_13 : ∀ j, j < 13 → ¬ HasDecomp inp j := by
  intro j hj ⟨P', w', hd, _⟩
  have : 13 ≤ j := lb_constraints inp base_wf base_acyclic j P' w' hd inp.cfg.constraints (fun _ hc => hc)
    (by decide +kernel) (by decide +kernel)
  omega

theorem min_is_13 : IsMinDecomp inp 13 :=
  ⟨⟨P, w, isDecomp, fun _ _ => by rw [wmax_eq]; show (1 : Rat) ≤ 7; decide⟩, no_decomp_below_13⟩

end FP.DecompManyPaths
