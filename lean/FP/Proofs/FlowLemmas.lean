import FP.Model.Graph
import FP.Spec.Routes
import FP.Proofs.Lib
/-!
# FP.Proofs.FlowLemmas — first facts about `Graph` (membership in `succ`/`pred`, `lookupD` in a listed table, `IsWalkIn` along a
cons) and the in- and out-flow of an edge function: as sums over successors and predecessors (`sum_succ`, `sum_pred`),
linearity, a positive flow at a node has a positive edge, net out-flow of a node set (`cut_net`), the zero-flow lemma (`flow_zero`)
-/
namespace FP
open FP.Spec

theorem mem_succ {g : Graph} {v w : Node} : w ∈ g.succ v ↔ (v, w) ∈ g.edges := by
  simp only [Graph.succ, List.mem_map, List.mem_filter, decide_eq_true_eq]
  exact ⟨fun ⟨e, ⟨he, h1⟩, h2⟩ => by rw [← h1, ← h2]; exact he, fun h => ⟨(v, w), ⟨h, rfl⟩, rfl⟩⟩

theorem mem_pred {g : Graph} {v u : Node} : u ∈ g.pred v ↔ (u, v) ∈ g.edges := by
  simp only [Graph.pred, List.mem_map, List.mem_filter, decide_eq_true_eq]
  exact ⟨fun ⟨e, ⟨he, h1⟩, h2⟩ => by rw [← h1, ← h2]; exact he, fun h => ⟨(u, v), ⟨h, rfl⟩, rfl⟩⟩

theorem pred_nodup (g : Graph) (hnd : g.edges.Nodup) (v : Node) : (g.pred v).Nodup := by
  unfold Graph.pred
  have hf : (g.edges.filter (·.2 = v)).Nodup := hnd.filter _
  have hp : (g.edges.filter (·.2 = v)).Pairwise (fun e e' => e.1 ≠ e'.1) := by
    apply List.Pairwise.imp_of_mem _ hf
    intro e e' he he' hne h
    have h1 : e.2 = v := by simpa using (List.mem_filter.1 he).2
    have h2 : e'.2 = v := by simpa using (List.mem_filter.1 he').2
    exact hne (Prod.ext h (h1.trans h2.symm))
  exact List.Pairwise.map _ (fun _ _ h => h) hp

/-! `lookupD` in a table that lists `(x, h x)` for the members `x` of a list -/

theorem lookupD_map_self {α β} [BEq α] [LawfulBEq α] {l : List α} (h : α → β) {e : α} (he : e ∈ l) (d : β) :
    lookupD (l.map fun x => (x, h x)) e d = h e := by
  unfold lookupD; rw [lookup_map_self h he]; rfl

theorem lookupD_map_self_of_not_mem {α β} [BEq α] [LawfulBEq α] {l : List α} (h : α → β) {e : α} (he : e ∉ l)
    (d : β) : lookupD (l.map fun x => (x, h x)) e d = d := by
  unfold lookupD; rw [lookup_map_self_none l h e he]; rfl

theorem isWalkIn_cons_cons {g : Graph} {a b : Node} {l : List Node} :
    IsWalkIn g (a :: b :: l) ↔ (a, b) ∈ g.edges ∧ IsWalkIn g (b :: l) := List.forall_mem_cons

theorem isWalkIn_singleton (g : Graph) (a : Node) : IsWalkIn g [a] := fun _ he => nomatch he

theorem _root_.FP.Spec.IsWalkIn.tail {g : Graph} {a : Node} {l : List Node} (h : IsWalkIn g (a :: l)) :
    IsWalkIn g l :=
  match l, h with
  | [], _ => fun _ he => nomatch he
  | _ :: _, h => (isWalkIn_cons_cons.1 h).2

def outflow (g : Graph) (y : Edge → Rat) (v : Node) : Rat := ((g.edges.filter (·.1 = v)).map y).sum
def inflow (g : Graph) (y : Edge → Rat) (v : Node) : Rat := ((g.edges.filter (·.2 = v)).map y).sum

theorem sum_succ (g : Graph) (y : Edge → Rat) (v : Node) :
    ((g.succ v).map (fun w => y (v, w))).sum = outflow g y v := by
  unfold Graph.succ outflow
  rw [List.map_map]
  congr 1; apply List.map_congr_left; intro e he
  have : e.1 = v := by simpa using (List.mem_filter.1 he).2
  simp [← this]

theorem sum_pred (g : Graph) (y : Edge → Rat) (v : Node) :
    ((g.pred v).map (fun u => y (u, v))).sum = inflow g y v := by
  unfold Graph.pred inflow
  rw [List.map_map]
  congr 1; apply List.map_congr_left; intro e he
  have : e.2 = v := by simpa using (List.mem_filter.1 he).2
  simp [← this]

theorem outflow_add (g : Graph) (y z : Edge → Rat) (v : Node) :
    outflow g (fun e => y e + z e) v = outflow g y v + outflow g z v := sum_map_add _ y z

theorem inflow_add (g : Graph) (y z : Edge → Rat) (v : Node) :
    inflow g (fun e => y e + z e) v = inflow g y v + inflow g z v := sum_map_add _ y z

theorem outflow_mul_left (g : Graph) (y : Edge → Rat) (k : Rat) (v : Node) :
    outflow g (fun e => k * y e) v = k * outflow g y v := sum_map_mul_left _ y k

theorem inflow_mul_left (g : Graph) (y : Edge → Rat) (k : Rat) (v : Node) :
    inflow g (fun e => k * y e) v = k * inflow g y v := sum_map_mul_left _ y k

theorem outflow_congr {g : Graph} {x y : Edge → Rat} (h : ∀ e ∈ g.edges, x e = y e) (v : Node) :
    outflow g x v = outflow g y v :=
  congrArg List.sum (List.map_congr_left fun e he => h e (List.mem_filter.1 he).1)

theorem inflow_congr {g : Graph} {x y : Edge → Rat} (h : ∀ e ∈ g.edges, x e = y e) (v : Node) :
    inflow g x v = inflow g y v :=
  congrArg List.sum (List.map_congr_left fun e he => h e (List.mem_filter.1 he).1)

/-- conservation at `v` read on literal neighbour lists; the side conditions come as one conjunction so that
`by decide` discharges them on a literal graph -/
theorem flow_at {g : Graph} {x : Edge → Rat} {v : Node} (hc : inflow g x v = outflow g x v) (ps ss : List Node)
    (h : g.pred v = ps ∧ g.succ v = ss) : (ps.map fun u => x (u, v)).sum = (ss.map fun w => x (v, w)).sum := by
  rw [← h.1, ← h.2, sum_pred, sum_succ]; exact hc

theorem inflow_zero_of_no_pred (g : Graph) (y : Edge → Rat) (v : Node) (hp : g.pred v = []) :
    inflow g y v = 0 := by
  unfold inflow; rw [List.map_eq_nil_iff.1 hp]; rfl

theorem outflow_zero_of_no_succ (g : Graph) (y : Edge → Rat) (v : Node) (hp : g.succ v = []) :
    outflow g y v = 0 := by
  unfold outflow; rw [List.map_eq_nil_iff.1 hp]; rfl

theorem outflow_sub (g : Graph) (y z : Edge → Rat) (v : Node) :
    outflow g (fun e => y e - z e) v = outflow g y v - outflow g z v := sum_map_sub _ y z

theorem inflow_sub (g : Graph) (y z : Edge → Rat) (v : Node) :
    inflow g (fun e => y e - z e) v = inflow g y v - inflow g z v := sum_map_sub _ y z

theorem le_outflow_of_mem {g : Graph} {y : Edge → Rat} (hy : ∀ e ∈ g.edges, 0 ≤ y e) {e : Edge}
    (he : e ∈ g.edges) : y e ≤ outflow g y e.1 :=
  le_sum_of_mem y (fun e' he' => hy e' (List.mem_filter.1 he').1)
    (List.mem_filter.2 ⟨he, decide_eq_true rfl⟩)

theorem le_inflow_of_mem {g : Graph} {y : Edge → Rat} (hy : ∀ e ∈ g.edges, 0 ≤ y e) {e : Edge}
    (he : e ∈ g.edges) : y e ≤ inflow g y e.2 :=
  le_sum_of_mem y (fun e' he' => hy e' (List.mem_filter.1 he').1)
    (List.mem_filter.2 ⟨he, decide_eq_true rfl⟩)

section Pos
variable {g : Graph} {φ : Edge → Rat} (hnn : ∀ e ∈ g.edges, 0 ≤ φ e)
include hnn

theorem pos_out_edge (v : Node) (h : 0 < outflow g φ v) : ∃ x, (v, x) ∈ g.edges ∧ 0 < φ (v, x) := by
  obtain ⟨⟨a, x⟩, he, h1, hpos⟩ := exists_pos_of_filter_sum_pos hnn _ h
  obtain rfl : a = v := of_decide_eq_true h1
  exact ⟨x, he, hpos⟩

theorem pos_in_edge (v : Node) (h : 0 < inflow g φ v) : ∃ x, (x, v) ∈ g.edges ∧ 0 < φ (x, v) := by
  obtain ⟨⟨x, a⟩, he, h1, hpos⟩ := exists_pos_of_filter_sum_pos hnn _ h
  obtain rfl : a = v := of_decide_eq_true h1
  exact ⟨x, he, hpos⟩

end Pos

/-- Adding up `out − in` over a duplicate-free node list `S` counts every edge at both ends: the edges
inside `S` cancel, what leaves `S` minus what enters it remains. -/
theorem cut_net (g : Graph) (x : Edge → Rat) (S : List Node) (hS : S.Nodup) :
    (S.map fun v => outflow g x v - inflow g x v).sum =
      ((g.edges.filter fun e => !decide (e.2 ∈ S) && decide (e.1 ∈ S)).map x).sum -
      ((g.edges.filter fun e => !decide (e.1 ∈ S) && decide (e.2 ∈ S)).map x).sum := by
  have hcomm : g.edges.filter (fun e => decide (e.1 ∈ S) && decide (e.2 ∈ S))
      = g.edges.filter (fun e => decide (e.2 ∈ S) && decide (e.1 ∈ S)) :=
    List.filter_congr fun e _ => Bool.and_comm _ _
  unfold outflow inflow
  rw [sum_map_sub, sum_sum_fiber g.edges S hS (·.1) x, sum_sum_fiber g.edges S hS (·.2) x,
    sum_filter_split (g.edges.filter fun e => decide (e.1 ∈ S)) x (fun e => decide (e.2 ∈ S)),
    sum_filter_split (g.edges.filter fun e => decide (e.2 ∈ S)) x (fun e => decide (e.1 ∈ S)),
    List.filter_filter, List.filter_filter, List.filter_filter, List.filter_filter, hcomm]
  exact add_sub_add_left _ _ _

theorem flow_zero (g : Graph) (rank : Node → Nat) (hr : ∀ e ∈ g.edges, rank e.1 < rank e.2)
    (src : Node) (y : Edge → Rat) (hy : ∀ e ∈ g.edges, 0 ≤ y e)
    (hcons : ∀ e ∈ g.edges, e.1 ≠ src → inflow g y e.1 = outflow g y e.1)
    (hsrc : outflow g y src = 0) : ∀ e ∈ g.edges, y e = 0 := by
  -- induction on the rank of the tail: the in-flow of a tail comes from edges of smaller rank
  have key : ∀ n, ∀ e ∈ g.edges, rank e.1 < n → y e = 0 := by
    intro n
    induction n with
    | zero => intro e _ h; omega
    | succ n ih =>
      intro e he hlt
      have hout : outflow g y e.1 = 0 := by
        by_cases hs : e.1 = src
        · rw [hs]; exact hsrc
        · rw [← hcons e he hs]
          apply sum_map_zero
          intro e' he'
          have hm := List.mem_filter.1 he'
          have h2 : e'.2 = e.1 := of_decide_eq_true hm.2
          have := h2 ▸ hr e' hm.1
          exact ih e' hm.1 (by omega)
      exact Rat.le_antisymm (hout ▸ le_outflow_of_mem hy he) (hy e he)
  exact fun e he => key (rank e.1 + 1) e he (by omega)

end FP
