import FP.Proofs.CondWalkCoverNames
import FP.Proofs.ReachLemmas
import FP.Proofs.Augment
/-!
For a digraph whose edges join nodes of the graph and a labelling that is the SCC labelling (`CwcOK`),
`c.expanded` is a well-formed s-t DAG (`cwc_expandedST_wf`). On its edges the demand that
`stDiGraph.get_width` sets is the weight (`cwc_demand_eq`): the `multiplicity` on a condensation edge, 1 on
the edge of an SCC with a member edge that is not ignored.
-/
namespace FP
open FP.Spec CondInput

/-- what the condensation is taken of: a closed digraph with `c.scc` its SCC labelling (the contract of
`nx.condensation(G).graph["mapping"]`) -/
structure CwcOK (c : CondInput) : Prop where
  /-- edges join nodes of the graph (always true of a networkx graph) -/
  closed : ∀ e ∈ c.g.edges, e.1 ∈ c.g.nodes ∧ e.2 ∈ c.g.nodes
  scc : ∀ u ∈ c.g.nodes, ∀ v ∈ c.g.nodes,
    c.comp u = c.comp v ↔ (Reach c.g.edges u v ∧ Reach c.g.edges v u)

section Basic
variable {c : CondInput}

theorem cwc_mem_condNodes {k : Nat} : k ∈ c.condNodes ↔ ∃ v ∈ c.g.nodes, c.comp v = k := by
  unfold condNodes
  rw [List.mem_eraseDups, List.mem_map]

theorem cwc_mem_members {k : Nat} {e : Edge} :
    e ∈ c.members k ↔ e ∈ c.g.edges ∧ c.comp e.1 = k ∧ c.comp e.2 = k := by
  unfold members
  simp [List.mem_filter]

theorem cwc_mem_interEdges {e : Edge} :
    e ∈ c.interEdges ↔ e ∈ c.g.edges ∧ c.comp e.1 ≠ c.comp e.2 := by
  unfold interEdges
  simp [List.mem_filter]

theorem cwc_mem_condEdges {ab : Nat × Nat} :
    ab ∈ c.condEdges ↔ ∃ e ∈ c.g.edges, c.comp e.1 ≠ c.comp e.2 ∧ (c.comp e.1, c.comp e.2) = ab := by
  unfold condEdges
  rw [List.mem_eraseDups, List.mem_map]
  constructor
  · rintro ⟨e, he, rfl⟩
    have := cwc_mem_interEdges.1 he
    exact ⟨e, this.1, this.2, rfl⟩
  · rintro ⟨e, he, hne, rfl⟩
    exact ⟨e, cwc_mem_interEdges.2 ⟨he, hne⟩, rfl⟩

theorem cwcName_tail (k : Nat) : c.tailName k = cwcName (k, !c.isTrivial k) := by
  unfold tailName
  cases c.isTrivial k <;> rfl

theorem cwc_tailName_eq {a k : Nat} {b : Bool} (h : cwcName (k, b) = c.tailName a) : k = a :=
  congrArg Prod.fst (cwcName_inj (h.trans (cwcName_tail a)))

theorem cwc_tailName_inj {a b : Nat} (h : c.tailName a = c.tailName b) : a = b :=
  cwc_tailName_eq ((cwcName_tail a).symm.trans h)

theorem cwc_tailName_ne_snk (k : Nat) : c.tailName k ≠ snkName :=
  cwcName_tail (c := c) k ▸ (cwcName_inner _).2

theorem cwc_mem_expanded_edges {e : Edge} :
    e ∈ c.expanded.edges ↔
      (∃ k ∈ c.condNodes, c.isTrivial k = false ∧ e = (cname k, cexp k)) ∨
      (∃ ab ∈ c.condEdges, e = (c.tailName ab.1, cname ab.2)) := by
  unfold expanded
  simp only [List.mem_append, List.mem_map, List.mem_filter]
  constructor
  · rintro (⟨k, ⟨hk, ht⟩, rfl⟩ | ⟨ab, hab, rfl⟩)
    · exact Or.inl ⟨k, hk, by simpa using ht, rfl⟩
    · exact Or.inr ⟨ab, hab, rfl⟩
  · rintro (⟨k, hk, ht, rfl⟩ | ⟨ab, hab, rfl⟩)
    · exact Or.inl ⟨k, ⟨hk, by simp [ht]⟩, rfl⟩
    · exact Or.inr ⟨ab, hab, rfl⟩

/-- the nodes `expanded` lists for the component `k` -/
theorem cwc_mem_compNodes {k : Nat} {x : Node} :
    x ∈ (if c.isTrivial k then [cname k] else [cname k, cexp k]) ↔
      ∃ b, (b = true → c.isTrivial k = false) ∧ x = cwcName (k, b) := by
  constructor
  · intro hx
    split at hx
    · exact ⟨false, nofun, List.mem_singleton.1 hx⟩
    · exact (List.mem_cons.1 hx).elim (⟨false, nofun, ·⟩)
        (⟨true, fun _ => Bool.eq_false_iff.2 ‹_›, List.mem_singleton.1 ·⟩)
  · rintro ⟨b, hb, rfl⟩
    cases b
    · split <;> exact List.mem_cons_self
    · rw [hb rfl]
      exact List.mem_cons_of_mem _ List.mem_cons_self

theorem cwc_mem_expanded_nodes {x : Node} :
    x ∈ c.expanded.nodes ↔
      ∃ k ∈ c.condNodes, ∃ b, (b = true → c.isTrivial k = false) ∧ x = cwcName (k, b) := by
  unfold expanded
  simp only [List.mem_flatMap, cwc_mem_compNodes]

end Basic

theorem cwc_expanded_basewf {c : CondInput} (hcl : ∀ e ∈ c.g.edges, e.1 ∈ c.g.nodes ∧ e.2 ∈ c.g.nodes) :
    BaseWF c.expanded where
  edgesNodup := by
    unfold expanded
    simp only
    apply List.nodup_append.2
    refine ⟨?_, ?_, ?_⟩
    · apply List.Pairwise.map _ _ (List.Pairwise.filter _ (nodup_eraseDups _))
      intro a b hab h
      exact hab (cwc_cname_inj (congrArg Prod.fst h))
    · apply List.Pairwise.map _ _ (nodup_eraseDups _)
      intro a b hab h
      apply hab
      have h1 := cwc_tailName_inj (congrArg Prod.fst h)
      have h2 := cwc_cname_inj (congrArg Prod.snd h)
      exact Prod.ext h1 h2
    · intro x hx y hy hxy
      obtain ⟨k, _, rfl⟩ := List.mem_map.1 hx
      obtain ⟨ab, _, rfl⟩ := List.mem_map.1 hy
      exact cwc_cname_ne_cexp _ _ (congrArg Prod.snd hxy).symm
  nodesNodup := by
    unfold expanded
    simp only
    apply List.pairwise_flatMap.2
    refine ⟨?_, ?_⟩
    · intro k _
      split
      · simp
      · simp [cwc_cname_ne_cexp]
    · apply List.Pairwise.imp _ (nodup_eraseDups _)
      intro k1 k2 hne x hx y hy hxy
      -- both `x` and `y` name their component
      obtain ⟨b1, _, rfl⟩ := cwc_mem_compNodes.1 hx
      obtain ⟨b2, _, rfl⟩ := cwc_mem_compNodes.1 hy
      exact hne (congrArg Prod.fst (cwcName_inj hxy))
  closed := by
    intro e he
    rw [cwc_mem_expanded_nodes, cwc_mem_expanded_nodes]
    rcases cwc_mem_expanded_edges.1 he with ⟨k, hk, ht, rfl⟩ | ⟨ab, hab, rfl⟩
    · exact ⟨⟨k, hk, false, nofun, rfl⟩, ⟨k, hk, true, fun _ => ht, rfl⟩⟩
    · obtain ⟨e', he', _, rfl⟩ := cwc_mem_condEdges.1 hab
      have h1 : c.comp e'.1 ∈ c.condNodes := cwc_mem_condNodes.2 ⟨_, (hcl e' he').1, rfl⟩
      have h2 : c.comp e'.2 ∈ c.condNodes := cwc_mem_condNodes.2 ⟨_, (hcl e' he').2, rfl⟩
      exact ⟨⟨_, h1, _, fun h => by simpa using h, cwcName_tail _⟩, ⟨_, h2, false, nofun, rfl⟩⟩
  freshSrc := fun h =>
    let ⟨_, _, _, _, hx⟩ := cwc_mem_expanded_nodes.1 h
    (cwcName_inner _).1 hx.symm
  freshSnk := fun h =>
    let ⟨_, _, _, _, hx⟩ := cwc_mem_expanded_nodes.1 h
    (cwcName_inner _).2 hx.symm

open Classical in
/-- the rank along which the condensation is acyclic: the number of nodes that reach the component `k` -/
noncomputable def cwcRank (c : CondInput) (k : Nat) : Nat :=
  c.g.nodes.countP fun v => decide (∃ u ∈ c.g.nodes, c.comp u = k ∧ Reach c.g.edges v u)

theorem cwc_rank_lt {c : CondInput} (hok : CwcOK c) {e : Edge} (he : e ∈ c.g.edges)
    (hne : c.comp e.1 ≠ c.comp e.2) : cwcRank c (c.comp e.1) < cwcRank c (c.comp e.2) := by
  obtain ⟨x, y⟩ := e
  have hx := (hok.closed _ he).1
  have hy := (hok.closed _ he).2
  simp only at hx hy hne ⊢
  unfold cwcRank
  -- `y` reaches its own component but not that of `x` (or the two would be one); whatever reaches the
  -- component of `x` reaches that of `y` through `e`
  apply countP_lt_countP _ _ _ _ y hy
  · simp only [decide_eq_true_eq]
    exact ⟨y, hy, rfl, Reach.refl y⟩
  · simp only [decide_eq_false_iff_not]
    rintro ⟨u, hu, hcu, hr⟩
    have hux := ((hok.scc u hu x hx).1 hcu).1
    exact hne ((hok.scc x hx y hy).2 ⟨Reach.single he, Reach.trans hr hux⟩)
  · intro v _ hp
    simp only [decide_eq_true_eq] at hp ⊢
    obtain ⟨u, hu, hcu, hr⟩ := hp
    have hux := ((hok.scc u hu x hx).1 hcu).1
    exact ⟨y, hy, rfl, Reach.step (Reach.trans hr hux) he⟩

open Classical in
/-- rank of an expanded node: `2 r(k)` for `str(k)`, `2 r(k) + 1` for `str(k)_expanded` -/
noncomputable def cwcRankS (r : Nat → Nat) (s : Node) : Nat :=
  if h : ∃ x, s = cwcName x then 2 * r (choose h).1 + (choose h).2.toNat else 0

theorem cwc_rankS_name (r : Nat → Nat) (x : Nat × Bool) : cwcRankS r (cwcName x) = 2 * r x.1 + x.2.toNat := by
  unfold cwcRankS
  have h : ∃ y, cwcName x = cwcName y := ⟨x, rfl⟩
  rw [dif_pos h, ← cwcName_inj (Classical.choose_spec h)]

theorem cwc_expandedST_wf {c : CondInput} (hok : CwcOK c) : STWF c.expandedST := by
  refine (cwc_expanded_basewf hok.closed).stwf ⟨cwcRankS (cwcRank c), fun e he => ?_⟩
  rcases cwc_mem_expanded_edges.1 he with ⟨k, _, _, rfl⟩ | ⟨ab, hab, rfl⟩
  · show cwcRankS _ (cwcName (k, false)) < cwcRankS _ (cwcName (k, true))
    simp only [cwc_rankS_name, Bool.toNat_false, Bool.toNat_true]
    omega
  · obtain ⟨e', he', hne, rfl⟩ := cwc_mem_condEdges.1 hab
    have hlt := cwc_rank_lt hok he' hne
    have hb := Bool.toNat_le (!c.isTrivial (c.comp e'.1))
    show cwcRankS _ (c.tailName (c.comp e'.1)) < cwcRankS _ (cwcName (c.comp e'.2, false))
    rw [cwcName_tail, cwc_rankS_name, cwc_rankS_name]
    simp only [Bool.toNat_false]
    omega

theorem cwc_expanded_sub_expandedST {c : CondInput} (hok : CwcOK c) {e : Edge}
    (he : e ∈ c.expanded.edges) : e ∈ c.expandedST.g.edges := by
  unfold expandedST
  rw [aug_mem_edges' (cwc_expanded_basewf hok.closed)]
  exact Or.inl he

theorem cwc_weight_some {c : CondInput} {w : List (Edge × Int)} (h : c.weightFunction = some w) :
    (∀ e ∈ c.ignore, e ∈ c.g.edges) ∧
    w = dictOfWrites
      ((c.expandedST.g.edges.map fun e => (e, (0 : Int)))
        ++ (c.condEdges.map fun ab => ((c.tailName ab.1, cname ab.2), c.multiplicity ab))
        ++ (c.condNodes.map fun k =>
            ((cname k, cexp k),
              if (c.membersLeft k).isEmpty && !(c.members k).isEmpty then (0 : Int) else 1))) := by
  unfold weightFunction at h
  split at h
  · exact absurd h (by simp)
  · rename_i hany
    refine ⟨?_, (Option.some.inj h).symm⟩
    intro e he
    have : ¬ (!c.g.edges.contains e) = true := fun hc => hany (List.any_eq_true.2 ⟨e, he, hc⟩)
    simpa using this

theorem cwc_weight_cond {c : CondInput} {w : List (Edge × Int)} (h : c.weightFunction = some w)
    {ab : Nat × Nat} (hab : ab ∈ c.condEdges) :
    lookupD w (c.tailName ab.1, cname ab.2) 0 = c.multiplicity ab := by
  rw [(cwc_weight_some h).2, lookupD]
  rw [cwc_dict_lookup_map _ _ c.condEdges (fun ab => (c.tailName ab.1, cname ab.2)) c.multiplicity
    (nodup_eraseDups _) hab]
  · rfl
  · exact fun ab' _ hkey =>
      Prod.ext (cwc_tailName_inj (congrArg Prod.fst hkey)) (cwc_cname_inj (congrArg Prod.snd hkey))
  · intro p hp hkey
    obtain ⟨k, _, rfl⟩ := List.mem_map.1 hp
    exact cwc_cname_ne_cexp _ _ (congrArg Prod.snd hkey).symm

theorem cwc_weight_scc {c : CondInput} {w : List (Edge × Int)} (h : c.weightFunction = some w)
    {k : Nat} (hk : k ∈ c.condNodes) :
    lookupD w (cname k, cexp k) 0
      = if (c.membersLeft k).isEmpty && !(c.members k).isEmpty then (0 : Int) else 1 := by
  rw [(cwc_weight_some h).2, lookupD]
  have := cwc_dict_lookup_map
    ((c.expandedST.g.edges.map fun e => (e, (0 : Int)))
      ++ (c.condEdges.map fun ab => ((c.tailName ab.1, cname ab.2), c.multiplicity ab)))
    [] c.condNodes (fun k => (cname k, cexp k))
    (fun k => if (c.membersLeft k).isEmpty && !(c.members k).isEmpty then (0 : Int) else 1)
    (nodup_eraseDups _) hk (fun k' _ hkey => cwc_cname_inj (congrArg Prod.fst hkey))
    (fun p hp => nomatch hp)
  rw [List.append_nil] at this
  rw [this]
  rfl

theorem cwc_demand_eq {c : CondInput} {w d : List (Edge × Int)} (hw : c.weightFunction = some w)
    (hd : c.demands = some d) {e : Edge} (he : e ∈ c.expandedST.g.edges) :
    lookupD d e 0 = lookupD w e 0 := by
  unfold demands at hd
  rw [hw] at hd
  simp only [Option.map_some, Option.some.injEq] at hd
  subst hd
  unfold antichainDemands
  simp only
  exact lookupD_map_self (fun e => (w.lookup e).getD 0) he 0

end FP
