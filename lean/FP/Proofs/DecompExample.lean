import FP.Proofs.DecompBounds
import FP.Proofs.Decomp
/-!
The hypotheses of the C03 theorems are satisfiable: the diamond `a → b → d`, `a → c → d` with flow 3 on the upper and
2 on the lower branch, integer weights and the subpath constraint `[(a,b),(b,d)]`: a concrete 2-path decomposition,
the antichain `{(a,b),(a,c)}`, and hence minimum 2.
-/
namespace FP.DecompExample
open FP FP.Spec FP.MFD

def base : Graph :=
  { nodes := ["a", "b", "c", "d"], edges := [("a", "b"), ("a", "c"), ("b", "d"), ("c", "d")] }

theorem base_wf : BaseWF base := by decide +kernel

def rank : Node → Nat := fun v => if v = "a" then 0 else if v = "d" then 2 else 1

theorem base_acyclic : Acyclic base := ⟨rank, by decide +kernel⟩

def inp : FlowInput :=
  { base := base,
    flow := [(("a", "b"), 3), (("a", "c"), 2), (("b", "d"), 3), (("c", "d"), 2)],
    weightInt := true,
    cfg := { k := 2, constraints := [[("a", "b"), ("b", "d")]] } }

theorem st_edges : inp.st.g.edges =
    [("a", "b"), ("a", "c"), ("b", "d"), ("c", "d"), ("d", "sink"), ("source", "a")] := by decide +kernel

theorem active : inp.activeEdges = [("a", "b"), ("a", "c"), ("b", "d"), ("c", "d")] := by decide +kernel

theorem wmax_eq : inp.wmax = 3 := by decide +kernel

theorem flow_int : ∀ e ∈ base.edges, ∃ z : Int, inp.f e = z := by
  have h : ∀ e ∈ base.edges, inp.f e = ((inp.f e).num : Int) := by decide +kernel
  exact fun e he => ⟨_, h e he⟩

theorem plain : PlainCfg inp where
  noEmpty := rfl
  coverage := rfl
  noCovLen := rfl
  noPos := rfl
  consEdges := by rw [st_edges]; decide +kernel

def P : Nat → List Node := fun i => if i = 0 then ["a", "b", "d"] else ["a", "c", "d"]
def w : Nat → Rat := fun i => if i = 0 then 3 else 2

theorem isDecomp : IsDecomp inp 2 P w where
  walk := by unfold IsWalkIn; rw [st_edges]; decide +kernel
  wnonneg := by decide +kernel
  wint := fun _ i _ => ⟨if i = 0 then 3 else 2, by unfold w; split <;> rfl⟩
  explains := by rw [active]; decide +kernel
  constraints := by decide +kernel

theorem hasDecomp2 : HasDecomp inp 2 :=
  ⟨P, w, isDecomp, by rw [wmax_eq]; decide +kernel⟩

theorem antichain : IsAntichain inp.st [("a", "b"), ("a", "c")] := by
  refine ⟨by decide, ?_⟩
  intro e1 h1 e2 h2 hne p hp hboth
  have hnd := stwalk_nodup (base_wf.stwf base_acyclic) hp
  apply hne
  apply walkEdges_fst_inj _ hnd e1 e2 hboth.1 hboth.2
  simp only [List.mem_cons, List.not_mem_nil, or_false] at h1 h2
  rcases h1 with rfl | rfl <;> rcases h2 with rfl | rfl <;> rfl

theorem no_decomp_below_2 : ∀ j, j < 2 → ¬ HasDecomp inp j := by
  intro j hj ⟨P', w', hd, _⟩
  have : 2 ≤ j :=
    lb_antichain_valid inp j P' w' hd _ antichain (by decide +kernel) (by decide +kernel)
  omega

theorem min_is_2 : IsMinDecomp inp 2 := ⟨hasDecomp2, no_decomp_below_2⟩

end FP.DecompExample
