import FP.Proofs.EulerClosed
import FP.Proofs.ReachLemmas
/-! Correctness of the Eulerian-walk reconstruction (Hierholzer): the invariant of the splicing loop, its
termination measure, and `reconstruct_euler_main`. -/
namespace FP.Euler
open FP.Spec
variable {V : Type} [DecidableEq V]

/-- Invariant of the `while stack:` loop. `cover` is the field the proof turns on: a walk vertex with an
unused out-edge is on the stack, so once the stack is empty no walk vertex has one, and by connectivity
nothing is left over (`SInv.residual_nil`). -/
structure SInv (g0 : Adj V) (s t : V) (g : Adj V) (walk stack : List V) : Prop where
  keys : (g.map (·.1)).Nodup
  perm : (edges g0).Perm (walkEdges walk ++ edges g)
  balanced : ∀ x, bal (edges g) x = 0
  head : walk.head? = some s
  last : walk.getLast? = some t
  stackMem : ∀ v ∈ stack, v ∈ walk
  cover : ∀ v ∈ walk, out g v ≠ [] → v ∈ stack

theorem SInv.pop {g0 : Adj V} {s t : V} {g : Adj V} {walk stack : List V} {v : V}
    (h : SInv g0 s t g walk stack) (hv : stack.getLast? = some v) (he : out g v = []) :
    SInv g0 s t g walk stack.dropLast := by
  have hs := getLast?_eq_some_split hv
  refine ⟨h.keys, h.perm, h.balanced, h.head, h.last, ?_, ?_⟩
  · intro x hx; exact h.stackMem x (List.dropLast_subset _ hx)
  · intro x hx hne
    have := h.cover x hx hne
    rw [hs] at this
    rcases List.mem_append.1 this with h1 | h1
    · exact h1
    · simp at h1; subst h1; exact absurd he hne

theorem SInv.splice {g0 : Adj V} {s t : V} {g g' : Adj V} {walk stack c : List V} {v : V}
    (h : SInv g0 s t g walk stack) (hv : stack.getLast? = some v)
    (hperm : (edges g).Perm (walkEdges (v :: c ++ [v]) ++ edges g'))
    (hk' : (g'.map (·.1)).Nodup) (hbal' : ∀ x, bal (edges g') x = 0) :
    SInv g0 s t g' (insertAfterFirst walk v (c ++ [v])) (stack.dropLast ++ v :: c) := by
  have hs := getLast?_eq_some_split hv
  have hvw : v ∈ walk := h.stackMem v (by rw [hs]; simp)
  obtain ⟨a, b, hw, hins⟩ := insertAfterFirst_split walk v (c ++ [v]) hvw
  rw [hins]
  have hmem : ∀ x, x ∈ a ++ v :: (c ++ [v] ++ b) ↔ x ∈ walk ∨ x ∈ c := by
    intro x; rw [hw]
    simp only [List.mem_append, List.mem_cons, List.not_mem_nil, false_or, or_assoc, or_comm, or_left_comm,
      or_self_left]
  refine ⟨hk', ?_, hbal', ?_, ?_, ?_, ?_⟩
  · have p1 := walkEdges_splice_perm a b c v
    rw [← hw] at p1
    refine h.perm.trans ?_
    refine List.Perm.trans ?_ (List.Perm.append_right _ p1.symm)
    rw [List.append_assoc]
    exact List.Perm.append_left _ hperm
  · have hh : (a ++ v :: (c ++ [v] ++ b)).head? = (a ++ v :: b).head? := by cases a <;> simp
    rw [hh, ← hw]; exact h.head
  · rw [splice_getLast? a b c v, ← hw]; exact h.last
  · intro x hx
    rw [hmem]
    rcases List.mem_append.1 hx with hx | hx
    · exact Or.inl (h.stackMem x (List.dropLast_subset _ hx))
    · rcases List.mem_cons.1 hx with rfl | hx
      · exact Or.inl hvw
      · exact Or.inr hx
  · intro x hx hox
    rw [hmem] at hx
    rcases hx with hx | hx
    · -- an out-edge in the new residual is an out-edge in the old one
      have hog : out g x ≠ [] := by
        obtain ⟨w, hw'⟩ := List.exists_mem_of_ne_nil _ hox
        have : (x, w) ∈ edges g :=
          hperm.symm.subset (List.mem_append_right _ (mem_edges_of_mem_out _ x w hw'))
        exact List.ne_nil_of_mem (mem_out_of_mem_edges h.keys this)
      have := h.cover x hx hog
      rw [hs] at this
      rcases List.mem_append.1 this with h' | h'
      · exact List.mem_append_left _ h'
      · rw [List.mem_singleton.1 h']
        exact List.mem_append_right _ (List.mem_cons_self ..)
    · exact List.mem_append_right _ (List.mem_cons_of_mem _ hx)

/-- The iteration that splices a closed walk. A closed walk of `k ≥ 1` edges removes `k` edges from the
residual, pops one vertex and pushes `k`, so `2 * edgeCount g + stack.length` goes down (a pop lowers it
as well): this is the measure `splice_spec` runs on. -/
theorem SInv.closed {g0 : Adj V} {s t : V} {g : Adj V} {walk stack : List V} {v : V} {n : Nat}
    (h : SInv g0 s t g walk stack) (hv : stack.getLast? = some v) (hne : out g v ≠ [])
    (hfuel : 2 * edgeCount g + stack.length ≤ n + 1) :
    SInv g0 s t (closed (n+1) g v v [v] stack.dropLast).1
      (insertAfterFirst walk v (closed (n+1) g v v [v] stack.dropLast).2.1.tail)
      (closed (n+1) g v v [v] stack.dropLast).2.2 ∧
    2 * edgeCount (closed (n+1) g v v [v] stack.dropLast).1 +
      (closed (n+1) g v v [v] stack.dropLast).2.2.length ≤ n := by
  have hlen : 0 < stack.length := List.length_pos_of_mem (List.mem_of_getLast? hv)
  have hpos : 0 < edgeCount g := by
    obtain ⟨w, hw⟩ := List.exists_mem_of_ne_nil _ hne
    have := List.length_pos_of_mem (mem_edges_of_mem_out g v w hw)
    rwa [edges_length] at this
  obtain ⟨c, h1, h2, h3, h4, h5, h6⟩ :=
    closed_balanced (n+1) g v stack.dropLast h.keys (by omega) h.balanced hne rfl
  rw [h1, h2, List.cons_append, List.tail_cons]
  refine ⟨SInv.splice h hv h3 h4 h5, ?_⟩
  rw [List.length_append, List.length_dropLast, List.length_cons]
  omega

theorem splice_spec (g0 : Adj V) (s t : V) (n : Nat) (g : Adj V) (walk stack : List V) :
    SInv g0 s t g walk stack → 2 * edgeCount g + stack.length ≤ n →
      SInv g0 s t (splice n g walk stack).1 (splice n g walk stack).2 [] := by
  fun_induction splice n g walk stack with
  | case1 g walk stack =>
    intro h hf
    have : stack = [] := List.eq_nil_of_length_eq_zero (by omega)
    subst this; exact h
  | case2 n g walk stack hnone =>
    intro h _
    have : stack = [] := List.getLast?_eq_none_iff.1 hnone
    subst this; exact h
  | case3 n g walk stack v hv stack' he ih =>
    intro h hf
    have hlen : 0 < stack.length := List.length_pos_of_mem (List.mem_of_getLast? hv)
    exact ih (h.pop hv (by simpa using he)) (by show _ + stack.dropLast.length ≤ n; rw [List.length_dropLast]; omega)
  | case4 n g walk stack v hv stack' he r ih =>
    intro h hf
    have := h.closed (n := n) hv (by simpa using he) hf
    exact ih this.1 this.2

/-- A trail from `s` that is stuck at `cur`, in a graph with the balances of an `s`-`t` trail: it stands at `t`, the residual
is balanced, and with the walk without its last vertex as stack the loop invariant holds. The measure then
is at most `3 * edgeCount g + 2`, the fuel `reconstructFull` passes to `splice`. -/
theorem SInv.of_stuck_trail {g g' : Adj V} {s t cur : V} {walk stack : List V}
    (hst : ∀ x, bal (edges g) x = ind' (s = x) - ind' (t = x))
    (hinv : TrailInv g s g' cur walk) (hstuck : out g' cur = []) (hstack : walk = stack ++ [cur]) :
    SInv g s t g' walk stack ∧ 2 * edgeCount g' + stack.length ≤ 3 * edgeCount g + 2 := by
  -- the trail can only be stuck at `t`
  have hcur : cur = t := by
    have hb := stuck_balance g g' s cur walk hinv hstuck
    rw [hst cur] at hb
    apply Classical.byContradiction
    intro h2
    rw [ind'_neg (p := t = cur) fun h => h2 h.symm] at hb
    omega
  subst hcur
  have hbal : ∀ x, bal (edges g') x = 0 := fun x => by
    have hb := trail_balance g g' s cur walk hinv x
    rw [hst x] at hb
    omega
  refine ⟨⟨hinv.keys, hinv.perm, hbal, hinv.head, hinv.last, ?_, ?_⟩, ?_⟩
  · intro v hv; rw [hstack]; exact List.mem_append_left _ hv
  · intro v hv hne
    rw [hstack] at hv
    rcases List.mem_append.1 hv with h | h
    · exact h
    · rw [List.mem_singleton.1 h] at hne; exact absurd hstuck hne
  · have hl := hinv.perm.length_eq
    rw [List.length_append, edges_length, edges_length, hstack] at hl
    have : (walkEdges (stack ++ [cur])).length = stack.length := by
      simp [walkEdges]
    omega

theorem SInv.residual_nil {g0 : Adj V} {s t : V} {g : Adj V} {walk : List V}
    (h : SInv g0 s t g walk [])
    (conn : ∀ e ∈ edges g0, Reach (edges g0) s e.1) : edges g = [] := by
  have hout : ∀ v ∈ walk, out g v = [] := by
    intro v hv
    by_cases hne : out g v = []
    · exact hne
    · exact absurd (h.cover v hv hne) (by simp)
  have hreach : ∀ z, Reach (edges g0) s z → z ∈ walk := fun z hz =>
    reach_closed (S := (· ∈ walk)) (fun e he hy => by
      rcases List.mem_append.1 (h.perm.subset he) with h1 | h1
      · exact we_snd_mem h1
      · have := mem_out_of_mem_edges h.keys h1
        rw [hout e.1 hy] at this; simp at this) hz (List.mem_of_mem_head? h.head)
  apply List.eq_nil_iff_forall_not_mem.2
  intro e he
  have he0 : e ∈ edges g0 := h.perm.symm.subset (List.mem_append_right _ he)
  have hw := hreach e.1 (conn e he0)
  have := mem_out_of_mem_edges h.keys he
  rw [hout e.1 hw] at this; simp at this

/-- On an adjacency structure with distinct keys, the balances of an `s`-`t` trail and every edge's tail
reachable from `s`, `reconstruct` returns the inner vertices of a walk `s … t` that uses every edge exactly
once, and the fuel of `reconstructFull` suffices (`remaining g s = 0`). -/
theorem reconstruct_euler_main (g : Adj V) (s t : V)
    (keys : (g.map (·.1)).Nodup) (st : s ≠ t)
    (inner : ∀ x, x ≠ s → x ≠ t → bal (edges g) x = 0)
    (src : bal (edges g) s = 1) (snk : bal (edges g) t = -1)
    (conn : ∀ e ∈ edges g, Reach (edges g) s e.1) :
    (walkEdges (s :: reconstruct g s t ++ [t])).Perm (edges g) ∧ remaining g s = 0 := by
  obtain ⟨h1, h2⟩ := SInv.of_stuck_trail ((bal_st_iff st).2 ⟨inner, src, snk⟩)
    (trail_inv g s (edgeCount g + 1) g s [s] [] (TrailInv.init g s keys))
    (trail_stuck (edgeCount g + 1) g s [s] [] keys (by omega))
    (trail_stack (edgeCount g + 1) g s [s] [] rfl)
  -- `reconstructFull g s` is this call of `splice`
  have h3 : SInv g s t (reconstructFull g s).1 (reconstructFull g s).2 [] :=
    splice_spec g s t (3 * edgeCount g + 2) _ _ _ h1 h2
  have hnil := h3.residual_nil conn
  have hperm := h3.perm
  rw [hnil, List.append_nil] at hperm
  obtain ⟨hlen, hstrip⟩ := strip_ends _ s t st h3.head h3.last
  constructor
  · have : reconstruct g s t = ((reconstructFull g s).2.drop 1).dropLast := by
      simp only [reconstruct]
      rw [if_pos ⟨hlen, h3.head, h3.last⟩]
    rw [this, hstrip]
    exact hperm.symm
  · have := edges_length (reconstructFull g s).1
    rw [hnil] at this
    simp only [remaining]; simpa using this.symm

theorem reconstruct_nil (g : Adj V) (s t : V) (h : edges g = []) : reconstruct g s t = [] := by
  have hout : out g s = [] := by
    apply List.eq_nil_iff_forall_not_mem.2
    intro w hw
    have := mem_edges_of_mem_out g s w hw
    rw [h] at this; simp at this
  have hfull : reconstructFull g s = (g, [s]) := by
    simp [reconstructFull, trail, hout, splice]
  simp [reconstruct, hfull]
end FP.Euler
