import FP.Proofs.WalkCore
import FP.Proofs.SatCheck
/-!
The hypotheses of the walk theorems of C01 are satisfiable. A user graph with a self-loop, `s → a → t` and `a → a`;
its augmentation; a satisfying assignment of `encodeWalks` (one layer) that runs through the loop twice; and the decoder's answer on it.
-/
namespace FP.WalkCoreExample
open FP FP.Spec

def base : Graph := { nodes := ["s", "a", "t"], edges := [("s", "a"), ("a", "a"), ("a", "t")] }

theorem base_wf : BaseWF base := by decide +kernel

def st : STGraph := augment base [] []

theorem st_nodes : st.g.nodes = ["s", "a", "t", "source", "sink"] := by decide +kernel
theorem st_edges : st.g.edges =
    [("s", "a"), ("a", "a"), ("a", "t"), ("t", "sink"), ("source", "s")] := by decide +kernel

theorem st_wf : STWFc st := augment_wfc base [] [] base_wf

def cfg : WalkCfg := { k := 1 }

/-- the self-loop may be used twice, every other edge once -/
def ub : Edge → Rat := fun e => if e = ("a", "a") then 2 else 1

/-- layer 0: `source, s, a, a, a, t, sink`; the selected in-edges form the spanning path
`source, s, a, t, sink` (the loop is not selected), distances count along it -/
def asg : Asg := fun v =>
  if v = edgeVar ("a", "a") 0 then 2
  else if v ∈ [edgeVar ("source", "s") 0, edgeVar ("s", "a") 0, edgeVar ("a", "t") 0,
      edgeVar ("t", "sink") 0, selVar ("source", "s") 0, selVar ("s", "a") 0, selVar ("a", "t") 0,
      selVar ("t", "sink") 0, distVar "source" 0] then 1
  else if v = distVar "s" 0 then 2
  else if v = distVar "a" 0 then 3
  else if v = distVar "t" 0 then 4
  else if v = distVar "sink" 0 then 5
  else 0

theorem sat_example : Sat asg (encodeWalks st cfg ub) :=
  satCheck_sound _ _ (by decide +kernel)

/-- 15 columns (5 edge, 5 distance, 5 selected) and 23 rows (1 + 3 + 5 + 8 + 1 + 5) were checked -/
example : (encodeWalks st cfg ub).cols.length = 15 ∧ (encodeWalks st cfg ub).rows.length = 23 := by
  decide +kernel

theorem decode_example : decodeWalkLayer st asg 0 = ["s", "a", "a", "a", "t"] := by decide +kernel

/-- the layer leaves the source, so the exactness clause of `walkcore_sound` applies -/
theorem leaves_source : ∃ v ∈ st.g.succ st.source, multOf asg 0 (st.source, v) ≠ 0 :=
  ⟨"s", by decide, by decide +kernel⟩

example := walkcore_sound st cfg ub asg st_wf sat_example 0 (by decide)

/-- the traversal counts of the decoded walk are exactly the multiplicities: the loop is used twice -/
example : traversals ("source" :: decodeWalkLayer st asg 0 ++ ["sink"]) ("a", "a") = 2 := by
  have := (walkcore_sound st cfg ub asg st_wf sat_example 0 (by decide)).2.2 leaves_source ("a", "a")
  exact this.trans (by decide +kernel)

example : ValidRoute base [] [] ["s", "a", "a", "a", "t"] := by
  have := (walk_routes_valid base [] [] cfg ub asg base_wf sat_example 0 (by decide)).2
  rw [show decodeWalkLayer (augment base [] []) asg 0 = ["s", "a", "a", "a", "t"] from decode_example]
    at this
  exact this (by decide)

end FP.WalkCoreExample
